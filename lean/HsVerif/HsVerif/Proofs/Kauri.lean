import HsVerif.Model.Kauri
import HsVerif.Proofs.CertComplete
/-! Helper lemmas for C09 (Kauri tree aggregation): `Combine` of two verifying signatures with
disjoint signers verifies (all three schemes); the invariant of the aggregation node, its steps
and runs; the explicit trace of a node fed with valid, pairwise disjoint contributions
(`contribs_run`, `node_run`), completeness for a covered sub-tree included. -/
namespace HsVerif.Model
open Bitfield

def Disj (a b : List Nat) : Prop := ∀ i ∈ a, i ∉ b

theorem nodup_append_of_disj {l₁ l₂ : List Nat} (h1 : l₁.Nodup) (h2 : l₂.Nodup) (hd : Disj l₁ l₂) : (l₁ ++ l₂).Nodup := by
  rw [List.nodup_append]
  exact ⟨h1, h2, fun a ha b hb e => hd a ha (e ▸ hb)⟩

theorem combine_two_verifies (T : Truth) (c : Cfg) (m : Msg) (a b : Sig)
    (ha : verify T c a m = true) (hb : verify T c b m = true) (hwa : a.WF) (hwb : b.WF)
    (hd : Disj a.participants b.participants) :
    ∃ s, combine c [a, b] = .ok s ∧ verify T c s m = true ∧ s.WF ∧
      s.participants.Perm (a.participants ++ b.participants) ∧ s.len = a.len + b.len := by
  cases a with
  | multi ka ea =>
    obtain ⟨rfl, hnb, hnea, hda, halla⟩ := (verify_multi T c ka ea m).mp ha
    cases b with
    | bls ab jb bb => exact absurd ((verify_bls T c ab jb bb m hwb).mp hb).1 hnb
    | multi kb eb =>
      obtain ⟨rfl, _, _, hdb, hallb⟩ := (verify_multi T c kb eb m).mp hb
      have hn : ((ea ++ eb).map (·.claimed)).Nodup := by
        rw [List.map_append]; exact nodup_append_of_disj hda hdb hd
      refine ⟨.multi c.scheme (ea ++ eb), ?_, ?_, trivial, by simp [Sig.participants], by simp [Sig.len]⟩
      · simpa using combine_multi c hnb [ea, eb] id (by simp) (by simpa using hn)
      · exact (verify_multi T c _ _ m).mpr ⟨rfl, hnb, by simp [hnea], hn,
          fun e he => (List.mem_append.mp he).elim (halla e) (hallb e)⟩
  | bls aa ja ba =>
    obtain ⟨hs, hnea, hhasa, rfl, hpa⟩ := (verify_bls T c aa ja ba m hwa).mp ha
    cases b with
    | multi kb eb =>
      obtain ⟨rfl, hnb, _⟩ := (verify_multi T c kb eb m).mp hb
      exact absurd hs hnb
    | bls ab jb bb =>
      obtain ⟨_, _, hhasb, rfl, hpb⟩ := (verify_bls T c ab jb bb m hwb).mp hb
      have hn : (ba.ids ++ bb.ids).Nodup := nodup_append_of_disj (ids_nodup _) (ids_nodup _) hd
      obtain ⟨r, hc, hinv, hperm⟩ := combine_bls c hs [(aa, ba), (ab, bb)] (·.1) (fun _ => []) (·.2) (by simp)
        (by simpa using hn)
      have hperm : r.ids.Perm (ba.ids ++ bb.ids) := by simpa using hperm
      refine ⟨.bls (aa ++ ab) [] r, by simpa using hc, ?_, hinv, hperm, ?_⟩
      · refine (verify_bls T c _ _ r m hinv).mpr ⟨hs, fun e => ?_, fun x hx => ?_, rfl, ?_⟩
        · rw [e] at hperm; exact hnea (List.append_eq_nil_iff.mp hperm.symm.eq_nil).1
        · exact (List.mem_append.mp (hperm.mem_iff.mp hx)).elim (hhasa x) (hhasb x)
        · have := (hperm.map fun i => (⟨i, m⟩ : Atom)).symm
          rw [List.map_append] at this
          exact (hpa.append hpb).trans this
      · show r.len = ba.len + bb.len
        rw [hinv, hperm.length_eq, List.length_append, ← show ba.len = _ from hwa, ← show bb.len = _ from hwb]

def SigOK (T : Truth) (c : KCfg) (h : Hash) (sg : Sig) : Prop :=
  verify T c.cfg sg (blkMsg h) = true ∧ sg.WF

def KInv (T : Truth) (c : KCfg) (s : KState) : Prop :=
  ∀ sg, s.aggContrib = some sg → SigOK T c s.blockHash sg

def OwnOK (T : Truth) (c : KCfg) : KOp → Prop
  | .begin _ h sg => SigOK T c h sg
  | _ => True

theorem fromWire_WF (s : Sig) : s.fromWire.WF := by
  cases s with
  | multi _ _ => trivial
  | bls _ _ b => exact inv_fromBytes b.data

theorem fromWire_of_WF (s : Sig) (h : s.WF) : s.fromWire = s := by
  cases s with
  | multi _ _ => rfl
  | bls a j bits =>
    cases bits with
    | mk d l =>
      simp only [Sig.WF, Bitfield.ids] at h
      simp only [Sig.fromWire, Bitfield.fromBytes]
      rw [h]

theorem fromWire_participants (s : Sig) : s.fromWire.participants = s.participants := by
  cases s <;> rfl

theorem containsId_iff (sg : Sig) (i : Nat) (hi : 1 ≤ i) : sg.containsId i = true ↔ i ∈ sg.participants := by
  cases sg with
  | multi _ es => simp [Sig.containsId, Sig.participants]
  | bls _ _ b => simp [Sig.containsId, Sig.participants, contains_eq b i hi]

theorem canMerge_iff (a b : Sig) (h1 : ∀ i ∈ a.participants, 1 ≤ i) :
    canMerge a b = true ↔ Disj a.participants b.participants := by
  unfold canMerge Disj
  simp only [List.all_eq_true, Bool.not_eq_true', Bool.eq_false_iff]
  constructor
  · intro h i hi hm; exact h i hi ((containsId_iff b i (h1 i hi)).mpr hm)
  · intro h i hi hm; exact h i hi ((containsId_iff b i (h1 i hi)).mp hm)

theorem sigOK_ge_one (T : Truth) (c : KCfg) (h : Hash) (sg : Sig) (hs : SigOK T c h sg) :
    ∀ i ∈ sg.participants, 1 ≤ i := by
  intro i hi
  exact Cfg.one_le_of_has ((verify_sound T c.cfg sg _ hs.1 hs.2).2.2.2 i hi).1

theorem sigOK_nodup (T : Truth) (c : KCfg) (h : Hash) (sg : Sig) (hs : SigOK T c h sg) :
    sg.participants.Nodup ∧ sg.participants.length = sg.len :=
  ⟨(verify_sound T c.cfg sg _ hs.1 hs.2).1, (verify_sound T c.cfg sg _ hs.1 hs.2).2.1⟩

theorem merge_spec (T : Truth) (c : KCfg) (s s' : KState) (known : Bool) (cur : Sig) (fx : List KEffect)
    (hinv : KInv T c s) (hw : cur.WF)
    (hm : mergeContribution T c s known (some cur) = some (s', fx)) :
    ∃ a, s' = { s with aggContrib := some a } ∧ SigOK T c s.blockHash a ∧
      ∀ e ∈ fx, e = .newViewQC a s.currentView s.blockHash ∧ c.cfg.quorum ≤ a.len := by
  -- the merged aggregate `a`, up to the quorum test
  have key : ∃ a, SigOK T c s.blockHash a ∧
      (if c.cfg.quorum ≤ a.len then some ({ s with aggContrib := some a }, [KEffect.newViewQC a s.currentView s.blockHash])
        else some ({ s with aggContrib := some a }, [])) = some (s', fx) := by
    unfold mergeContribution at hm
    cases hk : known with
    | false => simp [hk] at hm
    | true =>
      cases hv : verify T c.cfg cur (blkMsg s.blockHash) with
      | false => simp [hk, hv] at hm
      | true =>
        cases hagg : s.aggContrib with
        | none =>
          simp only [hk, hv, hagg, Bool.not_true, Bool.false_eq_true, ↓reduceIte] at hm
          exact ⟨cur, ⟨hv, hw⟩, hm⟩
        | some agg =>
          have hok := hinv agg hagg
          cases hcm : canMerge cur agg with
          | false => simp [hk, hv, hagg, hcm] at hm
          | true =>
            have hd := (canMerge_iff cur agg (sigOK_ge_one T c _ cur ⟨hv, hw⟩)).mp hcm
            obtain ⟨sg, hc, hvs, hws, _⟩ := combine_two_verifies T c.cfg _ cur agg hv hok.1 hw hok.2 hd
            simp only [hk, hv, hagg, hcm, hc, Bool.not_true, Bool.false_eq_true, ↓reduceIte] at hm
            exact ⟨sg, ⟨hvs, hws⟩, hm⟩
  obtain ⟨a, hok, h⟩ := key
  split at h <;> simp only [Option.some.injEq, Prod.mk.injEq] at h
  · rename_i hq
    exact ⟨a, h.1.symm, hok, fun e he => ⟨List.mem_singleton.mp (h.2 ▸ he), hq⟩⟩
  · exact ⟨a, h.1.symm, hok, fun e he => by simp [← h.2] at he⟩

/-- what every emitted effect satisfies, relative to the state after the step -/
def EffOK (T : Truth) (c : KCfg) (s' : KState) : KEffect → Prop
  | .sendProposalToChildren => True
  | .sendToParent v sg => v = s'.currentView ∧ ∃ a, sg = some a ∧ SigOK T c s'.blockHash a
  | .newViewQC a v h => v = s'.currentView ∧ h = s'.blockHash ∧ SigOK T c h a ∧ c.cfg.quorum ≤ a.len

theorem merge_none (T : Truth) (c : KCfg) (s : KState) (known : Bool) :
    mergeContribution T c s known none = none := by
  unfold mergeContribution; cases known <;> simp

theorem kinv_some {T : Truth} {c : KCfg} {s : KState} {sg : Sig} (h : s.aggContrib = some sg)
    (hok : SigOK T c s.blockHash sg) : KInv T c s :=
  fun _ ha => Option.some.inj (h.symm.trans ha) ▸ hok

theorem step_ok (T : Truth) (c : KCfg) (s : KState) (op : KOp) (hinv : KInv T c s) (hop : OwnOK T c op) :
    KInv T c (kStep T c s op).1 ∧ ∀ e ∈ (kStep T c s op).2, EffOK T c (kStep T c s op).1 e := by
  cases op with
  | begin v h sg =>
    simp only [kStep, kBegin]
    split
    · exact ⟨kinv_some rfl hop, fun e he => by rw [List.mem_singleton.mp he]; trivial⟩
    · exact ⟨kinv_some rfl hop, fun e he => by rw [List.mem_singleton.mp he]; exact ⟨rfl, sg, rfl, hop⟩⟩
  | contribution v id sg known =>
    simp only [kStep, onContribution]
    split
    · exact ⟨hinv, by simp⟩
    · split
      · exact ⟨hinv, by simp⟩
      · rename_i s1 fx hm
        cases sg with
        | none => simp [merge_none] at hm
        | some g =>
          obtain ⟨a, rfl, hok, hfx⟩ := merge_spec T c s s1 known g.fromWire fx hinv (fromWire_WF g) hm
          -- the certificate, if any, is for the view and block of the state, which the step keeps
          split
          · refine ⟨kinv_some rfl hok, fun e he => ?_⟩
            rcases List.mem_append.mp he with h | h
            · rw [(hfx e h).1]; exact ⟨rfl, rfl, hok, (hfx e h).2⟩
            · rw [List.mem_singleton.mp h]
              exact ⟨rfl, a, rfl, hok⟩
          · exact ⟨kinv_some rfl hok, fun e h => by rw [(hfx e h).1]; exact ⟨rfl, rfl, hok, (hfx e h).2⟩⟩
  | timerExpired v =>
    simp only [kStep, onTimer]
    split
    · exact ⟨hinv, by simp⟩
    · split
      · rename_i hc
        simp only [Bool.and_eq_true, Bool.not_eq_true'] at hc
        refine ⟨fun x hx => by simp [KState.reset] at hx, fun e he => ?_⟩
        rw [List.mem_singleton.mp he]
        cases ha : s.aggContrib with
        | none => simp [ha] at hc
        | some a => exact ⟨rfl, a, rfl, hinv a ha⟩
      · exact ⟨hinv, by simp⟩

theorem kRun_cons (T : Truth) (c : KCfg) (s : KState) (op : KOp) (ops : List KOp) :
    kRun T c s (op :: ops) =
      ((kRun T c (kStep T c s op).1 ops).1, (kStep T c s op).2 ++ (kRun T c (kStep T c s op).1 ops).2) := rfl

theorem run_inv (T : Truth) (c : KCfg) : ∀ (ops : List KOp) (s : KState), KInv T c s →
    (∀ op ∈ ops, OwnOK T c op) → KInv T c (kRun T c s ops).1 := by
  intro ops
  induction ops with
  | nil => intro s h _; exact h
  | cons op ops ih =>
    intro s h hall
    rw [kRun_cons]
    exact ih _ (step_ok T c s op h (hall op (by simp))).1 (fun o ho => hall o (by simp [ho]))

theorem kinv_init (T : Truth) (c : KCfg) : KInv T c {} := by
  intro sg h; simp at h

def KEffect.isSend : KEffect → Bool
  | .sendToParent _ _ => true
  | _ => false

def KEffect.isQC : KEffect → Bool
  | .newViewQC _ _ _ => true
  | _ => false

/-- a contribution with a signature, arriving while the block is in the store -/
def contribOp (v : Nat) (p : Nat × Sig) : KOp := .contribution v p.1 (some p.2) true

theorem isSubSet_iff (a b : List Nat) : isSubSet a b = true ↔ ∀ x ∈ a, x ∈ b := by
  simp [isSubSet]

theorem isSubSet_eq_false (a b : List Nat) : isSubSet a b = false ↔ ∃ x ∈ a, x ∉ b := by
  simp [isSubSet]

theorem kRun_nil (T : Truth) (c : KCfg) (s : KState) : kRun T c s [] = (s, []) := rfl

theorem kRun_append (T : Truth) (c : KCfg) : ∀ (a b : List KOp) (s : KState),
    kRun T c s (a ++ b) = ((kRun T c (kRun T c s a).1 b).1, (kRun T c s a).2 ++ (kRun T c (kRun T c s a).1 b).2) := by
  intro a
  induction a with
  | nil => intro b s; simp [kRun_nil]
  | cons op a ih => intro b s; simp only [List.cons_append, kRun_cons, ih, List.append_assoc]

/-! ### one node fed with valid, pairwise disjoint contributions: the explicit trace -/

def mergeSig (cfg : Cfg) (cur agg : Sig) : Sig :=
  match combine cfg [cur, agg] with
  | .ok s => s
  | _ => agg

def aggAfter (cfg : Cfg) (agg : Sig) (cs : List (Nat × Sig)) : Sig :=
  cs.foldl (fun a p => mergeSig cfg p.2.fromWire a) agg

theorem aggAfter_cons (cfg : Cfg) (agg : Sig) (p : Nat × Sig) (cs : List (Nat × Sig)) :
    aggAfter cfg agg (p :: cs) = aggAfter cfg (mergeSig cfg p.2.fromWire agg) cs := rfl

/-- a verifying contribution disjoint from the held aggregate is merged; a certificate goes out iff
the new aggregate has a quorum, the aggregate goes up iff the senders now cover the sub-tree -/
theorem contrib_step_eq (T : Truth) (c : KCfg) (s : KState) (p : Nat × Sig) (agg : Sig)
    (hagg : s.aggContrib = some agg) (hokagg : SigOK T c s.blockHash agg)
    (hv : verify T c.cfg p.2.fromWire (blkMsg s.blockHash) = true) (hd : Disj p.2.participants agg.participants) :
    SigOK T c s.blockHash (mergeSig c.cfg p.2.fromWire agg) ∧
    (mergeSig c.cfg p.2.fromWire agg).participants.Perm (p.2.participants ++ agg.participants) ∧
    (kStep T c s (contribOp s.currentView p)).1 =
      { s with aggContrib := some (mergeSig c.cfg p.2.fromWire agg), senders := s.senders ++ [p.1],
               aggSent := (if isSubSet c.subtree (s.senders ++ [p.1]) then true else s.aggSent) } ∧
    (kStep T c s (contribOp s.currentView p)).2.filter KEffect.isQC =
      (if c.cfg.quorum ≤ (mergeSig c.cfg p.2.fromWire agg).len
        then [.newViewQC (mergeSig c.cfg p.2.fromWire agg) s.currentView s.blockHash] else []) ∧
    (kStep T c s (contribOp s.currentView p)).2.filter KEffect.isSend =
      (if isSubSet c.subtree (s.senders ++ [p.1])
        then [.sendToParent s.currentView (some (mergeSig c.cfg p.2.fromWire agg))] else []) := by
  have hok : SigOK T c s.blockHash p.2.fromWire := ⟨hv, fromWire_WF p.2⟩
  have hcm : canMerge p.2.fromWire agg = true := by
    rw [canMerge_iff _ _ (sigOK_ge_one T c _ _ hok), fromWire_participants]; exact hd
  obtain ⟨comb, hc, hvs, hws, hps, _⟩ := combine_two_verifies T c.cfg _ p.2.fromWire agg hv hokagg.1
    (fromWire_WF p.2) hokagg.2 (by rw [fromWire_participants]; exact hd)
  rw [fromWire_participants] at hps
  have hms : mergeSig c.cfg p.2.fromWire agg = comb := by simp [mergeSig, hc]
  rw [hms]
  refine ⟨⟨hvs, hws⟩, hps, ?_⟩
  simp only [contribOp, kStep, onContribution, bne_self_eq_false, Bool.false_eq_true, ↓reduceIte, Option.map_some,
    mergeContribution, Bool.not_true, hv, hagg, hcm, hc]
  by_cases hq : c.cfg.quorum ≤ comb.len <;> by_cases hs : isSubSet c.subtree (s.senders ++ [p.1]) = true <;>
    simp [hq, hs, List.filter_cons, KEffect.isQC, KEffect.isSend]

/-- the certificates a node emits while merging the contributions `cs` into `agg` -/
def qcTrace (cfg : Cfg) (v : Nat) (h : Hash) : Sig → List (Nat × Sig) → List KEffect
  | _, [] => []
  | agg, p :: rest =>
    (if cfg.quorum ≤ (mergeSig cfg p.2.fromWire agg).len then [.newViewQC (mergeSig cfg p.2.fromWire agg) v h] else []) ++
      qcTrace cfg v h (mergeSig cfg p.2.fromWire agg) rest

/-- The result `r` of feeding the contributions `rest` one after the other to a node in state `s` that holds `agg`:
all are merged, the certificates are those of `qcTrace`; `waits`: nothing goes to the parent while a sub-tree replica
is missing among the senders; `sent`: when the last contribution completes the sub-tree the aggregate of all of them
goes up, once. -/
structure ContribsRun (T : Truth) (c : KCfg) (v : Nat) (h : Hash) (s : KState) (agg : Sig) (rest : List (Nat × Sig))
    (r : KState × List KEffect) : Prop where
  view : r.1.currentView = v
  hash : r.1.blockHash = h
  held : r.1.aggContrib = some (aggAfter c.cfg agg rest)
  senders : r.1.senders = s.senders ++ rest.map (·.1)
  ok : SigOK T c h (aggAfter c.cfg agg rest)
  perm : (aggAfter c.cfg agg rest).participants.Perm (agg.participants ++ rest.flatMap (·.2.participants))
  qcs : r.2.filter KEffect.isQC = qcTrace c.cfg v h agg rest
  waits : (∃ g ∈ c.subtree, g ∉ s.senders ++ rest.map (·.1)) →
    r.1.aggSent = s.aggSent ∧ r.2.filter KEffect.isSend = []
  sent : rest ≠ [] → (s.senders ++ rest.map (·.1)).Nodup → (∀ x, x ∈ c.subtree ↔ x ∈ s.senders ++ rest.map (·.1)) →
    r.1.aggSent = true ∧ r.2.filter KEffect.isSend = [.sendToParent v (some (aggAfter c.cfg agg rest))]

theorem contribs_run (T : Truth) (c : KCfg) (v : Nat) (h : Hash) :
    ∀ (rest : List (Nat × Sig)) (s : KState) (agg : Sig),
      s.currentView = v → s.blockHash = h → s.aggContrib = some agg → SigOK T c h agg →
      (∀ p ∈ rest, verify T c.cfg p.2.fromWire (blkMsg h) = true) →
      (agg.participants :: rest.map (·.2.participants)).Pairwise Disj →
      ContribsRun T c v h s agg rest (kRun T c s (rest.map (contribOp v))) := by
  intro rest
  induction rest with
  | nil =>
    intro s agg hview hhash hagg hok _ _
    exact ⟨hview, hhash, hagg, by simp [kRun_nil], hok, by simp [aggAfter], rfl, fun _ => ⟨rfl, rfl⟩,
      fun hne => absurd rfl hne⟩
  | cons p rest ih =>
    intro s agg hview hhash hagg hok hvalid hpw
    subst hview hhash
    rw [List.map_cons, List.pairwise_cons, List.pairwise_cons] at hpw
    obtain ⟨hagg_d, hp_d, hrest_pw⟩ := hpw
    obtain ⟨hcok, hcperm, hst, hqc, hsend⟩ := contrib_step_eq T c s p agg hagg hok (hvalid p (by simp))
      (fun i hi ha => hagg_d _ (by simp) i ha hi)
    have hpw' : ((mergeSig c.cfg p.2.fromWire agg).participants :: rest.map (·.2.participants)).Pairwise Disj := by
      rw [List.pairwise_cons]
      refine ⟨fun b hb i hi => ?_, hrest_pw⟩
      rcases List.mem_append.mp (hcperm.mem_iff.mp hi) with h1 | h1
      · exact hp_d b hb i h1
      · exact hagg_d b (List.mem_cons_of_mem _ hb) i h1
    have I := ih
      { s with aggContrib := some (mergeSig c.cfg p.2.fromWire agg), senders := s.senders ++ [p.1],
               aggSent := (if isSubSet c.subtree (s.senders ++ [p.1]) then true else s.aggSent) }
      (mergeSig c.cfg p.2.fromWire agg) rfl rfl rfl hcok (fun q hq => hvalid q (by simp [hq])) hpw'
    have hids : s.senders ++ [p.1] ++ rest.map (·.1) = s.senders ++ p.1 :: rest.map (·.1) := by simp
    have h4 := I.senders
    have h8 := I.waits
    have h9 := I.sent
    rw [hids] at h4 h8 h9
    rw [List.map_cons, kRun_cons, hst]
    refine ⟨I.view, I.hash, I.held, h4, I.ok, ?_, by rw [List.filter_append, hqc, I.qcs]; rfl, ?_, ?_⟩
    · refine I.perm.trans ((hcperm.append_right _).trans ?_)
      rw [List.flatMap_cons, ← List.append_assoc]
      exact List.perm_append_comm.append_right _
    · rintro ⟨g, hg, hgs⟩
      have hcov : isSubSet c.subtree (s.senders ++ [p.1]) = false :=
        (isSubSet_eq_false _ _).mpr ⟨g, hg, fun hm => hgs (by simp at hm ⊢; rcases hm with hm | hm <;> simp [hm])⟩
      obtain ⟨h10, h11⟩ := h8 ⟨g, hg, hgs⟩
      rw [List.filter_append, hsend, h10, h11]
      simp [hcov]
    · intro _ hnd hsub
      rw [List.map_cons] at hnd
      simp only [List.map_cons] at hsub
      rw [List.filter_append, hsend]
      cases rest with
      | nil =>
        have hcov : isSubSet c.subtree (s.senders ++ [p.1]) = true :=
          (isSubSet_iff _ _).mpr fun x hx => by simpa using (hsub x).mp hx
        simp [hcov, kRun_nil, aggAfter]
      | cons q rest' =>
        have hcov : isSubSet c.subtree (s.senders ++ [p.1]) = false := by
          refine (isSubSet_eq_false _ _).mpr ⟨q.1, (hsub _).mpr (by simp), fun hm => ?_⟩
          rw [← hids, List.nodup_append] at hnd
          exact hnd.2.2 _ hm _ (by simp) rfl
        obtain ⟨h10, h11⟩ := h9 (by simp) hnd hsub
        rw [h10, h11]
        simp [hcov, aggAfter_cons]

def nodeOps (v : Nat) (h : Hash) (own : Sig) (cs : List (Nat × Sig)) : List KOp :=
  .begin v h own :: cs.map (contribOp v)

theorem nodeOps_run_inner (T : Truth) (c : KCfg) (s0 : KState) (v : Nat) (h : Hash) (own : Sig)
    (cs : List (Nat × Sig)) (hch : c.children ≠ []) :
    kRun T c s0 (nodeOps v h own cs) =
      ((kRun T c { s0.reset with blockHash := h, currentView := v, aggContrib := some own } (cs.map (contribOp v))).1,
       .sendProposalToChildren ::
        (kRun T c { s0.reset with blockHash := h, currentView := v, aggContrib := some own } (cs.map (contribOp v))).2) := by
  have hne : (!c.children.isEmpty) = true := by
    cases hc : c.children with
    | nil => exact absurd hc hch
    | cons _ _ => rfl
  simp only [nodeOps, kRun_cons, kStep, kBegin, hne, ↓reduceIte, List.singleton_append]

/-- **One node of the tree, fed by its children**: the result `r` of `nodeOps v h own cs`.  It holds the aggregate
of the own vote and all contributions and the certificates it emitted are those of `qcTrace`.  `waits`: a node with a
sub-tree replica that is not among the senders (a grandchild, or a silent child) has sent nothing to its parent;
`sent`: one whose sub-tree is among the senders has sent exactly the complete aggregate (a leaf at `begin`, an inner
node at the last contribution). -/
structure NodeRun (T : Truth) (c : KCfg) (v : Nat) (h : Hash) (own : Sig) (cs : List (Nat × Sig))
    (r : KState × List KEffect) : Prop where
  view : r.1.currentView = v
  held : r.1.aggContrib = some (aggAfter c.cfg own cs)
  ok : SigOK T c h (aggAfter c.cfg own cs)
  perm : (aggAfter c.cfg own cs).participants.Perm (own.participants ++ cs.flatMap (·.2.participants))
  qcs : r.2.filter KEffect.isQC = qcTrace c.cfg v h own cs
  waits : (∃ g ∈ c.subtree, g ∉ cs.map (·.1)) → r.1.aggSent = false ∧ r.2.filter KEffect.isSend = []
  sent : (∀ g ∈ c.subtree, g ∈ cs.map (·.1)) →
    r.1.aggSent = true ∧ r.2.filter KEffect.isSend = [.sendToParent v (some (aggAfter c.cfg own cs))]

/-- The node begins the view with a verifying own vote (from any state) and receives contributions from distinct
children (all of them, or only some: the others stay silent), in any order, each verifying, pairwise disjoint and
disjoint from the own vote. -/
theorem node_run (T : Truth) (c : KCfg) (s0 : KState) (v : Nat) (h : Hash) (own : Sig) (cs : List (Nat × Sig))
    (hown : SigOK T c h own) (hidnd : (cs.map (·.1)).Nodup) (hidsub : ∀ x ∈ cs.map (·.1), x ∈ c.children)
    (hsub : ∀ x ∈ c.children, x ∈ c.subtree) (hleafsub : c.children = [] → c.subtree = [])
    (hvalid : ∀ p ∈ cs, verify T c.cfg p.2.fromWire (blkMsg h) = true)
    (hdisj : (own.participants :: cs.map (·.2.participants)).Pairwise Disj) :
    NodeRun T c v h own cs (kRun T c s0 (nodeOps v h own cs)) := by
  by_cases hleaf : c.children = []
  · -- a leaf hears nobody: the own vote goes up at `begin`
    have hcs : cs = [] := by
      cases cs with
      | nil => rfl
      | cons p _ => have := hidsub p.1 (by simp); rw [hleaf] at this; simp at this
    subst hcs
    have hrun : kRun T c s0 (nodeOps v h own []) =
        ({ s0.reset with blockHash := h, currentView := v, aggContrib := some own, aggSent := true },
          [.sendToParent v (some own)]) := by
      simp [nodeOps, kRun_cons, kRun_nil, kStep, kBegin, hleaf]
    rw [hrun]
    exact ⟨rfl, rfl, hown, by simp [aggAfter], rfl, fun ⟨g, hg, _⟩ => by simp [hleafsub hleaf] at hg, fun _ => ⟨rfl, rfl⟩⟩
  · have I := contribs_run T c v h cs
      { s0.reset with blockHash := h, currentView := v, aggContrib := some own } own rfl rfl rfl hown hvalid hdisj
    rw [nodeOps_run_inner T c s0 v h own cs hleaf]
    refine ⟨I.view, I.held, I.ok, I.perm, by rw [List.filter_cons]; exact I.qcs, fun hg => ?_, fun hcov => ?_⟩
    · obtain ⟨h10, h11⟩ := I.waits hg
      exact ⟨h10, by rw [List.filter_cons]; exact h11⟩
    · have hne : cs ≠ [] := by
        intro e; subst e
        cases hc : c.children with
        | nil => exact hleaf hc
        | cons x _ => have := hcov x (hsub x (by simp [hc])); simp at this
      obtain ⟨h10, h11⟩ := I.sent hne hidnd (fun x => ⟨hcov x, fun hx => hsub x (hidsub x hx)⟩)
      exact ⟨h10, by rw [List.filter_cons]; exact h11⟩

/-- the wait timer of the view sends what is held unless it has gone up already: either way exactly
one aggregate has then been sent -/
theorem timer_sends (T : Truth) (c : KCfg) (s : KState) (fx : List KEffect) (v : Nat) (a : Sig)
    (hview : s.currentView = v) (hagg : s.aggContrib = some a)
    (h : (s.aggSent = false ∧ fx.filter KEffect.isSend = []) ∨
      (s.aggSent = true ∧ fx.filter KEffect.isSend = [.sendToParent v (some a)])) :
    (fx ++ (kStep T c s (.timerExpired v)).2).filter KEffect.isSend = [.sendToParent v (some a)] := by
  rw [List.filter_append]
  rcases h with ⟨hs, hfx⟩ | ⟨hs, hfx⟩ <;> simp [hfx, kStep, onTimer, hview, hagg, hs, KEffect.isSend]

end HsVerif.Model
