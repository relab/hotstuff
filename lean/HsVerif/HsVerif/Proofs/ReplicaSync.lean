import HsVerif.Proofs.ReplicaRoute
/-!
ONE REPLICA of the chain from a synchronised view to a new commit (C05): what it means for a replica to be synchronised at view
`w` on block `B` (`SyncR`; for the proposer `SyncL`, for a collector of votes `SyncC`, for a replica that may lead later `SyncM`),
and what one `step` does to such a replica, for ANY state that satisfies the predicates (chained or simplified HotStuff, plain
timeout rule, ECDSA / EdDSA).  Nothing here mentions `SysState`; the rounds of the system are in Proofs/SysChain.lean.
`TcStep` is what `tryCommit` does when the next block of the chain is stored (store, lock, committed block, queued events), proved
once of the committer over a local store (`tcL_core`); the step lemmas read its fields.  Every step is stated for any leader `L2` of the view
after next: the replica hands its vote to `L2` — its own voting machine if that is itself, a message otherwise — and storing the
block and running the committer re-establishes `SyncR` one view later; a fixed leader is the case `L2 = L`.
-/
namespace HsVerif.Model

/-- the walk of `commitInner` over stored parents: from `b` down to a block whose view is not above `cv` -/
def cmWalk : Nat → List (Hash × Block) → Nat → Block → Bool
  | 0, _, _, _ => false
  | f + 1, st, cv, b =>
    if cv ≥ b.view then true
    else match st.lookup b.parent with
      | none => false
      | some p => cmWalk f st cv p

theorem cmWalk_mono : ∀ (f f' : Nat) (st st' : List (Hash × Block)) (cv cv' : Nat) (b : Block),
    f ≤ f' → StoreLe st st' → cv ≤ cv' → cmWalk f st cv b = true → cmWalk f' st' cv' b = true := by
  intro f
  induction f with
  | zero => intro f' st st' cv cv' b _ _ _ h; simp [cmWalk] at h
  | succ n ih =>
    intro f' st st' cv cv' b hf hs hc h
    cases f' with
    | zero => omega
    | succ m =>
      unfold cmWalk at h ⊢
      by_cases h1 : cv' ≥ b.view
      · rw [if_pos h1]
      · rw [if_neg h1]
        have h2 : ¬ cv ≥ b.view := by omega
        rw [if_neg h2] at h
        cases hl : st.lookup b.parent with
        | none => rw [hl] at h; cases h
        | some p =>
          rw [hl] at h
          rw [hs _ _ hl]
          exact ih m st st' cv cv' p (by omega) hs hc h

theorem commitInnerL_res : ∀ (f : Nat) (st : List (Hash × Block)) (cm b : Block),
    ((commitInnerL f st cm b).1 = false → (commitInnerL f st cm b).2.1 = cm) ∧
    ((commitInnerL f st cm b).1 = true →
      ((commitInnerL f st cm b).2.1 = cm ∧ cm.view ≥ b.view) ∨ ((commitInnerL f st cm b).2.1 = b ∧ cm.view < b.view)) ∧
    (∀ e ∈ (commitInnerL f st cm b).2.2, e.passive = true) ∧
    (commitInnerL f st cm b).2.2.length ≤ 2 * f := by
  intro f
  induction f with
  | zero => intro st cm b; simp [commitInnerL]
  | succ n ih =>
    intro st cm b
    unfold commitInnerL
    by_cases h1 : cm.view ≥ b.view
    · rw [if_pos h1]; simp; omega
    · rw [if_neg h1]
      cases hl : st.lookup b.parent with
      | none => simp
      | some p =>
        simp only
        obtain ⟨i1, i2, i3, i4⟩ := ih st cm p
        cases hr : (commitInnerL n st cm p).1 with
        | false =>
          simp only [Bool.not_false, if_true]
          refine ⟨fun _ => i1 hr, fun h => (by cases h), i3, by omega⟩
        | true =>
          simp only [Bool.not_true, Bool.false_eq_true, if_false]
          refine ⟨fun h => (by cases h), fun _ => Or.inr ⟨by simp, by omega⟩, ?_, ?_⟩
          · intro e he
            simp only [List.mem_append, List.mem_cons, List.not_mem_nil, or_false] at he
            rcases he with he | rfl | rfl
            · exact i3 e he
            · rfl
            · rfl
          · simp only [List.length_append, List.length_cons, List.length_nil]; omega

theorem commitInnerL_walk : ∀ (f : Nat) (st : List (Hash × Block)) (cm b : Block),
    cmWalk f st cm.view b = true → (commitInnerL f st cm b).1 = true ∧
      (cm.view < b.view → (commitInnerL f st cm b).2.1 = b ∧
        Ev.commit b ∈ (commitInnerL f st cm b).2.2 ∧ Ev.exec b ∈ (commitInnerL f st cm b).2.2) := by
  intro f
  induction f with
  | zero => intro st cm b h; simp [cmWalk] at h
  | succ n ih =>
    intro st cm b h
    unfold cmWalk at h
    unfold commitInnerL
    by_cases h1 : cm.view ≥ b.view
    · rw [if_pos h1]; exact ⟨rfl, fun h2 => by omega⟩
    · rw [if_neg h1] at h ⊢
      cases hl : st.lookup b.parent with
      | none => rw [hl] at h; cases h
      | some p =>
        rw [hl] at h
        simp only
        obtain ⟨i1, _⟩ := ih st cm p h
        rw [i1]
        simp

theorem qcRefL_of {st : List (Hash × Block)} {q : QC} {x : Block} (h : st.lookup q.hash = some x) (hne : q.hash ≠ "") :
    qcRefL st q = some x := by
  unfold qcRefL
  rw [if_neg (by simpa using hne)]; exact h

theorem commitRuleL_res (c : RCfg) (hr : c.rules ≠ .fast) (s : RState) (lock b : Block) :
    ((commitRuleL c.rules s.chain.blocks lock b).1 = lock ∨
      ∃ b1 b2, sget s b.qc.hash = some b1 ∧ sget s b1.qc.hash = some b2 ∧ (commitRuleL c.rules s.chain.blocks lock b).1 = b2 ∧
        b2.view > lock.view) ∧
    (∀ t, (commitRuleL c.rules s.chain.blocks lock b).2 = some t → ∃ b1, sget s b.qc.hash = some b1 ∧ t.view + 2 = b1.view) := by
  rw [commitRuleL_eq c hr]
  refine ⟨(commitLock_from c b lock s).imp id fun ⟨⟨p, hp, _, hg⟩, hv⟩ => ⟨p, _, hp, hg, rfl, hv⟩, fun t ht => ?_⟩
  obtain ⟨b1, b2, l1, _, _, v2, v1⟩ := (commitChain_of_commitAns c b t s ht).links hr
  exact ⟨b1, l1, by omega⟩

/-- three consecutive certified views: the commit rule names the lowest block -/
theorem commitRuleL_three (r : Rules) (hr : r = .chained ∨ r = .simple) (st : List (Hash × Block)) (lock b b1 b2 b3 : Block)
    (l1 : st.lookup b.qc.hash = some b1) (n1 : b.qc.hash ≠ "")
    (l2 : st.lookup b1.qc.hash = some b2) (n2 : b1.qc.hash ≠ "")
    (l3 : st.lookup b2.qc.hash = some b3) (n3 : b2.qc.hash ≠ "")
    (p1 : b1.parent = b2.hash) (v1 : b1.view = b2.view + 1) (p2 : b2.parent = b3.hash) (v2 : b2.view = b3.view + 1) :
    (commitRuleL r st lock b).2 = some b3 := by
  rcases hr with rfl | rfl
  · unfold commitRuleL
    simp only [qcRefL_of l1 n1, qcRefL_of l2 n2, qcRefL_of l3 n3]
    simp [p1, v1, p2, v2]
  · unfold commitRuleL
    simp only [l1, l2, l3]
    have : (b3.view + 2 == b1.view && b2.view == b3.view + 1) = true := by
      simp only [Bool.and_eq_true, beq_iff_eq]; omega
    rw [if_pos this]

theorem store_new (ch : RChain) (b : Block) (hnew : ch.blocks.lookup b.hash = none) :
    (ch.store b).blocks = (b.hash, b) :: ch.blocks ∧ (ch.store b).fetchable = ch.fetchable ∧
    (ch.store b).fuel = ch.fuel + 1 := by
  unfold RChain.store
  rw [hnew]
  refine ⟨rfl, rfl, ?_⟩
  unfold RChain.fuel
  simp only [List.length_cons]; omega

theorem storeLe_cons (st : List (Hash × Block)) (b : Block) (hnew : st.lookup b.hash = none) :
    StoreLe st ((b.hash, b) :: st) := fun h x hx => lookup_cons_stable st b.hash h x b hnew hx

/-- `tcL` read off its definition: the store with `b`, the lock of the commit rule and, when the rule names a block `t`, the
committed block and the events of the walk from `t`, then the `abort` events of pruning -/
theorem tcL_res (c : RCfg) (b : Block) (s : RState) :
    (tcL c b s).chain.blocks = (s.chain.store b).blocks ∧ (tcL c b s).chain.fetchable = (s.chain.store b).fetchable ∧
    (tcL c b s).lock = (commitRuleL c.rules (s.chain.store b).blocks s.lock b).1 ∧
    ∃ evs, (tcL c b s).queue = s.queue ++ evs ∧
      ((commitRuleL c.rules (s.chain.store b).blocks s.lock b).2 = none → (tcL c b s).committed = s.committed ∧ evs = []) ∧
      ∀ t, (commitRuleL c.rules (s.chain.store b).blocks s.lock b).2 = some t →
        (tcL c b s).committed = (commitInnerL ((s.chain.store b).fuel + 1) (s.chain.store b).blocks s.committed t).2.1 ∧
        ∃ ab : List Block, ab.length ≤ t.view - (s.chain.store b).pruneHeight ∧
          evs = (commitInnerL ((s.chain.store b).fuel + 1) (s.chain.store b).blocks s.committed t).2.2 ++ ab.map Ev.abort := by
  unfold tcL
  simp only
  cases (commitRuleL c.rules (s.chain.store b).blocks s.lock b).2 with
  | none => exact ⟨rfl, rfl, rfl, [], by simp, fun _ => ⟨rfl, rfl⟩, fun t ht => by cases ht⟩
  | some t =>
    simp only
    cases (commitInnerL ((s.chain.store b).fuel + 1) (s.chain.store b).blocks s.committed t).1 with
    | false =>
      rw [if_pos (show (!false) = true from rfl)]
      exact ⟨rfl, rfl, rfl, _, rfl, fun h => (by cases h), fun t' ht => by cases ht; exact ⟨rfl, [], by simp, by simp⟩⟩
    | true =>
      rw [if_neg (show ¬ (!true) = true by decide)]
      obtain ⟨pb, pf, _, pl⟩ := pruneToHeight_facts (s.chain.store b)
        (commitInnerL ((s.chain.store b).fuel + 1) (s.chain.store b).blocks s.committed t).2.1 t.view
      exact ⟨pb, pf, rfl, _, by rw [List.append_assoc], fun h => (by cases h), fun t' ht => by cases ht; exact ⟨rfl, _, pl, rfl⟩⟩

/-- `B'` is a proposal of the view after `B`'s, on the certificate of `B` -/
structure Link (B' B : Block) : Prop where
  parent : B'.parent = B.hash
  qch : B'.qc.hash = B.hash
  view : B'.view = B.view + 1
  ne : B.hash ≠ ""

/-- **synchronised at view `w` on block `B`** (one replica): in view `w`, voted for `B` (`lastVoted = w`),
`B` (named `P<w>`) and the block `P` certified by `B.qc` are stored, high QC and lock are older than `w`,
nothing queued or deferred, nothing can be fetched, the names of later proposals are unused (in the store
and in the voting machine); `N` bounds the size of the store (the model's event loop has finite fuel) -/
structure SyncR (w N : Nat) (B P : Block) (s : RState) : Prop where
  view : s.view = w
  lastVoted : s.lastVoted = w
  queue : s.queue = []
  wvc : s.waitingVC = []
  wprop : s.waitingProp = []
  fetch : s.chain.fetchable = []
  bhash : B.hash = pname w
  bview : B.view = w
  hasB : s.chain.blocks.lookup B.hash = some B
  hasP : s.chain.blocks.lookup B.qc.hash = some P
  pview : P.view < w
  hq : s.highQC.view < w
  lock : s.lock.view < w
  names : ∀ u, w < u → s.chain.blocks.lookup (pname u) = none ∧ s.votes.lookup (pname u) = none
  -- The loop of `step` has 100000 turns, 99999 after the delivered event.  The committer walks over at most
  -- `blocks.length + 4` blocks and queues two events per block: with `small`, at most `N + 8` events (`tcL_core`); entering a view
  -- queues a few more, and the step lemmas ask `N + 12 ≤ 99999`.  A view stores one block and raises `w` by one: `N + 3` after it;
  -- three views need `N + 18`, with the recovery round before them (`N + 2`) `N + 20` (`SyncPre.bound`).
  small : 2 * s.chain.blocks.length + w ≤ N

/-- the committer can walk from `Z` down to the committed block over stored parents, and `Z` is not committed yet -/
structure WalkZ (Z : Block) (s : RState) : Prop where
  walk : cmWalk (s.chain.blocks.length + 2) s.chain.blocks s.committed.view Z = true
  below : s.committed.view < Z.view

/-- a synchronised replica's vote rule is ready for every proposal on the certificate of `B`: `B` is above the lock -/
theorem SyncR.ready {w N : Nat} {B P : Block} {s : RState} (h : SyncR w N B P s) (c : RCfg)
    (hr : c.rules = .chained ∨ c.rules = .simple) (bview : Nat) : RuleReady c s bview B := by
  refine ⟨Or.inr ⟨P, h.hasP⟩, ?_⟩
  have h1 := h.lock
  have h2 := h.bview
  rcases hr with hr | hr <;> rw [hr]
  · exact Or.inl (by omega)
  · show s.lock.view ≤ B.view; omega

theorem syncR_with_table {w N : Nat} {B P : Block} {s : RState} (h : SyncR w N B P s) (T : List (Nat × Atom)) (nb : Nat) :
    SyncR w N B P { s with truth := T, nextBytes := nb } :=
  ⟨h.view, h.lastVoted, h.queue, h.wvc, h.wprop, h.fetch, h.bhash, h.bview, h.hasB, h.hasP, h.pview, h.hq, h.lock, h.names, h.small⟩

theorem walkZ_with_table {Z : Block} {s : RState} (h : WalkZ Z s) (T : List (Nat × Atom)) (nb : Nat) :
    WalkZ Z { s with truth := T, nextBytes := nb } := ⟨h.walk, h.below⟩

theorem tcL_congr (c : RCfg) (b : Block) (s s' : RState) (h1 : s'.chain = s.chain) (h2 : s'.lock = s.lock)
    (h3 : s'.committed = s.committed) :
    (tcL c b s').chain = (tcL c b s).chain ∧ (tcL c b s').lock = (tcL c b s).lock ∧
    (tcL c b s').committed = (tcL c b s).committed := by
  unfold tcL
  simp only [h1, h2, h3]
  split
  · exact ⟨rfl, rfl, rfl⟩
  · split <;> exact ⟨rfl, rfl, rfl⟩

/-- what storing the new block `b` on the stored `B ← P` and running the committer leaves: `s` is the state before, `F` any
state with the store, the lock and the committed block of the result (the callers' states differ in the other fields), `evs` the
events queued; `v` is strictly above the lock (`tcL_core` and `tcS_core`, which conclude it, assume `B.view ≤ v` and `P.view < v`) -/
structure TcStep (v : Nat) (b B P : Block) (evs : List Ev) (s F : RState) : Prop where
  blocks : F.chain.blocks = (b.hash, b) :: s.chain.blocks
  fetch : F.chain.fetchable = []
  lock : F.lock.view < v
  passive : ∀ e ∈ evs, e.passive = true
  cmle : ∀ u, s.committed.view ≤ u → B.view ≤ u + 2 → s.committed.view ≤ F.committed.view ∧ F.committed.view ≤ u
  walk : ∀ Z, WalkZ Z s → v ≤ Z.view + 1 → WalkZ Z F
  commit : ∀ Z, WalkZ Z s → b.qc.hash ≠ "" → Link B P → Link P Z → s.chain.blocks.lookup Z.hash = some Z →
    F.committed = Z ∧ Ev.commit Z ∈ evs ∧ Ev.exec Z ∈ evs

theorem TcStep.congr {v : Nat} {b B P : Block} {evs : List Ev} {s s' F F' : RState} (h : TcStep v b B P evs s F)
    (hc : s'.chain = s.chain) (hm : s'.committed = s.committed)
    (hFc : F'.chain = F.chain) (hFl : F'.lock = F.lock) (hFm : F'.committed = F.committed) : TcStep v b B P evs s' F' := by
  have hZ : ∀ Z, WalkZ Z s' → WalkZ Z s := fun Z hZ => ⟨hc ▸ hm ▸ hZ.walk, hm ▸ hZ.below⟩
  have hZF : ∀ Z, WalkZ Z F → WalkZ Z F' := fun Z hZ => ⟨hFc.symm ▸ hFm.symm ▸ hZ.walk, hFm.symm ▸ hZ.below⟩
  refine ⟨by rw [hFc, hc]; exact h.blocks, by rw [hFc]; exact h.fetch, by rw [hFl]; exact h.lock, h.passive,
    by rw [hFm, hm]; exact h.cmle, fun Z hz hv => hZF Z (h.walk Z (hZ Z hz) hv), fun Z hz hne l1 l2 hs => ?_⟩
  rw [hFm]; exact h.commit Z (hZ Z hz) hne l1 l2 (hc ▸ hs)

/-- the committer's walk from the new block `b` on top of the stored block `B`: one step to `B`, then the old walk -/
theorem TcStep.top {v w : Nat} {b B P : Block} {evs : List Ev} {s F : RState} (h : TcStep v b B P evs s F)
    (hnew : s.chain.blocks.lookup b.hash = none) (hpar : s.chain.blocks.lookup b.parent = some B)
    (hcm : s.committed.view ≤ w) (hBw : B.view ≤ w + 2) (hbv : w < b.view)
    (hwalk : cmWalk (s.chain.blocks.length + 2) s.chain.blocks s.committed.view B = true) : WalkZ b F := by
  obtain ⟨h1, h2⟩ := h.cmle w hcm hBw
  refine ⟨?_, by omega⟩
  rw [h.blocks]
  simp only [List.length_cons]
  unfold cmWalk
  rw [if_neg (by omega), storeLe_cons _ _ hnew _ _ hpar]
  exact cmWalk_mono _ _ _ _ _ _ B (by omega) (storeLe_cons _ _ hnew) h1 hwalk

theorem tcL_core (c : RCfg) (hr : c.rules = .chained ∨ c.rules = .simple) (b B1 P : Block) (w N : Nat) (s : RState)
    (hfe : s.chain.fetchable = []) (hnew : s.chain.blocks.lookup b.hash = none)
    (hq1 : s.chain.blocks.lookup b.qc.hash = some B1) (hB1v : B1.view ≤ w)
    (hq2 : s.chain.blocks.lookup B1.qc.hash = some P) (hPv : P.view < w)
    (hlock : s.lock.view < w) (hsmall : 2 * s.chain.blocks.length + w ≤ N) :
    ∃ evs, (tcL c b s).queue = s.queue ++ evs ∧ evs.length ≤ N + 8 ∧ TcStep w b B1 P evs s (tcL c b s) := by
  obtain ⟨hst, hsf, hsfu⟩ := store_new s.chain b hnew
  have hle := storeLe_cons s.chain.blocks b hnew
  have l1 : (s.chain.store b).blocks.lookup b.qc.hash = some B1 := by rw [hst]; exact hle _ _ hq1
  have l2 : (s.chain.store b).blocks.lookup B1.qc.hash = some P := by rw [hst]; exact hle _ _ hq2
  obtain ⟨hlk, hcm⟩ := commitRuleL_res c (ne_fast_of hr) { s with chain := s.chain.store b } s.lock b
  have hfuel : (s.chain.store b).fuel + 1 = s.chain.blocks.length + 4 := by
    rw [hsfu]; unfold RChain.fuel; rw [hfe]; simp
  obtain ⟨r1, r2, r3, evs, r4, rnone, rsome⟩ := tcL_res c b s
  rw [hst] at r1
  rw [hsf, hfe] at r2
  have hlockv : (tcL c b s).lock.view < w := by
    rw [r3]
    rcases hlk with h | ⟨x1, x2, h1, h2, h3, _⟩
    · rw [h]; exact hlock
    · cases l1.symm.trans h1
      cases l2.symm.trans h2
      rw [h3]; exact hPv
  -- a walk survives the new block while the committed view stays below its top
  have hwalk : ∀ Z, WalkZ Z s → s.committed.view ≤ (tcL c b s).committed.view → (tcL c b s).committed.view < Z.view →
      WalkZ Z (tcL c b s) := by
    intro Z hZ h1 h2
    refine ⟨?_, h2⟩
    rw [r1]
    exact cmWalk_mono _ _ _ _ _ _ Z (by simp) hle h1 hZ.walk
  -- on three consecutive certified views the commit rule names the lowest block
  have hthree : ∀ Z, b.qc.hash ≠ "" → Link B1 P → Link P Z → s.chain.blocks.lookup Z.hash = some Z →
      (commitRuleL c.rules (s.chain.store b).blocks s.lock b).2 = some Z := fun Z n1 k1 k2 hZs =>
    commitRuleL_three c.rules hr (s.chain.store b).blocks s.lock b B1 P Z l1 n1 l2 (by rw [k1.qch]; exact k1.ne)
      (by rw [hst, k2.qch]; exact hle _ _ hZs) (by rw [k2.qch]; exact k2.ne) k1.parent k1.view k2.parent k2.view
  cases hr2 : (commitRuleL c.rules (s.chain.store b).blocks s.lock b).2 with
  | none =>
    obtain ⟨hc, rfl⟩ := rnone hr2
    exact ⟨[], r4, by simp, r1, r2, hlockv, by simp, fun u hu _ => by rw [hc]; exact ⟨Nat.le_refl _, hu⟩,
      fun Z hZ _ => hwalk Z hZ (by rw [hc]; exact Nat.le_refl _) (by rw [hc]; exact hZ.below),
      fun Z _ n1 k1 k2 hZs => by cases (hthree Z n1 k1 k2 hZs).symm.trans hr2⟩
  | some t =>
    obtain ⟨hc, ab, hab, rfl⟩ := rsome t hr2
    obtain ⟨x1, hx1, htv⟩ := hcm t hr2
    cases l1.symm.trans hx1
    obtain ⟨i1, i2, i3, i4⟩ := commitInnerL_res ((s.chain.store b).fuel + 1) (s.chain.store b).blocks s.committed t
    -- the committed block stays, or becomes `t`, two views below `B1`
    have hcm' : (tcL c b s).committed = s.committed ∨ ((tcL c b s).committed = t ∧ s.committed.view < t.view) := by
      rw [hc]
      cases hci : (commitInnerL ((s.chain.store b).fuel + 1) (s.chain.store b).blocks s.committed t).1 with
      | false => exact Or.inl (i1 hci)
      | true => exact (i2 hci).imp (·.1) id
    have hge : s.committed.view ≤ (tcL c b s).committed.view := by
      rcases hcm' with h | ⟨h, hv⟩ <;> rw [h] <;> omega
    refine ⟨_, r4, ?_, r1, r2, hlockv, ?_, fun u hu hB => ⟨hge, ?_⟩, fun Z hZ hwz => hwalk Z hZ hge ?_, fun Z hZ n1 k1 k2 hZs => ?_⟩
    · simp only [List.length_append, List.length_map]
      omega
    · intro e he
      simp only [List.mem_append, List.mem_map] at he
      rcases he with he | ⟨f, _, rfl⟩
      · exact i3 e he
      · rfl
    · rcases hcm' with h | ⟨h, hv⟩ <;> rw [h] <;> omega
    · have := hZ.below
      rcases hcm' with h | ⟨h, hv⟩ <;> rw [h] <;> omega
    · cases (hthree Z n1 k1 k2 hZs).symm.trans hr2
      have hw : cmWalk ((s.chain.store b).fuel + 1) (s.chain.store b).blocks s.committed.view t = true := by
        rw [hst]
        exact cmWalk_mono _ _ _ _ _ _ t (by rw [hfuel]; omega) hle (Nat.le_refl _) hZ.walk
      obtain ⟨q1, q2, q3⟩ := (commitInnerL_walk _ _ _ _ hw).2 hZ.below
      exact ⟨hc.trans q1, List.mem_append_left _ q2, List.mem_append_left _ q3⟩

/-- the same of `tryCommit`, run in a state `x` that has the store, the lock and the committed block of `s` -/
theorem tcS_core (c : RCfg) (hr : c.rules = .chained ∨ c.rules = .simple) {v N : Nat} {B P b' : Block} {s x : RState}
    (hxc : x.chain = s.chain) (hxl : x.lock = s.lock) (hxm : x.committed = s.committed)
    (hfe : s.chain.fetchable = []) (hnew : s.chain.blocks.lookup b'.hash = none)
    (hB : s.chain.blocks.lookup b'.qc.hash = some B) (hBv : B.view ≤ v)
    (hP : s.chain.blocks.lookup B.qc.hash = some P) (hPv : P.view < v)
    (hlock : s.lock.view < v) (hsmall : 2 * s.chain.blocks.length + v ≤ N) :
    ∃ evs, (tcS c b' x).queue = x.queue ++ evs ∧ evs.length ≤ N + 8 ∧
      ∀ F : RState, F.chain = (tcS c b' x).chain → F.lock = (tcS c b' x).lock → F.committed = (tcS c b' x).committed →
        TcStep v b' B P evs s F := by
  have hfx : x.chain.fetchable = [] := by rw [hxc]; exact hfe
  obtain ⟨evs, t1, t2, t3⟩ := tcL_core c hr b' B P v N x hfx (by rw [hxc]; exact hnew) (by rw [hxc]; exact hB) hBv
    (by rw [hxc]; exact hP) hPv (by rw [hxl]; exact hlock) (by rw [hxc]; exact hsmall)
  rw [← tcS_eq_tcL c (ne_fast_of hr) b' x hfx] at t1 t3
  exact ⟨evs, t1, t2, fun F hFc hFl hFm => t3.congr hxc.symm hxm.symm hFc hFl hFm⟩

/-- `SyncR` one view later of a state `F` that holds what the committer left -/
theorem TcStep.sync {w v N' : Nat} {b' B P : Block} {evs : List Ev} {s F : RState} (h : TcStep v b' B P evs s F)
    (hb1 : b'.hash = pname (w + 1)) (hb3 : b'.view = w + 1) (hB : s.chain.blocks.lookup b'.qc.hash = some B) (hBw : B.view ≤ w)
    (hv : v ≤ w + 1) (hnames : ∀ u, w < u → s.chain.blocks.lookup (pname u) = none)
    (hN' : 2 * s.chain.blocks.length + (w + 3) ≤ N')
    (hview : F.view = w + 1) (hlv : F.lastVoted = w + 1) (hq : F.queue = []) (hwvc : F.waitingVC = []) (hwp : F.waitingProp = [])
    (hhq : F.highQC.view < w + 1) (hvotes : ∀ u, w + 1 < u → F.votes.lookup (pname u) = none) : SyncR (w + 1) N' b' B F := by
  have hnew : s.chain.blocks.lookup b'.hash = none := by rw [hb1]; exact hnames _ (by omega)
  have hlk := h.lock
  refine ⟨hview, hlv, hq, hwvc, hwp, h.fetch, hb1, hb3, ?_, ?_, by omega, hhq, by omega, fun u hu => ⟨?_, hvotes u hu⟩, ?_⟩
  · rw [h.blocks]; simp
  · rw [h.blocks]; exact storeLe_cons _ _ hnew _ _ hB
  · have : (pname u == b'.hash) = false := by
      rw [beq_eq_false_iff_ne, hb1]; intro e; have := pname_inj e; omega
    rw [h.blocks, List.lookup_cons, this]; exact hnames u (by omega)
  · rw [h.blocks]; simp only [List.length_cons]; omega

theorem lookup_filter_key {β} (f : Hash → Bool) (l : List (Hash × β)) (h : Hash) :
    (l.filter (fun p => f p.1)).lookup h = if f h then l.lookup h else none := by
  induction l with
  | nil => simp
  | cons p rest ih =>
    obtain ⟨k', v⟩ := p
    by_cases hk : f k' = true
    · rw [List.filter_cons_of_pos (by simpa using hk), List.lookup_cons, List.lookup_cons, ih]
      by_cases he : (h == k') = true
      · have : h = k' := by simpa using he
        subst this; simp [hk]
      · have he' : (h == k') = false := by simpa using he
        simp [he']
    · rw [List.filter_cons_of_neg (by simpa using hk), ih, List.lookup_cons]
      by_cases he : (h == k') = true
      · have : h = k' := by simpa using he
        subst this
        have : f h = false := by simpa using hk
        simp [this]
      · have he' : (h == k') = false := by simpa using he
        simp [he']

/-- the predicate of `votesCleanup` on the key -/
def voteKept (s : RState) (h : Hash) : Bool :=
  match s.chain.localGet h with
  | some b => !(b.view ≤ s.highQC.view)
  | none => false

theorem cleanVotes_eq (s : RState) (l : List (Hash × List (Nat × Sig))) :
    cleanVotes s l = l.filter (fun p => voteKept s p.1) := rfl

theorem addVotes_lookup (s : RState) (hash : Hash) (blk : Block) (vs' : List (Nat × Sig))
    (hblk : s.chain.blocks.lookup hash = some blk) (hhi : s.highQC.view < blk.view) :
    (cleanVotes s ((hash, vs') :: s.votes.filter (fun p => p.1 != hash))).lookup hash = some vs' ∧
    ∀ h', h' ≠ hash → s.votes.lookup h' = none →
      (cleanVotes s ((hash, vs') :: s.votes.filter (fun p => p.1 != hash))).lookup h' = none := by
  rw [cleanVotes_eq]
  refine ⟨?_, ?_⟩
  · rw [lookup_filter_key]
    have : voteKept s hash = true := by
      unfold voteKept RChain.localGet; rw [hblk]; simp; omega
    rw [this]; simp
  · intro h' hne hn
    rw [lookup_filter_key]
    split
    · rw [List.lookup_cons]
      have : (h' == hash) = false := by simpa using hne
      rw [this]
      have := lookup_filter_key (β := List (Nat × Sig)) (fun x => x != hash) s.votes h'
      rw [this, hn]; simp
    · rfl

theorem aggregateVote_own (k : Keys) (c : RCfg) (b : Block) (bytes : Nat) (s : RState)
    (hs : c.scheme ≠ .bls12) (hown : c.leader (b.view + 1) = c.id → c.cfg.has c.id = true ∧ 2 ≤ c.cfg.quorum)
    (hlk : s.chain.blocks.lookup b.hash = some b) (hhq : s.highQC.view < b.view)
    (hvl : s.votes.lookup b.hash = none) (ht : s.truth.lookup bytes = some ⟨c.id, blkMsg b.hash⟩) :
    ∃ V O, (aggregateVote k c b (.multi c.scheme [⟨c.id, bytes⟩])).run s = pure ((), { s with votes := V, out := O }) ∧
      (∀ h', h' ≠ b.hash → s.votes.lookup h' = none → V.lookup h' = none) ∧
      (c.leader (b.view + 1) = c.id → O = s.out ∧ V.lookup b.hash = some [(c.id, .multi c.scheme [⟨c.id, bytes⟩])]) ∧
      (c.leader (b.view + 1) ≠ c.id → V = s.votes ∧
        O = s.out ++ [.sendVote (c.leader (b.view + 1)) (.multi c.scheme [⟨c.id, bytes⟩]) b.hash]) := by
  by_cases hl : c.leader (b.view + 1) = c.id
  · have hvl' : (s.votes.lookup b.hash).getD [] = [] := by rw [hvl]; rfl
    obtain ⟨a1, a2⟩ := addVotes_lookup s b.hash b ([] ++ [(c.id, .multi c.scheme [⟨c.id, bytes⟩])]) hlk hhq
    refine ⟨_, s.out, ?_, a2, fun _ => ⟨rfl, a1⟩, fun h => absurd hl h⟩
    rw [aggregateVote_self k c b _ _ hl, collectVote_add_run k c s c.id c.id bytes b.hash b false hlk rfl hhq
      (verify_single _ c.cfg c.id _ _ hs (hown hl).1 ht) (by rw [hvl']; simp) (by rw [hvl']; simp; have := (hown hl).2; omega)]
    unfold addVoteS
    rw [hvl']
  · exact ⟨s.votes, _, aggregateVote_send k c b _ s hl, fun _ _ h => h, fun h => absurd h hl, fun _ => ⟨rfl, rfl⟩⟩

/-- `_adv`: the caller has run `advanceView` on the proposal's certificate, with any outcome (view `w + 1`, high QC `q1`, quiet
events `Q`, effects `O`); `v` (`w` or `w + 1`) is the strict bound on the lock and on `P.view` that `tcL_core` asks for -/
theorem nl_step_adv (k : Keys) (c : RCfg) (L L2 w v N N' : Nat) (B P b' : Block) (s : RState)
    (q1 : QC) (lt : Option TimeoutMsg) (g : List GRec) (Q : List Ev) (O : List Out)
    (hs : c.scheme ≠ .bls12) (hr : c.rules = .chained ∨ c.rules = .simple)
    (hld1 : c.leader (w + 1) = L) (hld2 : c.leader (w + 1 + 1) = L2)
    (hown : c.id = L2 → c.cfg.has c.id = true ∧ 2 ≤ c.cfg.quorum)
    (hq : s.queue = []) (hwvc : s.waitingVC = []) (hwprop : s.waitingProp = []) (hfe : s.chain.fetchable = []) (hf : FreshS s)
    (hlv : s.lastVoted ≤ w) (hN : N + 12 ≤ 99999)
    (hadv : (advanceView k c { qc := some b'.qc }).run { s with out := [], queue := [] } =
      pure ((), { s with highQC := q1, view := w + 1, lastTimeout := lt, ghost := g, queue := Q, out := O }))
    (hQ : ∀ e ∈ Q, e.quiet = true) (hQl : Q.length ≤ 1) (hq1 : q1.view ≤ w)
    (hb1 : b'.hash = pname (w + 1)) (hb2 : b'.parent = b'.qc.hash) (hb3 : b'.view = w + 1) (hqv : b'.qc.view < w + 1)
    (hver : verifyQC (env k c s) b'.qc = true)
    (hrule : ∀ s' : RState, s'.chain = s.chain → s'.lock = s.lock → (voteRule c b'.view b' none).run s' = pure (true, s'))
    (hB : s.chain.blocks.lookup b'.qc.hash = some B) (hBw : B.view ≤ w)
    (hP : s.chain.blocks.lookup B.qc.hash = some P) (hPv : P.view < v) (hwv : w ≤ v) (hv : v ≤ w + 1) (hlock : s.lock.view < v)
    (hnames : ∀ u, w < u → s.chain.blocks.lookup (pname u) = none ∧ s.votes.lookup (pname u) = none)
    (hsmall : 2 * s.chain.blocks.length + v ≤ N) (hN' : 2 * s.chain.blocks.length + (w + 3) ≤ N') :
    let r := step k c s (.propose L b' none)
    SyncR (w + 1) N' b' B r.1 ∧ r.1.highQC = q1 ∧
    r.1.lastProposed = s.lastProposed ∧
    r.1.chain.blocks = (b'.hash, b') :: s.chain.blocks ∧
    (s.committed.view ≤ w → cmWalk (s.chain.blocks.length + 2) s.chain.blocks s.committed.view B = true →
      WalkZ b' r.1) ∧
    (∃ bytes, r.1.truth.lookup bytes = some ⟨c.id, blkMsg b'.hash⟩ ∧
      (c.id = L2 → r.1.votes.lookup b'.hash = some [(c.id, .multi c.scheme [⟨c.id, bytes⟩])] ∧
        ∀ C : SysCfg, route C c.id r.2 = route C c.id O) ∧
      (c.id ≠ L2 → r.1.votes = s.votes ∧
        ∀ C : SysCfg, route C c.id r.2 =
          route C c.id O ++ [(L2, Ev.vote c.id (some (.multi c.scheme [⟨c.id, bytes⟩])) b'.hash false)])) ∧
    (∀ Z : Block, WalkZ Z s →
      (v ≤ Z.view + 1 → WalkZ Z r.1) ∧
      (b'.qc.hash ≠ "" → Link B P → Link P Z → s.chain.blocks.lookup Z.hash = some Z →
        r.1.committed = Z ∧ Out.commit Z ∈ r.2 ∧
        Out.exec Z ∈ r.2)) := by
  rw [← hb3] at hadv
  obtain ⟨evs, T, n, bytes, hXq, hpass, hlook, hstep⟩ := step_propose_voted k c L b' s q1 lt g Q O hs hq hwprop hadv hQ (Or.inl hwvc)
    (by rw [hb3]; omega) (by rw [hb3]; exact hld1.symm) hb2 (by rw [hb3]; exact hqv) hver hrule
  let s1 : RState := { s with highQC := q1, view := b'.view, lastTimeout := lt, ghost := g, queue := Q, out := O }
  have hnewB : s.chain.blocks.lookup b'.hash = none := by rw [hb1]; exact (hnames (w + 1) (by omega)).1
  -- what the committer does with the block
  obtain ⟨evs', t4, t6, hFin⟩ := tcS_core c hr (N := N) (s := s) (x := s1) rfl rfl rfl
    hfe hnewB hB (Nat.le_trans hBw hwv) hP hPv hlock hsmall
  obtain rfl : evs = evs' := List.append_cancel_left (hXq.symm.trans t4)
  have hquiet := quiet_append hQ hpass
  have hle : (Q ++ evs).length ≤ 99999 := by rw [List.length_append]; omega
  have hL2 : c.leader (b'.view + 1) = L2 := by rw [hb3]; exact hld2
  -- the vote is handed on: only `votes` and `out` change
  let V : RState :=
    { s1 with chain := (tcS c b' s1).chain, lock := (tcS c b' s1).lock, committed := (tcS c b' s1).committed, queue := Q ++ evs,
              out := O ++ [.sign (blkMsg b'.hash)], truth := T, nextBytes := n, lastVoted := b'.view, ghost := g ++ [.vote b' L] }
  obtain ⟨Vt, O', hG, hoth, hself, hsend⟩ := aggregateVote_own k c b' bytes V hs
    (fun e => hown (hL2.symm.trans e).symm) (by show (tcS c b' s1).chain.blocks.lookup _ = _; rw [(hFin _ rfl rfl rfl).blocks]; simp)
    (by show q1.view < _; rw [hb3]; omega) (by show s.votes.lookup _ = _; rw [hb1]; exact (hnames (w + 1) (by omega)).2) (hlook hf)
  rw [hstep Vt O' hG, List.drop_eq_nil_of_le hle, List.take_of_length_le hle]
  have hT := hFin { V with votes := Vt, waitingProp := [], queue := [], out := [] } rfl rfl rfl
  refine ⟨hT.sync hb1 hb3 hB hBw hv (fun u hu => (hnames u hu).1) hN' hb3 hb3 rfl hwvc rfl (by show q1.view < _; omega)
    fun u hu => hoth _ (by rw [hb1]; intro e; have := pname_inj e; omega) (hnames u (by omega)).2,
    rfl, rfl, hT.blocks, ?_, ⟨bytes, hlook hf, ?_, ?_⟩, ?_⟩
  · exact fun hcm hwalk => hT.top hnewB (by rw [hb2]; exact hB) hcm (by omega) (by omega) hwalk
  · intro e
    obtain ⟨g1, g2⟩ := hself (hL2.trans e.symm)
    refine ⟨g2, fun C => ?_⟩
    rw [route_drain C c.id _ _ hquiet, g1, route_append]
    simp [route]
  · intro e
    obtain ⟨g1, g2⟩ := hsend (by rw [hL2]; exact fun e' => e e'.symm)
    refine ⟨g1, fun C => ?_⟩
    rw [route_drain C c.id _ _ hquiet, g2, hL2, List.append_assoc, route_append]
    simp [route]
  · intro Z hZ
    refine ⟨hT.walk Z hZ, fun hne lk1 lk2 hZs => ?_⟩
    obtain ⟨y1, y2, y3⟩ := hT.commit Z hZ hne lk1 lk2 hZs
    exact ⟨y1, List.mem_append_right _ (List.mem_map.mpr ⟨_, List.mem_append_right _ y2, rfl⟩),
      List.mem_append_right _ (List.mem_map.mpr ⟨_, List.mem_append_right _ y3, rfl⟩)⟩

theorem nl_step_next (k : Keys) (c : RCfg) (L L2 w N : Nat) (B P B' : Block) (sgq : Sig) (s : RState)
    (hs : c.scheme ≠ .bls12) (ha : c.agg = false) (hr : c.rules = .chained ∨ c.rules = .simple)
    (hld1 : c.leader (w + 1) = L) (hne : c.id ≠ L) (hld2 : c.leader (w + 1 + 1) = L2)
    (hown : c.id = L2 → c.cfg.has c.id = true ∧ 2 ≤ c.cfg.quorum)
    (hcore : SyncR w N B P s) (hf : FreshS s) (hN : N + 12 ≤ 99999)
    (hb1 : B'.hash = pname (w + 1)) (hb2 : B'.parent = B.hash) (hb3 : B'.view = w + 1)
    (hb4 : B'.qc = ⟨some sgq, B.view, B.hash⟩)
    (hv1 : verify (fun b => s.truth.lookup b) c.cfg sgq (blkMsg B.hash) = true) (hv2 : c.cfg.quorum ≤ sgq.len) :
    let r := step k c s (.propose L B' none)
    SyncR (w + 1) (N + 3) B' B r.1 ∧ r.1.highQC = B'.qc ∧ r.1.lastProposed = s.lastProposed ∧
    r.1.chain.blocks = (B'.hash, B') :: s.chain.blocks ∧
    (∃ bytes, r.1.truth.lookup bytes = some ⟨c.id, blkMsg B'.hash⟩ ∧
      (c.id = L2 → r.1.votes.lookup B'.hash = some [(c.id, .multi c.scheme [⟨c.id, bytes⟩])] ∧
        ∀ C : SysCfg, route C c.id r.2 = [(L, Ev.newview c.id { qc := some B'.qc })]) ∧
      (c.id ≠ L2 → r.1.votes = s.votes ∧
        ∀ C : SysCfg, route C c.id r.2 =
          [(L, Ev.newview c.id { qc := some B'.qc }),
           (L2, Ev.vote c.id (some (.multi c.scheme [⟨c.id, bytes⟩])) B'.hash false)])) ∧
    (∀ Z : Block, WalkZ Z s →
      (w ≤ Z.view + 1 → WalkZ Z r.1) ∧
      (Link B P → Link P Z → s.chain.blocks.lookup Z.hash = some Z →
        r.1.committed = Z ∧ Out.commit Z ∈ r.2 ∧ Out.exec Z ∈ r.2)) := by
  let q : QC := B'.qc
  let sA : RState := { s with out := [], queue := [] }
  have hgen : B.hash ≠ genesisHash := by rw [hcore.bhash]; exact pname_ne_genesis _
  have hqh : q.hash = B.hash := by show B'.qc.hash = _; rw [hb4]
  have hqv : q.view = w := by show B'.qc.view = _; rw [hb4]; exact hcore.bview
  have hlkB : s.chain.blocks.lookup q.hash = some B := by rw [hqh]; exact hcore.hasB
  have hver : verifyQC (env k c s) q = true := by
    have := verifyQC_of_votes k c s B.hash B sgq hcore.hasB rfl hgen hv1 hv2
    show verifyQC _ B'.qc = true
    rw [hb4]; exact this
  -- `advanceView`: view `w + 1` entered, new-view message to `L`
  let s1 : RState := { s with highQC := q, view := w + 1, lastTimeout := none
                              ghost := s.ghost ++ [.adv w q.view false], queue := [.viewChange (w + 1) false]
                              out := [.sendNewView L { qc := some q }] }
  have hadv : (advanceView k c { qc := some q }).run sA = pure ((), s1) := by
    rw [advanceView_move_nl k c sA q B ha hver hlkB (by show s.view = q.view; rw [hcore.view, hqv])
      (by show s.highQC.view < B.view; rw [hcore.bview]; exact hcore.hq)
      (by show c.leader (s.view + 1) ≠ c.id; rw [hcore.view, hld1]; exact fun e => hne e.symm)]
    show (pure ((), ({ s with highQC := q, view := s.view + 1, lastTimeout := none, ghost := s.ghost ++ [.adv s.view q.view false],
                              queue := [.viewChange (s.view + 1) false],
                              out := [.sendNewView (c.leader (s.view + 1)) { qc := some q }] } : RState)) : Id (Unit × RState)) = _
    rw [hcore.view, hld1]
  obtain ⟨n1, n4, n5, n6, _, ⟨bytes, n7, nself, nsend⟩, n8⟩ := nl_step_adv k c L L2 w w N (N + 3) B P B' s q none _ _ _
    hs hr hld1 hld2 hown hcore.queue hcore.wvc hcore.wprop hcore.fetch hf (Nat.le_of_eq hcore.lastVoted) hN hadv
    (fun e he => by rw [List.mem_singleton.mp he]; rfl) (Nat.le_refl _) (Nat.le_of_eq hqv) hb1 (by rw [hb2, hb4]) hb3
    (by show q.view < _; omega) hver
    ((hcore.ready c hr _).rule hlkB (Nat.le_refl _) (by rw [hb2, hb4]))
    hlkB (Nat.le_of_eq hcore.bview) hcore.hasP hcore.pview (Nat.le_refl w) (Nat.le_succ w) hcore.lock hcore.names hcore.small
    (by have := hcore.small; omega)
  refine ⟨n1, n4, n5, n6, ⟨bytes, n7, fun e => ⟨(nself e).1, fun C => ?_⟩, fun e => ⟨(nsend e).1, fun C => ?_⟩⟩,
    fun Z hZ => ⟨(n8 Z hZ).1, (n8 Z hZ).2 (by rw [hb4]; show B.hash ≠ ""; rw [hcore.bhash]; exact pname_ne_empty _)⟩⟩
  · rw [(nself e).2 C]; rfl
  · rw [(nsend e).2 C]; rfl

/-- the fixed leader synchronised at `(w, B)`: it proposed `B` and holds the valid votes `vs` for it -/
structure SyncL (c : RCfg) (w N : Nat) (B P : Block) (vs : List (Nat × Sig)) (s : RState) : Prop where
  core : SyncR w N B P s
  lastProposed : s.lastProposed = w
  votes : s.votes.lookup B.hash = some vs
  valid : ∀ x ∈ vs, c.cfg.has x.1 = true ∧ HonestSig (fun b => s.truth.lookup b) c.cfg x.1 (blkMsg B.hash) x.2
  nodup : (vs.map (·.1)).Nodup
  hqge : P.view ≤ s.highQC.view

theorem honestSig_mono {T T' : Truth} {cfg : Cfg} {i : Nat} {m : Msg} {sg : Sig} (hT : TruthLe T T')
    (h : HonestSig T cfg i m sg) : HonestSig T' cfg i m sg := by
  rcases h with ⟨h1, b, h2, h3⟩ | h
  · exact Or.inl ⟨h1, b, h2, hT _ _ h3⟩
  · exact Or.inr h

theorem syncL_with_table {c : RCfg} {w N : Nat} {B P : Block} {vs : List (Nat × Sig)} {s : RState}
    (h : SyncL c w N B P vs s) (T : List (Nat × Atom)) (nb : Nat)
    (hT : ∀ b a, s.truth.lookup b = some a → T.lookup b = some a) :
    SyncL c w N B P vs { s with truth := T, nextBytes := nb } :=
  ⟨syncR_with_table h.core T nb, h.lastProposed, h.votes,
    fun x hx => ⟨(h.valid x hx).1, honestSig_mono (fun b a hb => hT b a hb) (h.valid x hx).2⟩, h.nodup, h.hqge⟩

/-- the COLLECTOR of the votes for `B` (the leader of view `w + 1`, who need not have proposed `B`) synchronised at `(w, B)`: it
holds the valid votes `vs`, its high QC is at least the certificate of `B`, and the walk that marks ancestors as proposed
succeeds from `B` over stored blocks (`markWalk`: trivial for the proposer of `B`) -/
structure SyncC (c : RCfg) (w N : Nat) (B P : Block) (vs : List (Nat × Sig)) (s : RState) : Prop where
  core : SyncR w N B P s
  mark : markWalk (s.chain.fuel + 1) s.chain.blocks s.lastProposed B = true
  votes : s.votes.lookup B.hash = some vs
  valid : ∀ x ∈ vs, c.cfg.has x.1 = true ∧ HonestSig (fun b => s.truth.lookup b) c.cfg x.1 (blkMsg B.hash) x.2
  nodup : (vs.map (·.1)).Nodup
  hqge : P.view ≤ s.highQC.view

theorem syncC_with_table {c : RCfg} {w N : Nat} {B P : Block} {vs : List (Nat × Sig)} {s : RState}
    (h : SyncC c w N B P vs s) (T : List (Nat × Atom)) (nb : Nat)
    (hT : ∀ b a, s.truth.lookup b = some a → T.lookup b = some a) :
    SyncC c w N B P vs { s with truth := T, nextBytes := nb } :=
  ⟨syncR_with_table h.core T nb, h.mark, h.votes,
    fun x hx => ⟨(h.valid x hx).1, honestSig_mono (fun b a hb => hT b a hb) (h.valid x hx).2⟩, h.nodup, h.hqge⟩

theorem SyncL.toC {c : RCfg} {w N : Nat} {B P : Block} {vs : List (Nat × Sig)} {s : RState} (h : SyncL c w N B P vs s) :
    SyncC c w N B P vs s :=
  ⟨h.core, by unfold markWalk; rw [if_neg (by rw [h.lastProposed, h.core.bview]; omega)], h.votes, h.valid, h.nodup, h.hqge⟩

theorem syncL_own {c : RCfg} {w N bytes : Nat} {B P : Block} {s : RState} (hs : c.scheme ≠ .bls12) (hid : c.cfg.has c.id = true)
    (hc : SyncR w N B P s) (hlp : s.lastProposed = w)
    (hv : s.votes.lookup B.hash = some [(c.id, .multi c.scheme [⟨c.id, bytes⟩])])
    (ht : s.truth.lookup bytes = some ⟨c.id, blkMsg B.hash⟩) (hq : P.view ≤ s.highQC.view) :
    SyncL c w N B P [(c.id, .multi c.scheme [⟨c.id, bytes⟩])] s :=
  ⟨hc, hlp, hv, fun x hx => by rw [List.mem_singleton.mp hx]; exact ⟨hid, Or.inl ⟨hs, bytes, rfl, ht⟩⟩, by simp, hq⟩

/-- a replica synchronised at `(w, B)` that may become a leader later: `SyncR`, the walk that marks ancestors as proposed
succeeds from `B`, and its high QC is at least the certificate of `B` -/
structure SyncM (w N : Nat) (B P : Block) (s : RState) : Prop where
  core : SyncR w N B P s
  mark : markWalk (s.chain.fuel + 1) s.chain.blocks s.lastProposed B = true
  hqge : P.view ≤ s.highQC.view

theorem coll_vote_add (k : Keys) (c : RCfg) (w N i id bytes : Nat) (B P : Block) (vs : List (Nat × Sig)) (s : RState)
    (hs : c.scheme ≠ .bls12) (hld : SyncC c w N B P vs s) (hi : c.cfg.has i = true)
    (hbytes : s.truth.lookup bytes = some ⟨i, blkMsg B.hash⟩)
    (hnew : ∀ v ∈ vs, v.1 ≠ i) (hlen : vs.length + 1 < c.cfg.quorum) :
    ∃ V, step k c s (.vote id (some (.multi c.scheme [⟨i, bytes⟩])) B.hash false) = ({ s with votes := V, out := [] }, []) ∧
      SyncC c w N B P (vs ++ [(i, .multi c.scheme [⟨i, bytes⟩])]) { s with votes := V, out := [] } := by
  let sg1 : Sig := .multi c.scheme [⟨i, bytes⟩]
  let s0 : RState := { s with out := [], queue := [.vote id (some sg1) B.hash false] }
  let sA : RState := { s0 with queue := [] }
  have hc := hld.core
  have hl : sA.chain.blocks.lookup B.hash = some B := hc.hasB
  have hvl : (sA.votes.lookup B.hash).getD [] = vs := by
    show (s.votes.lookup B.hash).getD [] = vs
    rw [hld.votes]; rfl
  have hhi : sA.highQC.view < B.view := by show s.highQC.view < _; rw [hc.bview]; exact hc.hq
  have hcv := collectVote_add_run k c sA id i bytes B.hash B false hl rfl hhi
    (verify_single _ c.cfg i bytes _ hs hi hbytes) (by rw [hvl]; exact hnew) (by rw [hvl]; exact hlen)
  let sB : RState := addVoteS sA B.hash i sg1
  have hsBq : sB.queue = [] := rfl
  have ht := tick_vote k c (s := s0) rfl hcv
  have hstep : step k c s (.vote id (some sg1) B.hash false) = ({ sB with out := [] }, []) :=
    step_tick_idle k c s sB _ hc.queue ht hsBq
  obtain ⟨a1, a2⟩ := addVotes_lookup sA B.hash B (vs ++ [(i, sg1)]) hl hhi
  refine ⟨sB.votes, ?_, ⟨?_, hld.mark, ?_, ?_, ?_, hld.hqge⟩⟩
  · rw [hstep]
    show (({ s with out := [], queue := [], votes := sB.votes } : RState), ([] : List Out)) = _
    rw [← hc.queue]
  · refine ⟨hc.view, hc.lastVoted, hc.queue, hc.wvc, hc.wprop, hc.fetch, hc.bhash, hc.bview, hc.hasB, hc.hasP, hc.pview,
      hc.hq, hc.lock, ?_, hc.small⟩
    intro u hu
    refine ⟨(hc.names u hu).1, ?_⟩
    show (cleanVotes sA _).lookup (pname u) = none
    rw [hvl]
    exact a2 (pname u) (by rw [hc.bhash]; intro e; have := pname_inj e; omega) (hc.names u hu).2
  · show (cleanVotes sA _).lookup B.hash = _
    rw [hvl]; exact a1
  · intro x hx
    simp only [List.mem_append, List.mem_singleton] at hx
    rcases hx with hx | rfl
    · exact hld.valid x hx
    · exact ⟨hi, Or.inl ⟨hs, bytes, rfl, hbytes⟩⟩
  · simp only [List.map_append, List.map_cons, List.map_nil]
    rw [List.nodup_append]
    refine ⟨hld.nodup, by simp, ?_⟩
    intro a ha b hb
    simp at hb; subst hb
    obtain ⟨x, hx, hxe⟩ := List.mem_map.mp ha
    intro e; exact hnew x hx (by rw [hxe, e])

theorem ld_vote_add (k : Keys) (c : RCfg) (w N i id bytes : Nat) (B P : Block) (vs : List (Nat × Sig)) (s : RState)
    (hs : c.scheme ≠ .bls12) (hld : SyncL c w N B P vs s) (hi : c.cfg.has i = true)
    (hbytes : s.truth.lookup bytes = some ⟨i, blkMsg B.hash⟩)
    (hnew : ∀ v ∈ vs, v.1 ≠ i) (hlen : vs.length + 1 < c.cfg.quorum) :
    ∃ V, step k c s (.vote id (some (.multi c.scheme [⟨i, bytes⟩])) B.hash false) = ({ s with votes := V, out := [] }, []) ∧
      SyncL c w N B P (vs ++ [(i, .multi c.scheme [⟨i, bytes⟩])]) { s with votes := V, out := [] } := by
  obtain ⟨V, hstep, hC⟩ := coll_vote_add k c w N i id bytes B P vs s hs hld.toC hi hbytes hnew hlen
  exact ⟨V, hstep, hC.core, hld.lastProposed, hC.votes, hC.valid, hC.nodup, hC.hqge⟩

/-- the leader proposes in the view `w + 1` it has just entered, on a quorum of votes or of timeout messages (`tc`); `Q`: the
quiet events queued on entering the view; `v` (`w` or `w + 1`) is the strict bound on the lock and on `P.view` that `tcL_core`
asks for -/
theorem lead_next (k : Keys) (c : RCfg) (L2 w v N N' : Nat) (m : RState) (hb P : Block) (tc : Option TC) (Q : List Ev)
    (hs : c.scheme ≠ .bls12) (hr : c.rules = .chained ∨ c.rules = .simple) (hid : c.cfg.has c.id = true) (hq2 : 2 ≤ c.cfg.quorum)
    (hld1 : c.leader m.view = c.id) (hld2 : c.leader (m.view + 1) = L2)
    (hf : FreshS m) (hview : m.view = w + 1) (hlv : m.lastVoted ≤ w) (hwvc : m.waitingVC = []) (hwprop : m.waitingProp = [])
    (hmq : m.queue = Q) (hmo : m.out = []) (hfe : m.chain.fetchable = [])
    (hhb : m.chain.blocks.lookup m.highQC.hash = some hb) (hhbv : hb.view ≤ w) (hqv : m.highQC.view ≤ w)
    (hver : verifyQC (env k c m) m.highQC = true)
    (hmark : markWalk (m.chain.fuel + 1) m.chain.blocks m.lastProposed hb = true)
    (hrule : ∀ s' : RState, s'.chain = m.chain → s'.lock = m.lock →
      (voteRule c m.view (newBlock c m m.highQC) none).run s' = pure (true, s'))
    (hP : m.chain.blocks.lookup hb.qc.hash = some P) (hPv : P.view < v) (hwv : w ≤ v) (hv : v ≤ w + 1) (hlock : m.lock.view < v)
    (hnames : ∀ x, w < x → m.chain.blocks.lookup (pname x) = none ∧ m.votes.lookup (pname x) = none)
    (hsmall : 2 * m.chain.blocks.length + v ≤ N) (hN' : 2 * m.chain.blocks.length + (w + 3) ≤ N') :
    ∃ (G : RState) (evs : List Ev) (bytes' : Nat),
      (createAndPropose k c { qc := some m.highQC, tc := tc }).run m = pure ((), G) ∧
      G.queue = Q ++ evs ∧ (∀ e ∈ evs, e.passive = true) ∧ evs.length ≤ N + 8 ∧
      SyncR (w + 1) N' (newBlock c m m.highQC) hb { G with queue := [], out := [] } ∧ G.lastProposed = w + 1 ∧
      G.truth.lookup bytes' = some ⟨c.id, blkMsg (newBlock c m m.highQC).hash⟩ ∧ G.highQC = m.highQC ∧ G.timeouts = m.timeouts ∧
      (c.id = L2 → G.votes.lookup (newBlock c m m.highQC).hash = some [(c.id, .multi c.scheme [⟨c.id, bytes'⟩])] ∧
        G.out = [.sign (blkMsg (newBlock c m m.highQC).hash), .sendPropose (newBlock c m m.highQC) none]) ∧
      (c.id ≠ L2 → G.out = [.sign (blkMsg (newBlock c m m.highQC).hash), .sendPropose (newBlock c m m.highQC) none,
        .sendVote L2 (.multi c.scheme [⟨c.id, bytes'⟩]) (newBlock c m m.highQC).hash]) ∧
      (m.committed.view ≤ w → cmWalk (m.chain.blocks.length + 2) m.chain.blocks m.committed.view hb = true →
        WalkZ (newBlock c m m.highQC) { G with queue := [], out := [] }) ∧
      (∀ Z : Block, WalkZ Z m →
        (v ≤ Z.view + 1 → WalkZ Z { G with queue := [], out := [] }) ∧
        (m.highQC.hash ≠ "" → Link hb P → Link P Z → m.chain.blocks.lookup Z.hash = some Z →
          G.committed = Z ∧ Ev.commit Z ∈ evs ∧ Ev.exec Z ∈ evs)) := by
  have hrun := createAndPropose_run k c m m.highQC hb tc hs (ne_fast_of hr) hhb
    (markProposed_walk _ _ m hmark) (by rw [hview]; omega) hrule hver (by rw [hview]; omega) hld1.symm
  unfold proposedS at hrun
  obtain ⟨b', hb'⟩ : ∃ b', b' = newBlock c m m.highQC := ⟨_, rfl⟩
  rw [← hb'] at hrun ⊢
  have hb'hash : b'.hash = pname (w + 1) := by rw [hb']; show (mkBlock c m.view m.nextCmd m.highQC).hash = _; rw [mkBlock_hash, hview]
  have hb'view : b'.view = w + 1 := by rw [hb']; exact hview
  have hb'qc : b'.qc = m.highQC := by rw [hb']; rfl
  -- the proposer signs its vote (state `x`), then stores the block and runs the committer
  obtain ⟨evs, T, n, bytes, hupd, hsig, hxc, hxl, hxm, hxq, hpass, hlook⟩ := proposed_upd c b' c.id (propS m)
  have hnewB : m.chain.blocks.lookup b'.hash = none := by rw [hb'hash]; exact (hnames (w + 1) (by omega)).1
  have hqB : m.chain.blocks.lookup b'.qc.hash = some hb := by rw [hb'qc]; exact hhb
  obtain ⟨evs', t4, t6, hFin⟩ := tcS_core c hr (N := N) (s := m) (x := voteS c b' c.id (propS m)) hxc hxl hxm
    hfe hnewB hqB (Nat.le_trans hhbv hwv) hP hPv hlock hsmall
  obtain rfl : evs = evs' := List.append_cancel_left (hxq.symm.trans t4)
  rw [hupd, hsig] at hrun
  let F : RState :=
    { propS m with chain := (tcS c b' (voteS c b' c.id (propS m))).chain, lock := (tcS c b' (voteS c b' c.id (propS m))).lock,
                   committed := (tcS c b' (voteS c b' c.id (propS m))).committed, queue := m.queue ++ evs,
                   out := m.out ++ [.sign (blkMsg b'.hash)] ++ [.sendPropose b' none], truth := T, nextBytes := n,
                   lastVoted := b'.view, ghost := m.ghost ++ [.vote b' c.id] }
  -- the vote is handed on: only `votes` and `out` change
  obtain ⟨V, O, hG, hoth, hself, hsend⟩ := aggregateVote_own k c b' bytes F hs (fun _ => ⟨hid, hq2⟩)
    (by show (tcS c b' _).chain.blocks.lookup _ = _; rw [(hFin _ rfl rfl rfl).blocks]; simp)
    (by show m.highQC.view < _; rw [hb'view]; omega)
    (by show m.votes.lookup _ = _; rw [hb'hash]; exact (hnames (w + 1) (by omega)).2) (hlook hf)
  have hL2 : c.leader (b'.view + 1) = L2 := by rw [hb'view, ← hview]; exact hld2
  replace hrun := hrun.trans hG
  have hT := hFin { F with votes := V, queue := [], out := [] } rfl rfl rfl
  have hFout : F.out = [.sign (blkMsg b'.hash), .sendPropose b' none] := by show m.out ++ _ ++ _ = _; rw [hmo]; rfl
  refine ⟨_, evs, bytes, hrun, by show m.queue ++ evs = _; rw [hmq], hpass, t6,
    hT.sync hb'hash hb'view hqB hhbv hv (fun u hu => (hnames u hu).1) hN' hview hb'view rfl hwvc hwprop
      (by show m.highQC.view < _; omega)
      fun u hu => hoth _ (by rw [hb'hash]; intro e; have := pname_inj e; omega) (hnames u (by omega)).2,
    hview, hlook hf, rfl, rfl, ?_, ?_, ?_,
    fun Z hZ => ⟨hT.walk Z hZ, fun hne => hT.commit Z hZ (by rw [hb'qc]; exact hne)⟩⟩
  · intro e
    obtain ⟨g1, g2⟩ := hself (hL2.trans e.symm)
    exact ⟨g2, g1.trans hFout⟩
  · intro e
    obtain ⟨_, g2⟩ := hsend (by rw [hL2]; exact fun e' => e e'.symm)
    show O = _
    rw [g2, hFout, hL2]; rfl
  · exact fun hcm hwalk => hT.top hnewB (by rw [hb', show (newBlock c m m.highQC).parent = m.highQC.hash from rfl]; exact hhb)
      hcm (by omega) (by omega) hwalk

theorem coll_vote_quorum (k : Keys) (c : RCfg) (L2 w N i id bytes : Nat) (B P : Block) (vs : List (Nat × Sig)) (s : RState)
    (hs : c.scheme ≠ .bls12) (ha : c.agg = false) (hr : c.rules = .chained ∨ c.rules = .simple)
    (hid : c.cfg.has c.id = true) (hld1 : c.leader (s.view + 1) = c.id) (hld2 : c.leader (s.view + 1 + 1) = L2) (hq2 : 2 ≤ c.cfg.quorum)
    (hld : SyncC c w N B P vs s) (hf : FreshS s) (hN : N + 12 ≤ 99999)
    (hi : c.cfg.has i = true) (hbytes : s.truth.lookup bytes = some ⟨i, blkMsg B.hash⟩)
    (hnew : ∀ v ∈ vs, v.1 ≠ i) (hlen : c.cfg.quorum ≤ vs.length + 1) :
    let r := step k c s (.vote id (some (.multi c.scheme [⟨i, bytes⟩])) B.hash false)
    ∃ (sgq : Sig) (bytes' : Nat) (B' : Block),
      B'.hash = pname (w + 1) ∧ B'.parent = B.hash ∧ B'.view = w + 1 ∧ B'.qc = ⟨some sgq, B.view, B.hash⟩ ∧
      verify (fun b => r.1.truth.lookup b) c.cfg sgq (blkMsg B.hash) = true ∧ c.cfg.quorum ≤ sgq.len ∧
      SyncR (w + 1) (N + 3) B' B r.1 ∧ r.1.lastProposed = w + 1 ∧
      r.1.truth.lookup bytes' = some ⟨c.id, blkMsg B'.hash⟩ ∧ r.1.highQC = B'.qc ∧
      (c.id = L2 → r.1.votes.lookup B'.hash = some [(c.id, .multi c.scheme [⟨c.id, bytes'⟩])] ∧
        ∀ C : SysCfg, route C c.id r.2 = (C.honest.filter (· != c.id)).map (fun x => (x, Ev.propose c.id B' none))) ∧
      (c.id ≠ L2 → ∀ C : SysCfg, route C c.id r.2 =
        (C.honest.filter (· != c.id)).map (fun x => (x, Ev.propose c.id B' none)) ++
          [(L2, Ev.vote c.id (some (.multi c.scheme [⟨c.id, bytes'⟩])) B'.hash false)]) ∧
      (∀ Z : Block, WalkZ Z s →
        (w ≤ Z.view + 1 → WalkZ Z r.1) ∧
        (Link B P → Link P Z → s.chain.blocks.lookup Z.hash = some Z →
          r.1.committed = Z ∧ Out.commit Z ∈ r.2 ∧ Out.exec Z ∈ r.2)) := by
  have hc := hld.core
  have hgen : B.hash ≠ genesisHash := by rw [hc.bhash]; exact pname_ne_genesis _
  have hvl : (s.votes.lookup B.hash).getD [] = vs := by rw [hld.votes]; rfl
  have hhi : s.highQC.view < B.view := by rw [hc.bview]; exact hc.hq
  obtain ⟨sgq, hverq, hqlen, hstep⟩ := step_vote_quorum k c s id i bytes B.hash B hs ha hc.queue hc.hasB rfl hgen
    (by rw [hc.bview, hc.view]) hhi hld1 hi hbytes (by rw [hvl]; exact hld.valid) (by rw [hvl]; exact hld.nodup)
    (by rw [hvl]; exact hnew) (by rw [hvl]; exact hlen) (by rw [hvl]; omega)
  let qc : QC := ⟨some sgq, B.view, B.hash⟩
  -- the state in which it enters view `w + 1` on the certificate
  let m : RState :=
    { s with highQC := qc, view := s.view + 1, lastTimeout := none, ghost := s.ghost ++ [.adv s.view B.view false],
             votes := cleanVotes s (s.votes.filter (fun p => p.1 != B.hash)), queue := [.viewChange (s.view + 1) false], out := [] }
  have hmview : m.view = w + 1 := by show s.view + 1 = _; rw [hc.view]
  have hmvn : ∀ u, w < u → m.votes.lookup (pname u) = none := by
    intro u hu
    show (cleanVotes s (s.votes.filter (fun p => p.1 != B.hash))).lookup (pname u) = none
    rw [cleanVotes_eq, lookup_filter_key]
    split
    · rw [lookup_filter_key (β := List (Nat × Sig)) (fun x => x != B.hash) s.votes (pname u), (hc.names u hu).2]
      simp
    · rfl
  have hrule : ∀ s' : RState, s'.chain = m.chain → s'.lock = m.lock →
      (voteRule c m.view (newBlock c m m.highQC) none).run s' = pure (true, s') :=
    RuleReady.rule (b := newBlock c m m.highQC) (hc.ready c hr _) hc.hasB (Nat.le_refl _) rfl
  obtain ⟨G, evs, bytes', hrun, hGq, hpass, hlen', hS, hlp, ht, hGhq, _, hself, hsend, _, hcmt⟩ :=
    lead_next k c L2 w w N (N + 3) m B P none [Ev.viewChange (w + 1) false] hs hr hid hq2 hld1 hld2 hf hmview
      (by show s.lastVoted ≤ w; rw [hc.lastVoted]; exact Nat.le_refl _) hc.wvc hc.wprop
      (by show [Ev.viewChange (s.view + 1) false] = _; rw [hc.view]) rfl hc.fetch
      hc.hasB (Nat.le_of_eq hc.bview) (Nat.le_of_eq hc.bview)
      (verifyQC_of_votes k c m B.hash B sgq hc.hasB rfl hgen hverq hqlen) hld.mark hrule hc.hasP hc.pview (Nat.le_refl w) (Nat.le_succ w)
      hc.lock (fun u hu => ⟨(hc.names u hu).1, hmvn u hu⟩) hc.small
      (by have := hc.small; show 2 * s.chain.blocks.length + (w + 3) ≤ N + 3; omega)
  have hquiet : ∀ e ∈ G.queue, e.quiet = true := by
    rw [hGq]
    exact quiet_append (by intro e he; rw [List.mem_singleton.mp he]; rfl) hpass
  have hex := step_ext k c s (.vote id (some (.multi c.scheme [⟨i, bytes⟩])) B.hash false) hf.2
  show ∃ (sgq : Sig) (bytes' : Nat) (B' : Block), _ ∧ _ ∧ _ ∧ _ ∧
    verify (fun b => (step k c s (.vote id (some (.multi c.scheme [⟨i, bytes⟩])) B.hash false)).1.truth.lookup b) _ _ _ = true ∧ _
  rw [show step k c s (.vote id (some (.multi c.scheme [⟨i, bytes⟩])) B.hash false) =
      ({ G with queue := [], out := [] }, G.out ++ G.queue.map Ev.toOut) by
    rw [hstep G hrun, runLoop_drain k c 99998 G hquiet hS.wvc
      (by rw [hGq]; simp only [List.length_append, List.length_singleton]; omega)]
    rfl] at hex ⊢
  refine ⟨sgq, bytes', newBlock c m m.highQC, hS.bhash, rfl, hS.bview, rfl,
    verify_mono _ _ _ _ _ hex.truth hverq, hqlen, hS, hlp, ht, hGhq, ?_, ?_, ?_⟩
  · intro e
    refine ⟨(hself e).1, fun C => ?_⟩
    rw [route_drain C c.id _ _ hquiet, (hself e).2]
    simp [route]
  · intro e C
    rw [route_drain C c.id _ _ hquiet, hsend e]
    simp [route]
  · intro Z hZ'
    obtain ⟨z1, z2⟩ := hcmt Z ⟨hZ'.walk, hZ'.below⟩
    refine ⟨z1, fun lk1 lk2 hZs => ?_⟩
    obtain ⟨y1, y2, y3⟩ := z2 (by show B.hash ≠ ""; rw [hc.bhash]; exact pname_ne_empty _) lk1 lk2 hZs
    rw [hGq]
    exact ⟨y1, List.mem_append_right _ (List.mem_map.mpr ⟨_, List.mem_append_right _ y2, rfl⟩),
      List.mem_append_right _ (List.mem_map.mpr ⟨_, List.mem_append_right _ y3, rfl⟩)⟩

/-- the fields `SyncR` / `SyncL` / `WalkZ` read -/
@[reducible] def SProj (s : RState) :=
  (s.view, s.lastVoted, s.queue, s.waitingVC, s.waitingProp, s.chain, s.highQC, s.lock, s.votes, s.lastProposed,
   s.truth, s.committed)

theorem syncR_proj {w N : Nat} {B P : Block} {s s' : RState} (hp : SProj s' = SProj s) (h : SyncR w N B P s) :
    SyncR w N B P s' := by
  simp only [SProj, Prod.mk.injEq] at hp
  obtain ⟨p1, p2, p3, p4, p5, p6, p7, p8, p9, p10, p11, p12⟩ := hp
  exact ⟨p1 ▸ h.view, p2 ▸ h.lastVoted, p3 ▸ h.queue, p4 ▸ h.wvc, p5 ▸ h.wprop, p6 ▸ h.fetch, h.bhash, h.bview, p6 ▸ h.hasB,
    p6 ▸ h.hasP, h.pview, p7 ▸ h.hq, p8 ▸ h.lock, fun u hu => ⟨p6 ▸ (h.names u hu).1, p9 ▸ (h.names u hu).2⟩, p6 ▸ h.small⟩

theorem walkZ_proj {Z : Block} {s s' : RState} (hp : SProj s' = SProj s) (h : WalkZ Z s) : WalkZ Z s' := by
  simp only [SProj, Prod.mk.injEq] at hp
  obtain ⟨p1, p2, p3, p4, p5, p6, p7, p8, p9, p10, p11, p12⟩ := hp
  exact ⟨p6 ▸ p12 ▸ h.walk, p12 ▸ h.below⟩

theorem syncM_proj {w N : Nat} {B P : Block} {s s' : RState} (hp : SProj s' = SProj s) (h : SyncM w N B P s) :
    SyncM w N B P s' := by
  have hc := syncR_proj hp h.core
  simp only [SProj, Prod.mk.injEq] at hp
  obtain ⟨p1, p2, p3, p4, p5, p6, p7, p8, p9, p10, p11, p12⟩ := hp
  exact ⟨hc, p6 ▸ p10 ▸ h.mark, p7 ▸ h.hqge⟩

theorem syncC_proj {c : RCfg} {w N : Nat} {B P : Block} {vs : List (Nat × Sig)} {s s' : RState} (hp : SProj s' = SProj s)
    (h : SyncC c w N B P vs s) : SyncC c w N B P vs s' := by
  have hc := syncR_proj hp h.core
  simp only [SProj, Prod.mk.injEq] at hp
  obtain ⟨p1, p2, p3, p4, p5, p6, p7, p8, p9, p10, p11, p12⟩ := hp
  exact ⟨hc, p6 ▸ p10 ▸ h.mark, p9 ▸ h.votes, p11 ▸ h.valid, h.nodup, p7 ▸ h.hqge⟩

theorem markWalk_mono : ∀ (f f' : Nat) (st st' : List (Hash × Block)) (lp : Nat) (b : Block),
    f ≤ f' → StoreLe st st' → markWalk f st lp b = true → markWalk f' st' lp b = true := by
  intro f
  induction f with
  | zero => intro f' st st' lp b _ _ h; simp [markWalk] at h
  | succ n ih =>
    intro f' st st' lp b hf hs h
    cases f' with
    | zero => omega
    | succ m =>
      unfold markWalk at h ⊢
      by_cases h1 : b.view > lp
      · rw [if_pos h1] at h ⊢
        cases hl : st.lookup b.qc.hash with
        | none => rw [hl] at h; cases h
        | some nb =>
          rw [hl] at h
          rw [hs _ _ hl]
          exact ih m st st' lp nb (by omega) hs h
      · rw [if_neg h1]

theorem mark_step (s s' : RState) (B B' : Block) (hb : s'.chain.blocks = (B'.hash, B') :: s.chain.blocks)
    (hf : s.chain.fetchable = []) (hf' : s'.chain.fetchable = []) (hlp : s'.lastProposed = s.lastProposed)
    (hnew : s.chain.blocks.lookup B'.hash = none) (hq : s.chain.blocks.lookup B'.qc.hash = some B)
    (h : markWalk (s.chain.fuel + 1) s.chain.blocks s.lastProposed B = true) :
    markWalk (s'.chain.fuel + 1) s'.chain.blocks s'.lastProposed B' = true := by
  have hfu : s'.chain.fuel = s.chain.fuel + 1 := by
    unfold RChain.fuel; rw [hb, hf, hf']; simp
  rw [hfu, hlp]
  unfold markWalk
  split
  · rw [hb, storeLe_cons _ _ hnew _ _ hq]
    exact markWalk_mono _ _ _ _ _ _ (Nat.le_refl _) (storeLe_cons _ _ hnew) h
  · rfl

/-! ## the first proposal after a recovery round: the view was entered on a timeout certificate -/

/-- the view was entered on a timeout certificate; `b'.qc` certifies an older stored block `hb` (the highest high QC of a
quorum), so the vote rule must be assumed ready (`RuleReady`: what `cover_of_reach` provides) -/
theorem nl_step_cur_next (k : Keys) (c : RCfg) (L L2 w N : Nat) (hb P b' : Block) (s : RState)
    (hs : c.scheme ≠ .bls12) (ha : c.agg = false) (hr : c.rules = .chained ∨ c.rules = .simple)
    (hld1 : c.leader (w + 1) = L) (hld2 : c.leader (w + 1 + 1) = L2)
    (hown : c.id = L2 → c.cfg.has c.id = true ∧ 2 ≤ c.cfg.quorum)
    (hview : s.view = w + 1) (hlv : s.lastVoted ≤ w) (hq : s.queue = []) (hwvc : s.waitingVC = [])
    (hwprop : s.waitingProp = []) (hfe : s.chain.fetchable = []) (hf : FreshS s) (hN : N + 12 ≤ 99999)
    (hb1 : b'.hash = pname (w + 1)) (hb2 : b'.parent = b'.qc.hash) (hb3 : b'.view = w + 1) (hqv : b'.qc.view < w + 1)
    (hver : verifyQC (env k c s) b'.qc = true) (hhb : s.chain.blocks.lookup b'.qc.hash = some hb) (hhbv : hb.view ≤ w)
    (hP : s.chain.blocks.lookup hb.qc.hash = some P) (hPv : P.view ≤ w)
    (hready : RuleReady c s (w + 1) hb) (hhq : s.highQC.view ≤ w) (hlock : s.lock.view ≤ w) (hcm : s.committed.view ≤ w)
    (hnames : ∀ u, w < u → s.chain.blocks.lookup (pname u) = none ∧ s.votes.lookup (pname u) = none)
    (hsmall : 2 * s.chain.blocks.length + (w + 1) ≤ N)
    (hwalk : cmWalk (s.chain.blocks.length + 2) s.chain.blocks s.committed.view hb = true) :
    let r := step k c s (.propose L b' none)
    SyncR (w + 1) (N + 2) b' hb r.1 ∧ WalkZ b' r.1 ∧
    r.1.lastProposed = s.lastProposed ∧ r.1.chain.blocks = (b'.hash, b') :: s.chain.blocks ∧
    (b'.qc.view = hb.view → hb.view ≤ r.1.highQC.view) ∧
    (∃ bytes, r.1.truth.lookup bytes = some ⟨c.id, blkMsg b'.hash⟩ ∧
      (c.id = L2 → r.1.votes.lookup b'.hash = some [(c.id, .multi c.scheme [⟨c.id, bytes⟩])] ∧
        ∀ C : SysCfg, route C c.id r.2 = []) ∧
      (c.id ≠ L2 → ∀ C : SysCfg, route C c.id r.2 =
        [(L2, Ev.vote c.id (some (.multi c.scheme [⟨c.id, bytes⟩])) b'.hash false)])) := by
  let sA : RState := { s with out := [], queue := [] }
  let q1 : QC := if hb.view ≤ s.highQC.view then s.highQC else b'.qc
  -- `advanceView` only refreshes the high QC
  let s1 : RState := { s with highQC := q1, view := w + 1, lastTimeout := s.lastTimeout, ghost := s.ghost, queue := [], out := [] }
  have hadv : (advanceView k c { qc := some b'.qc }).run sA = pure ((), s1) := by
    rw [advanceView_stay k c sA b'.qc hb ha hver hhb (by show _ < s.view; omega)]
    show (pure ((), ({ sA with highQC := q1 } : RState)) : Id (Unit × RState)) =
      pure ((), { s with highQC := q1, view := w + 1, queue := [], out := [] })
    rw [← hview]
  have hq1 : q1.view ≤ w ∧ (b'.qc.view = hb.view → hb.view ≤ q1.view) := by
    show (if hb.view ≤ s.highQC.view then s.highQC else b'.qc).view ≤ w ∧
      (b'.qc.view = hb.view → hb.view ≤ (if hb.view ≤ s.highQC.view then s.highQC else b'.qc).view)
    split <;> constructor <;> omega
  obtain ⟨n1, n4, n5, n6, n7, ⟨bytes, n8, nself, nsend⟩, _⟩ := nl_step_adv k c L L2 w (w + 1) N (N + 2) hb P b' s q1 _ _ [] []
    hs hr hld1 hld2 hown hq hwvc hwprop hfe hf hlv hN hadv (fun e he => by cases he) (Nat.zero_le _) hq1.1 hb1 hb2 hb3 hqv hver
    (RuleReady.rule (by rw [hb3]; exact hready) hhb (Nat.le_refl _) hb2)
    hhb hhbv hP (by omega) (Nat.le_succ _) (Nat.le_refl _) (by omega) hnames hsmall (by omega)
  exact ⟨n1, n7 hcm hwalk, n5, n6, fun e => by rw [n4]; exact hq1.2 e,
    ⟨bytes, n8, fun e => ⟨(nself e).1, (nself e).2⟩, fun e => (nsend e).2⟩⟩

end HsVerif.Model
