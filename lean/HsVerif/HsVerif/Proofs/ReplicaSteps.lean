import HsVerif.Model.Replica
import Std.Do
import Std.Tactic.Do
/-!
Every handler of the replica model is a sequence of PRIMITIVE UPDATES of the state, and there are only twenty forms of
them (`Upd`, one constructor per assignment in Model/Replica.lean).  Each carries a `Tag` saying what kind it is; an effect
or a queued event is tagged by what is emitted or queued, so that a list of tags can say "emits only signing requests" or
"queues only commit events".  `Steps L s s'`: `s'` is reached from `s` by updates whose tags are in `L`; each handler gets
the list of what it may do (`…_steps`), proved once along the call graph.  A fact that every update of the kinds in `L`
preserves then holds across every handler with that list (the frame rule: `StepsOf.preserves`, `StepsOf.frame`).

For an invariant that some kinds of update keep only under conditions, the handlers from `voteFor` upwards have RULES: a
Hoare triple for the handler from triples for its callees and from what its own few assignments do, for abstract
assertions.  The `_guard` forms also hand over what the handler itself has tested or read; the `_accept` forms take
`tryCommit` and `voteFor` together, for an invariant that does not hold in between.  Each verifier below `voteFor` has ONE
analysis, of which the invariant modules take instances.  What the atomic half of vote collection does, and what the event
loop does with the head of its queue, are said as EQUATIONS of runs (the latter at the end).

Namespaces: the two conversions between triples and runs (`run_res_of_triple`, `triple_of_run`) are in `HsVerif.Proofs`;
everything else here, and nearly everything in the Proofs/Replica* modules above, is in `HsVerif.Model`, beside the functions
it is about and the types `Upd`, `Steps`, `StepsOf` whose dot notation it uses (the exceptions keep the full names under which
statements of properties mention them: `Accepts`, `advanceView_progress` in `HsVerif.Proofs`, ReplicaFrames; `runEvents`,
`step_inv`, … in `HsVerif.Props.C03` / `C03Cur`, ReplicaEvidence).  `start_rule` and `step_rule` speak of the
fuel `100000` because that is what `start` and `step` give the event loop (Model/Replica.lean).
-/
open Std.Do
set_option mvcgen.warning false
namespace HsVerif.Proofs
open HsVerif.Model

theorem run_res_of_triple {α} (f : M α) (P : RState → Prop) (Q : α → RState → Prop)
    (h : ⦃fun s => ⌜P s⌝⦄ f ⦃⇓ r s => ⌜Q r s⌝⦄) (s : RState) (hp : P s) : Q (f.run s).1 (f.run s).2 := by
  have := h s hp
  simpa [wp, StateT.run, Id.run] using this

theorem triple_of_run {α} (f : M α) (P : RState → Prop) (Q : α → RState → Prop)
    (h : ∀ s, P s → Q (f.run s).1 (f.run s).2) : ⦃fun s => ⌜P s⌝⦄ f ⦃⇓ r s => ⌜Q r s⌝⦄ := by
  intro s hp
  have := h s hp
  simpa [wp, StateT.run, Id.run] using this

end HsVerif.Proofs

namespace HsVerif.Model
open HsVerif.Proofs

theorem triple_conseq {α} {f : M α} {P P' : RState → Prop} {Q Q' : α → RState → Prop}
    (h : ⦃fun s => ⌜P s⌝⦄ f ⦃⇓ r s => ⌜Q r s⌝⦄) (hp : ∀ s, P' s → P s) (hq : ∀ r s, Q r s → Q' r s) :
    ⦃fun s => ⌜P' s⌝⦄ f ⦃⇓ r s => ⌜Q' r s⌝⦄ :=
  triple_of_run _ _ _ fun s hs => hq _ _ (run_res_of_triple _ _ _ h s (hp s hs))

/-- a triple without a fact about the result, in the form the rules take it with one -/
theorem triple_resTrue {α} {f : M α} {I : RState → Prop} {p : α → Prop}
    (h : ⦃fun s => ⌜I s⌝⦄ f ⦃⇓ _ s => ⌜I s⌝⦄) : ⦃fun s => ⌜I s⌝⦄ f ⦃⇓ r s => ⌜I s ∧ (p r → True)⌝⦄ :=
  triple_of_run _ _ _ fun s hs => ⟨run_res_of_triple _ _ _ h s hs, fun _ => trivial⟩

theorem triple_and {α} {f : M α} {P : RState → Prop} {Q Q' : α → RState → Prop}
    (h : ⦃fun s => ⌜P s⌝⦄ f ⦃⇓ r s => ⌜Q r s⌝⦄) (h' : ⦃fun _ => ⌜True⌝⦄ f ⦃⇓ r s => ⌜Q' r s⌝⦄) :
    ⦃fun s => ⌜P s⌝⦄ f ⦃⇓ r s => ⌜Q r s ∧ Q' r s⌝⦄ :=
  triple_of_run _ _ _ fun s hs => ⟨run_res_of_triple _ _ _ h s hs, run_res_of_triple _ _ _ h' s trivial⟩

/-- a triple that does not need the fact `W` the rules offer it -/
theorem triple_of_left {α} {f : M α} {I W : RState → Prop} {Q : α → RState → Prop}
    (h : ⦃fun s => ⌜I s⌝⦄ f ⦃⇓ r s => ⌜Q r s⌝⦄) : ⦃fun s => ⌜I s ∧ W s⌝⦄ f ⦃⇓ r s => ⌜Q r s⌝⦄ :=
  triple_of_run _ _ _ fun s hs => run_res_of_triple _ _ _ h s hs.1

def ChainGrows (x : List (Hash × Block)) (c : RChain) : Prop :=
  ∀ h b, x.lookup h = some b → c.blocks.lookup h = some b

theorem ChainGrows.refl (c : RChain) : ChainGrows c.blocks c := fun _ _ h => h

theorem lookup_cons_stable (l : List (Hash × Block)) (k h : Hash) (b nb : Block)
    (hn : l.lookup k = none) (hl : l.lookup h = some b) : ((k, nb) :: l).lookup h = some b := by
  rw [List.lookup_cons]
  split
  · rename_i heq
    have : h = k := by simpa using heq
    rw [this, hn] at hl; cases hl
  · exact hl

theorem chainGrows_get (x) (c : RChain) (h : Hash) (hg : ChainGrows x c) : ChainGrows x (c.get h).1 := by
  unfold RChain.get
  split
  · exact hg
  · rename_i hn
    split
    · intro k b hx
      exact lookup_cons_stable _ _ _ _ _ hn (hg k b hx)
    · exact hg

theorem chainGrows_store (x) (c : RChain) (nb : Block) (hg : ChainGrows x c) : ChainGrows x (c.store nb) := by
  unfold RChain.store
  split
  · exact hg
  · rename_i hn
    intro k b hx
    exact lookup_cons_stable _ _ _ _ _ hn (hg k b hx)

theorem chainGrows_extendsAux (x) : ∀ (fuel : Nat) (c : RChain) (b t : Block), ChainGrows x c →
    ChainGrows x (RChain.extendsAux fuel c b t).1 := by
  intro fuel
  induction fuel with
  | zero => intro c b t hg; exact hg
  | succ n ih =>
    intro c b t hg
    unfold RChain.extendsAux
    split
    · have hget := chainGrows_get x c b.parent hg
      split
      · rename_i c' p heq
        have : c' = (c.get b.parent).1 := by rw [heq]
        exact ih c' p t (this ▸ hget)
      · rename_i c' heq
        have : c' = (c.get b.parent).1 := by rw [heq]
        exact this ▸ hget
    · exact hg

theorem chainGrows_extends (x) (c : RChain) (b t : Block) (hg : ChainGrows x c) : ChainGrows x (c.extends b t).1 :=
  chainGrows_extendsAux x _ c b t hg

theorem pruneAux_blocks (ch : List Hash) : ∀ (fuel h : Nat) (c : RChain) (acc : List Block),
    (RChain.pruneAux ch fuel h c acc).1.blocks = c.blocks := by
  intro fuel
  induction fuel with
  | zero => intro h c acc; rfl
  | succ n ih =>
    intro h c acc
    unfold RChain.pruneAux
    split
    · rw [ih]
    · rfl

theorem chainGrows_prune (x) (c : RChain) (cm : Block) (h : Nat) (hg : ChainGrows x c) :
    ChainGrows x (c.pruneToHeight cm h).1 := by
  unfold RChain.pruneToHeight
  intro k b hx
  simp only
  rw [pruneAux_blocks]
  exact hg k b hx

inductive Tag
  | outSign | outSend | outPanic | outEvent
  | enqCommit | enqNewview | enqVC | enqOther
  | pop | requeueProp | requeueVC | deferProp | deferVC
  | chain | sign | lock | committed | votes | voted | timedOut | adv | highTC | highQC
  | lastProposed | nextCmd | timeouts
deriving DecidableEq

/-- effects by who emits them: the signing primitive, the senders, the panic marker, and `tick`'s
re-emission of internal events -/
def Out.tag : Out → Tag
  | .sign _ => .outSign
  | .sendPropose .. | .sendVote .. | .sendTimeout _ | .sendNewView .. => .outSend
  | .panic => .outPanic
  | .viewChange .. | .commit _ | .exec _ | .abort _ => .outEvent

def Ev.tag : Ev → Tag
  | .commit _ | .exec _ | .abort _ => .enqCommit
  | .newview .. => .enqNewview
  | .viewChange .. => .enqVC
  | _ => .enqOther

/-- one assignment of Model/Replica.lean, with the guard under which it happens where a later
fact needs it -/
inductive Upd : Tag → RState → RState → Prop
  | out (s : RState) (o : Out) : Upd o.tag s { s with out := s.out ++ [o] }
  | enq (s : RState) (e : Ev) : Upd e.tag s { s with queue := s.queue ++ [e] }
  | pop (s : RState) (e : Ev) (rest : List Ev) : s.queue = e :: rest → Upd .pop s { s with queue := rest }
  | requeueProp (s : RState) : Upd .requeueProp s { s with waitingProp := [], queue := s.queue ++ s.waitingProp }
  | requeueVC (s : RState) : Upd .requeueVC s { s with waitingVC := [], queue := s.queue ++ s.waitingVC }
  | deferProp (s : RState) (id : Nat) (sig : Option Sig) (hash : Hash) :
      Upd .deferProp s { s with waitingProp := s.waitingProp ++ [.vote id sig hash true] }
  | deferVC (s : RState) (id : Nat) (b : Block) (agg : Option AggQC) :
      Upd .deferVC s { s with waitingVC := s.waitingVC ++ [.propose id b agg] }
  | chain (s : RState) (c' : RChain) : ChainGrows s.chain.blocks c' → Upd .chain s { s with chain := c' }
  | sign (s : RState) (a : Atom) :
      Upd .sign s { s with truth := (s.nextBytes, a) :: s.truth, nextBytes := s.nextBytes + 1 }
  | lock (s : RState) (b : Block) : Upd .lock s { s with lock := if b.view > s.lock.view then b else s.lock }
  | committed (s : RState) (b : Block) : Upd .committed s { s with committed := b }
  | votes (s : RState) (v : List (Hash × List (Nat × Sig))) : Upd .votes s { s with votes := v }
  | voted (s : RState) (b : Block) (sender : Nat) :
      Upd .voted s { s with lastVoted := b.view, ghost := s.ghost ++ [.vote b sender] }
  | timedOut (s : RState) (t : TimeoutMsg) (view : Nat) :
      Upd .timedOut s { s with lastTimeout := some t, lastVoted := if s.lastVoted < view then view else s.lastVoted,
                               ghost := s.ghost ++ [.tmo view] }
  | adv (s : RState) (view : Nat) (timeout : Bool) : ¬ view < s.view →
      Upd .adv s { s with view := view + 1, lastTimeout := none, ghost := s.ghost ++ [.adv s.view view timeout] }
  | highTC (s : RState) (tc : TC) : Upd .highTC s { s with highTC := if tc.view > s.highTC.view then tc else s.highTC }
  | highQC (s : RState) (q : QC) (nb : Block) :
      Upd .highQC s { s with highQC := if nb.view ≤ s.highQC.view then s.highQC else q }
  | lastProposed (s : RState) (v : Nat) : Upd .lastProposed s { s with lastProposed := v }
  | nextCmd (s : RState) : Upd .nextCmd s { s with nextCmd := s.nextCmd + 1 }
  | timeouts (s : RState) (ts : List TimeoutMsg) : Upd .timeouts s { s with timeouts := ts }

inductive Steps (L : List Tag) : RState → RState → Prop
  | refl (s : RState) : Steps L s s
  | snoc {s s' s'' : RState} {t : Tag} : Steps L s s' → t ∈ L → Upd t s' s'' → Steps L s s''

theorem Steps.weaken {L L' : List Tag} (hL : ∀ t ∈ L, t ∈ L') {s s' : RState} (h : Steps L s s') : Steps L' s s' := by
  induction h with
  | refl => exact .refl _
  | snoc _ ht hu ih => exact .snoc ih (hL _ ht) hu

theorem Steps.step {L : List Tag} {s0 s s' : RState} {t : Tag} (h : Steps L s0 s) (hu : Upd t s s')
    (ht : t ∈ L := by decide) : Steps L s0 s' := .snoc h ht hu

theorem Steps.trans {L : List Tag} {s s' s'' : RState} (h : Steps L s s') (h' : Steps L s' s'') : Steps L s s'' := by
  induction h' with
  | refl => exact h
  | snoc _ ht hu ih => exact .snoc ih ht hu

theorem Steps.preserves {L : List Tag} {P : RState → Prop} (hu : ∀ t ∈ L, ∀ s s', Upd t s s' → P s → P s')
    {s s' : RState} (h : Steps L s s') (hp : P s) : P s' := by
  induction h with
  | refl => exact hp
  | snoc _ hm hu' ih => exact hu _ hm _ _ hu' ih

def StepsOf {α} (L : List Tag) (f : M α) : Prop := ∀ s, Steps L s (f.run s).2

/-- form in which the footprint of a callee is handed to `mvcgen` inside a caller with the list `L'` -/
theorem StepsOf.spec {α} {L : List Tag} {f : M α} (h : StepsOf L f) (L' : List Tag) (s0 : RState)
    (hL : ∀ t ∈ L, t ∈ L' := by decide) :
    ⦃fun s => ⌜Steps L' s0 s⌝⦄ f ⦃⇓ _ s => ⌜Steps L' s0 s⌝⦄ :=
  triple_of_run _ _ _ fun s hs => hs.trans ((h s).weaken hL)

theorem StepsOf.weaken {α} {L : List Tag} {f : M α} (h : StepsOf L f) (L' : List Tag)
    (hL : ∀ t ∈ L, t ∈ L' := by decide) : StepsOf L' f := fun s => (h s).weaken hL

theorem StepsOf.of_triple {α} {L : List Tag} {f : M α}
    (h : ∀ s0, ⦃fun s => ⌜Steps L s0 s⌝⦄ f ⦃⇓ _ s => ⌜Steps L s0 s⌝⦄) : StepsOf L f :=
  fun s => run_res_of_triple f _ _ (h s) s (.refl s)

theorem StepsOf.preserves {α} {L : List Tag} {f : M α} (h : StepsOf L f) {P : RState → Prop}
    (hu : ∀ t ∈ L, ∀ s s', Upd t s s' → P s → P s') :
    ⦃fun s => ⌜P s⌝⦄ f ⦃⇓ _ s => ⌜P s⌝⦄ :=
  triple_of_run _ _ _ fun s hp => (h s).preserves hu hp

theorem upd_of_notin {I : RState → Prop} {bad : List Tag} (h : ∀ {t s s'}, Upd t s s' → t ∉ bad → I s → I s')
    (L : List Tag) (hL : ∀ t ∈ L, t ∉ bad := by decide) : ∀ t ∈ L, ∀ s s', Upd t s s' → I s → I s' :=
  fun t ht _ _ hu => h hu (hL t ht)

theorem StepsOf.frame {α β} {L : List Tag} {f : M α} (h : StepsOf L f) {π : RState → β} {bad : List Tag}
    (hπ : ∀ {t s s'}, Upd t s s' → t ∉ bad → π s' = π s) (x : β) (hL : ∀ t ∈ L, t ∉ bad := by decide) :
    ⦃fun s => ⌜π s = x⌝⦄ f ⦃⇓ _ s => ⌜π s = x⌝⦄ :=
  h.preserves fun t ht _ _ hu hx => (hπ hu (hL t ht)).trans hx

theorem Steps.proj {β} {L : List Tag} {π : RState → β} {bad : List Tag}
    (hπ : ∀ {t s s'}, Upd t s s' → t ∉ bad → π s' = π s) {s s' : RState} (h : Steps L s s')
    (hL : ∀ t ∈ L, t ∉ bad := by decide) : π s' = π s :=
  h.preserves (P := fun s' => π s' = π s) (fun t ht _ _ hu hx => (hπ hu (hL t ht)).trans hx) rfl

theorem Upd.chainGrows {t : Tag} {s s' : RState} (h : Upd t s s') : ChainGrows s.chain.blocks s'.chain := by
  cases h <;> first | exact .refl _ | assumption

theorem Steps.chainGrows {L : List Tag} {s s' : RState} (h : Steps L s s') : ChainGrows s.chain.blocks s'.chain :=
  h.preserves (P := fun s' => ChainGrows s.chain.blocks s'.chain)
    (fun _ _ _ _ hu hp k b hk => hu.chainGrows k b (hp k b hk)) (.refl _)

theorem Upd.view_eq {t : Tag} {s s' : RState} (h : Upd t s s') (ht : t ∉ [Tag.adv]) : s'.view = s.view := by
  cases h <;> first | rfl | exact absurd (by decide) ht


/-! ## What each handler may do

Callees first.  Where a handler has no equation or rule of its own the `have`s hand the callees' lists to `mvcgen`; what
is left are the handler's own assignments, each closed by the `Upd` constructor that mirrors it. -/

abbrev tryCommitT : List Tag := [.chain, .lock, .enqCommit, .committed]
abbrev collectVoteT : List Tag := [.chain, .deferProp, .votes, .enqNewview]
abbrev voteForT : List Tag := [.outSign, .sign, .voted]
/-- `onValidPropose`: commit, vote, hand the vote on -/
abbrev proposeT : List Tag := .outSend :: voteForT ++ tryCommitT ++ collectVoteT
abbrev createT : List Tag := .lastProposed :: .nextCmd :: proposeT
abbrev advanceT : List Tag := .highTC :: .highQC :: .adv :: .enqVC :: createT
abbrev timeoutT : List Tag := .timeouts :: .timedOut :: advanceT
abbrev tickT : List Tag := .pop :: .requeueProp :: .requeueVC :: .outEvent :: .deferVC :: timeoutT

/-- Closes the verification conditions that are left when the callees' lists have been used.  The state of such a
goal is the state of a hypothesis with some of the handler's OWN assignments applied; `us` lists the `Upd` constructors
that mirror them.  Each round peels the outermost assignment off the goal (`Steps.step`, whose side condition
`tag ∈ L` is closed by `decide`) until a hypothesis is left. -/
macro "own_steps" "[" us:term,* "]" : tactic =>
  `(tactic| all_goals repeat (first | assumption $[| refine Steps.step ?_ $us]*))

section Handlers
variable (k : Keys) (c : RCfg)

/-- the tag is a parameter so that the list stays a closed term (which `decide` needs) when `o` has arguments -/
theorem emit_steps (o : Out) (t : Tag) (ht : o.tag = t := by rfl) : StepsOf [t] (emit o) := by
  refine .of_triple fun s0 => ?_
  mvcgen [emit]
  exact Steps.step ‹Steps _ _ _› (.out _ _) (by simp [ht])

theorem addEvent_steps (e : Ev) (t : Tag) (ht : e.tag = t := by rfl) : StepsOf [t] (addEvent e) := by
  refine .of_triple fun s0 => ?_
  mvcgen [addEvent]
  exact Steps.step ‹Steps _ _ _› (.enq _ _) (by simp [ht])

theorem emitAny_steps (o : Out) : StepsOf [.outSign, .outSend, .outPanic, .outEvent] (emit o) :=
  (emit_steps o o.tag).weaken _ (by cases o <;> simp [Out.tag])

theorem addEventAny_steps (e : Ev) : StepsOf [.enqCommit, .enqNewview, .enqVC, .enqOther] (addEvent e) :=
  (addEvent_steps e e.tag).weaken _ (by cases e <;> simp [Ev.tag])

theorem getBlock_steps (h : Hash) : StepsOf [.chain] (getBlock h) := by
  refine .of_triple fun s0 => ?_
  mvcgen [getBlock]
  exact Steps.step ‹Steps _ _ _› (.chain _ _ (chainGrows_get _ _ _ (.refl _)))

theorem fetchFor_steps (h : Hash) : StepsOf [.chain] (fetchFor h) := by
  refine .of_triple fun s0 => ?_
  have hg := (getBlock_steps h).spec [.chain] s0
  mvcgen [fetchFor, hg]

theorem signMsg_steps (m : Msg) : StepsOf [.outSign, .sign] (signMsg c m) := by
  refine .of_triple fun s0 => ?_
  have he := (emit_steps (.sign m) .outSign).spec [.outSign, .sign] s0
  mvcgen [signMsg, he]
  own_steps [.sign _ _]

theorem qcRef_steps (q : QC) : StepsOf [.chain] (qcRef q) := by
  refine .of_triple fun s0 => ?_
  have hg := fun h => (getBlock_steps h).spec [.chain] s0
  mvcgen [qcRef, hg]

theorem extendsM_steps (b t : Block) : StepsOf [.chain] (extendsM b t) := by
  refine .of_triple fun s0 => ?_
  mvcgen [extendsM]
  exact Steps.step ‹Steps _ _ _› (.chain _ _ (chainGrows_extends _ _ _ _ (.refl _)))

theorem voteRule_steps (v : Nat) (b : Block) (agg : Option AggQC) : StepsOf [.chain] (voteRule c v b agg) := by
  refine .of_triple fun s0 => ?_
  have hg := fun h => (getBlock_steps h).spec [.chain] s0
  have he := fun b t => (extendsM_steps b t).spec [.chain] s0
  mvcgen [voteRule, hg, he]

theorem commitRule_steps (b : Block) : StepsOf [.chain, .lock] (commitRule c b) := by
  refine .of_triple fun s0 => ?_
  have hq := fun q => (qcRef_steps q).spec [.chain, .lock] s0
  have hg := fun h => (getBlock_steps h).spec [.chain, .lock] s0
  mvcgen [commitRule, hq, hg]
  own_steps [.lock _ _]

theorem commitInner_steps (fuel : Nat) (b : Block) : StepsOf [.chain, .enqCommit, .committed] (commitInner fuel b) := by
  refine .of_triple fun s0 => ?_
  have hg := fun h => (getBlock_steps h).spec [.chain, .enqCommit, .committed] s0
  have hc := (addEvent_steps (.commit b) .enqCommit).spec [.chain, .enqCommit, .committed] s0
  have hx := (addEvent_steps (.exec b) .enqCommit).spec [.chain, .enqCommit, .committed] s0
  induction fuel generalizing b with
  | zero => mvcgen [commitInner]
  | succ n ih =>
    have hi := fun p => ih p ((addEvent_steps (.commit p) .enqCommit).spec _ s0) ((addEvent_steps (.exec p) .enqCommit).spec _ s0)
    mvcgen [commitInner, hg, hc, hx, hi]
    own_steps [.committed _ _]

theorem tryCommit_steps (b : Block) : StepsOf tryCommitT (tryCommit c b) := by
  refine .of_triple fun s0 => ?_
  have hr := (commitRule_steps c b).spec tryCommitT s0
  have hi := fun n b => (commitInner_steps n b).spec tryCommitT s0
  have ha := fun f => (addEvent_steps (.abort f) .enqCommit).spec tryCommitT s0
  mvcgen [tryCommit, hr, hi, ha]
  case inv1 => exact ⇓ _ s => ⌜Steps tryCommitT s0 s⌝
  own_steps [.chain _ _ (chainGrows_store _ _ _ (.refl _)), .chain _ _ (chainGrows_prune _ _ _ _ (.refl _))]

/-! ### Vote collection: `collectVote` = `collectVotePre`, then `verifyCertM`

The second piece runs atomically, in any state, and has ONE analysis: the equation `verifyCertM_run`. -/

/-- `votesCleanup` as a function on the vote table -/
def cleanVotes (s : RState) (l : List (Hash × List (Nat × Sig))) : List (Hash × List (Nat × Sig)) :=
  l.filter fun p =>
    match s.chain.localGet p.1 with
    | some b => !(b.view ≤ s.highQC.view)
    | none => false

/-- the state after `collectVote` has kept the vote `sg` of signer `i` for `hash` -/
def addVoteS (s : RState) (hash : Hash) (i : Nat) (sg : Sig) : RState :=
  { s with votes := cleanVotes s ((hash, (s.votes.lookup hash).getD [] ++ [(i, sg)]) :: s.votes.filter (fun p => p.1 != hash)) }

/-- the state after `collectVote` has turned the votes for `blk` into the certificate `qc` -/
def qcFormedS (c : RCfg) (s : RState) (hash : Hash) (qc : QC) : RState :=
  { s with votes := cleanVotes s (s.votes.filter (fun p => p.1 != hash)),
           queue := s.queue ++ [.newview c.id { qc := some qc }] }

/-- the certificate `CreateQuorumCert` makes of the votes `vs` for the captured block `b` -/
def certOf (c : RCfg) (b : Block) (vs : List (Nat × Sig)) : Option QC :=
  if b.hash == genesisHash then some genesisQC
  else match combine c.cfg (vs.map (·.2)) with
    | .ok s => some ⟨some s, b.view, b.hash⟩
    | _ => none

theorem verifyCertM_run (sg : Sig) (hash : Hash) (b : Block) (s : RState) :
    (verifyCertM k c (some sg) hash b).run s = pure ((),
      match verifyPC (env k c s) (some sg) hash with
      | .ok () =>
        if ((s.votes.lookup hash).getD []).any (fun v => v.1 == sg.first) then { s with votes := cleanVotes s s.votes }
        else if ((s.votes.lookup hash).getD []).length + 1 < c.cfg.quorum then addVoteS s hash sg.first sg
        else match certOf c b ((s.votes.lookup hash).getD [] ++ [(sg.first, sg)]) with
          | none => addVoteS s hash sg.first sg
          | some qc => qcFormedS c s hash qc
      | _ => s) := by
  have hlen : ((s.votes.lookup hash).getD [] ++ [(sg.first, sg)]).length = ((s.votes.lookup hash).getD []).length + 1 := by
    simp
  unfold verifyCertM
  cases hv : verifyPC (env k c s) (some sg) hash with
  | ok u =>
    by_cases h1 : ((s.votes.lookup hash).getD []).any (fun v => v.1 == sg.first) = true
    · simp only [bind, StateT.bind, get, getThe, MonadStateOf.get, StateT.get, pure, modify, modifyGet,
        MonadStateOf.modifyGet, StateT.modifyGet, votesCleanup, StateT.run, hv, h1, if_true]
      rfl
    · by_cases h2 : ((s.votes.lookup hash).getD []).length + 1 < c.cfg.quorum
      · simp only [bind, StateT.bind, get, getThe, MonadStateOf.get, StateT.get, pure, modify, modifyGet,
          MonadStateOf.modifyGet, votesCleanup, StateT.run, hv, h1, hlen, h2, if_true]
        rfl
      · simp only [bind, StateT.bind, get, getThe, MonadStateOf.get, StateT.get, pure, modify, modifyGet,
          MonadStateOf.modifyGet, votesCleanup, addEvent, StateT.run, hv, h1, hlen, h2, if_false, certOf]
        generalize (if (b.hash == genesisHash) = true then some genesisQC else _ : Option QC) = x
        cases x
        · rfl
        · simp [StateT.bind, StateT.modifyGet, qcFormedS, cleanVotes, List.filter_filter]; rfl
  | reject => simp only [bind, StateT.bind, get, getThe, MonadStateOf.get, StateT.get, pure, StateT.pure, StateT.run, hv]
  | panic => simp only [bind, StateT.bind, get, getThe, MonadStateOf.get, StateT.get, pure, StateT.pure, StateT.run, hv]

theorem verifyCertM_steps (sig : Option Sig) (hash : Hash) (b : Block) :
    StepsOf [.votes, .enqNewview] (verifyCertM k c sig hash b) := fun s => by
  cases sig with
  | none => exact .refl _
  | some sg =>
    rw [verifyCertM_run]
    show Steps _ s (match verifyPC (env k c s) (some sg) hash with | .ok () => _ | _ => s)
    repeat' split
    all_goals first
      | exact .refl _
      | exact (Steps.refl _).step (.votes _ _)
      | exact ((Steps.refl s).step (.votes s (cleanVotes s (s.votes.filter (fun p => p.1 != hash))))).step (t := .enqNewview)
          (.enq _ (.newview c.id _))

/-- the first piece: its footprint, and a verification is started only for a vote signed by exactly one replica -/
theorem collectVotePre_spec (id : Nat) (sig : Option Sig) (hash : Hash) (d : Bool) (s0 : RState) :
    ⦃fun s => ⌜Steps [.chain, .deferProp] s0 s⌝⦄ collectVotePre id sig hash d
    ⦃⇓ r s => ⌜Steps [.chain, .deferProp] s0 s ∧ ∀ b, r = some b → ∃ sg, sig = some sg ∧ sg.len = 1⌝⦄ := by
  have hg := fun h => (getBlock_steps h).spec [.chain, .deferProp] s0
  mvcgen [collectVotePre, hg]
  all_goals simp_all
  own_steps [.deferProp _ _ _ _]

theorem collectVote_run (id : Nat) (sig : Option Sig) (hash : Hash) (d : Bool) (s : RState) :
    (collectVote k c id sig hash d).run s =
      match (collectVotePre id sig hash d).run s with
      | (none, s1) => pure ((), s1)
      | (some b, s1) => (verifyCertM k c sig hash b).run s1 := by
  rw [collectVote_eq_pre_then_verify, StateT.run_bind]
  generalize (collectVotePre id sig hash d).run s = p
  rcases p with ⟨_ | b, s1⟩ <;> rfl

theorem collectVote_steps (id : Nat) (sig : Option Sig) (h : Hash) (d : Bool) :
    StepsOf collectVoteT (collectVote k c id sig h d) := fun s => by
  have h1 := (run_res_of_triple _ _ _ (collectVotePre_spec id sig h d s) s (.refl _)).1
  rw [collectVote_run]
  rcases hr : (collectVotePre id sig h d).run s with ⟨_ | b, s1⟩ <;> rw [hr] at h1
  · exact h1.weaken (by decide)
  · exact (h1.weaken (by decide)).trans ((verifyCertM_steps k c sig h b s1).weaken (by decide))

theorem aggregateVote_steps (b : Block) (sg : Sig) : StepsOf (.outSend :: collectVoteT) (aggregateVote k c b sg) := by
  refine .of_triple fun s0 => ?_
  have hc := fun id sig h d => (collectVote_steps k c id sig h d).spec (.outSend :: collectVoteT) s0
  have he := fun l => (emit_steps (.sendVote l sg b.hash) .outSend).spec (.outSend :: collectVoteT) s0
  mvcgen [aggregateVote, hc, he]

theorem markProposed_steps (fuel : Nat) (b : Block) : StepsOf [.chain] (markProposed fuel b) := by
  refine .of_triple fun s0 => ?_
  have hg := fun h => (getBlock_steps h).spec [.chain] s0
  induction fuel generalizing b with
  | zero => mvcgen [markProposed]
  | succ n ih => mvcgen [markProposed, hg, ih]

/-! ### The verifiers below `voteFor`: one analysis each

All of them change nothing but the block store.  `verifyQCM` and `verifyTCM` are straight-line: an EQUATION says what they
answer and leave (`verifyQCM_run`, `verifyTCM_run`).  `verifyAggM`, `verifyAnyM` and `voterVerify` call them and answer what
they answer, so each has a RULE for abstract assertions: `P` is kept by every callee, and what a callee's yes establishes
holds when the handler says yes.  Footprint, "no panic" and the facts the invariant modules need of a positive or a
negative answer are instances of the one or the other. -/

/-- the state `verifyQCM k c q` leaves: the certified block has been looked up (`blockchain.Get`) if the certificate got
as far as the signature check -/
def fetchedS (c : RCfg) (q : QC) (s : RState) : RState :=
  if q.hash != genesisHash then
    match q.sig with
    | some sg => if !(sg.len < c.cfg.quorum) then { s with chain := (s.chain.get q.hash).1 } else s
    | none => s
  else s

theorem verifyQCM_run (q : QC) (s : RState) :
    (verifyQCM k c q).run s = pure (verifyQC (env k c (fetchedS c q s)) q, fetchedS c q s) := by
  unfold fetchedS
  by_cases hg : (q.hash != genesisHash) = true
  · cases hs : q.sig with
    | none => simp [verifyQCM, hg, hs]
    | some sg => by_cases hl : sg.len < c.cfg.quorum <;> simp [verifyQCM, hg, hs, hl, fetchFor, getBlock]
  · simp [verifyQCM, hg]

/-- nothing is looked up for the genesis certificate, one without signature or one signed by too few; otherwise the
certified block is -/
theorem fetchedS_cases (q : QC) (s : RState) :
    (fetchedS c q s = s ∧ (q.hash = genesisHash ∨ q.sig = none ∨ ∃ sg, q.sig = some sg ∧ sg.len < c.cfg.quorum)) ∨
    (q.hash ≠ genesisHash ∧ ∃ sg, q.sig = some sg ∧ ¬ sg.len < c.cfg.quorum ∧
      fetchedS c q s = { s with chain := (s.chain.get q.hash).1 }) := by
  unfold fetchedS
  by_cases hg : q.hash = genesisHash
  · exact Or.inl ⟨by simp [hg], Or.inl hg⟩
  · cases hs : q.sig with
    | none => exact Or.inl ⟨by simp [hg], Or.inr (Or.inl rfl)⟩
    | some sg =>
      by_cases hl : sg.len < c.cfg.quorum
      · exact Or.inl ⟨by simp [hg, hl], Or.inr (Or.inr ⟨sg, rfl, hl⟩)⟩
      · exact Or.inr ⟨hg, sg, rfl, hl, by simp [hg, hl]⟩

theorem fetchedS_steps (q : QC) (s : RState) : Steps [.chain] s (fetchedS c q s) := by
  rcases fetchedS_cases c q s with ⟨e, _⟩ | ⟨_, _, _, _, e⟩ <;> rw [e]
  · exact .refl s
  · exact (Steps.refl s).step (.chain _ _ (chainGrows_get _ _ _ (.refl _)))

theorem verifyQCM_steps (q : QC) : StepsOf [.chain] (verifyQCM k c q) := fun s => by
  rw [verifyQCM_run]; exact fetchedS_steps c q s

theorem verifyTCM_run (tc : TC) (s : RState) : (verifyTCM k c tc).run s = pure (verifyTC (env k c s) tc, s) := by
  simp [verifyTCM]

theorem verifyTCM_steps (t : TC) : StepsOf [] (verifyTCM k c t) := fun s => by
  rw [verifyTCM_run]; exact .refl s

/-- the timeout messages an aggregate QC attests, as `VerifyAggregateQC` reconstructs them -/
def aggMessages (k : Keys) (a : AggQC) : List (Nat × Msg) := a.qcs.map (fun p => (p.1, k.tmo p.1 a.view (some p.2)))

/-- `B q`: what `verifyQCM`'s yes establishes for the candidate `q` -/
theorem verifyAggM_go_rule {P : RState → Prop} {B : QC → RState → Prop} (l : List QC)
    (hq : ∀ q, ⦃fun s => ⌜P s⌝⦄ verifyQCM k c q ⦃⇓ r s => ⌜P s ∧ (r = true → B q s)⌝⦄) :
    ⦃fun s => ⌜P s⌝⦄ verifyAggM.go k c l ⦃⇓ r s => ⌜P s ∧ r ≠ .panic ∧ ∀ q, r = .ok q → q ∈ l ∧ B q s⌝⦄ := by
  induction l with
  | nil => mvcgen [verifyAggM.go]; simp_all
  | cons q rest ih =>
    have h1 := hq q
    mvcgen [verifyAggM.go, ih, h1]
    all_goals clear ih h1 hq
    all_goals simp_all

/-- `verifyAggM` up to its loop over the candidates, in the order of the code's tests -/
theorem verifyAggM_run (a : AggQC) (s : RState) :
    (verifyAggM k c a).run s =
      match a.sig with
      | none => pure (.panic, s)
      | some sg =>
        if sg.len < c.cfg.quorum then pure (.reject, s)
        else if batchVerify (env k c s).T c.cfg sg (aggMessages k a) = false then
          pure (.reject, s)
        else (verifyAggM.go k c (sortDesc (a.qcs.map (·.2)))).run s := by
  cases hs : a.sig with
  | none => simp [verifyAggM, hs]
  | some sg =>
    simp only [verifyAggM, hs]
    by_cases hl : sg.len < c.cfg.quorum
    · simp [hl]
    · simp [hl, env, aggMessages]
      split <;> simp [*]

/-- `B q`: as in `verifyAggM_go_rule`; `s1`: the state in which the signature was checked (the one the verifier started in) -/
theorem verifyAggM_rule {P : RState → Prop} {B : QC → RState → Prop} (a : AggQC)
    (hq : ∀ q, ⦃fun s => ⌜P s⌝⦄ verifyQCM k c q ⦃⇓ r s => ⌜P s ∧ (r = true → B q s)⌝⦄) :
    ⦃fun s => ⌜P s⌝⦄ verifyAggM k c a
    ⦃⇓ r s => ⌜P s ∧ (a.sig ≠ none → r ≠ .panic) ∧ ∀ q, r = .ok q → q ∈ sortDesc (a.qcs.map (·.2)) ∧ B q s ∧
      ∃ sg s1, P s1 ∧ a.sig = some sg ∧ c.cfg.quorum ≤ sg.len ∧
        batchVerify (env k c s1).T c.cfg sg (aggMessages k a) = true⌝⦄ :=
  triple_of_run _ _ _ fun s hP => by
    have e := verifyAggM_run k c a s
    cases hs : a.sig with
    | none => exact ⟨by rw [e, hs]; exact hP, fun h => absurd rfl h, by rw [e, hs]; exact nofun⟩
    | some sg =>
      rw [hs] at e
      dsimp only at e
      by_cases hl : sg.len < c.cfg.quorum
      · rw [if_pos hl] at e; rw [e]; exact ⟨hP, fun _ => nofun, nofun⟩
      · rw [if_neg hl] at e
        split at e
        · rw [e]; exact ⟨hP, fun _ => nofun, nofun⟩
        · rename_i hb
          rw [e]
          have hg := run_res_of_triple _ _ _ (verifyAggM_go_rule k c (sortDesc (a.qcs.map (·.2))) hq) s hP
          exact ⟨hg.1, fun _ => hg.2.1, fun q hr =>
            ⟨(hg.2.2 q hr).1, (hg.2.2 q hr).2, sg, s, hP, rfl, Nat.le_of_not_lt hl, (Bool.not_eq_false _).mp hb⟩⟩

theorem verifyAggM_steps (a : AggQC) : StepsOf [.chain] (verifyAggM k c a) :=
  .of_triple fun s0 => triple_conseq (verifyAggM_rule k c a (B := fun _ _ => True)
    fun q => triple_resTrue ((verifyQCM_steps k c q).spec [.chain] s0)) (fun _ h => h) fun _ _ h => h.1

/-! The model's panic (`VerifyAggregateQC` on an aggregate QC without signature, which a test of the repository
demands) is never reached: both call sites check the signature first.  So no handler's list contains `outPanic`. -/

theorem verifyAggM_ne_panic (a : AggQC) (sg : Sig) (ha : a.sig = some sg) (s : RState) :
    ((verifyAggM k c a).run s).1 ≠ .panic :=
  (run_res_of_triple _ _ _ (verifyAggM_rule k c a (P := fun _ => True) (B := fun _ _ => True)
    fun _ => triple_of_run _ _ _ fun _ _ => ⟨trivial, fun _ => trivial⟩) s trivial).2.1 (by simp [ha])

theorem verifyAnyM_rule {P B : RState → Prop} (q : QC) (agg : Option AggQC)
    (ha : ∀ a, ⦃fun s => ⌜P s⌝⦄ verifyAggM k c a ⦃⇓ _ s => ⌜P s⌝⦄)
    (hq : ⦃fun s => ⌜P s⌝⦄ verifyQCM k c q ⦃⇓ r s => ⌜P s ∧ (r = true → B s)⌝⦄) :
    ⦃fun s => ⌜P s⌝⦄ verifyAnyM k c q agg ⦃⇓ r s => ⌜P s ∧ r ≠ .panic ∧ (r = .ok () → B s)⌝⦄ := by
  have ha' := fun a sg (h : a.sig = some sg) => triple_of_run (verifyAggM k c a) P
    (fun r s => P s ∧ r ≠ VRes.panic) fun s hs =>
      ⟨run_res_of_triple _ _ _ (ha a) s hs, verifyAggM_ne_panic k c a sg h s⟩
  clear ha
  mvcgen [verifyAnyM, ha', hq]
  all_goals clear ha' hq
  all_goals simp_all

theorem verifyAnyM_steps (q : QC) (agg : Option AggQC) : StepsOf [.chain] (verifyAnyM k c q agg) :=
  .of_triple fun s0 => triple_conseq (verifyAnyM_rule k c q agg (B := fun _ => True)
    (fun a => (verifyAggM_steps k c a).spec [.chain] s0)
    (triple_resTrue ((verifyQCM_steps k c q).spec [.chain] s0))) (fun _ h => h) fun _ _ h => h.1

theorem verifyAnyM_ne_panic (q : QC) (agg : Option AggQC) (s : RState) : ((verifyAnyM k c q agg).run s).1 ≠ .panic :=
  (run_res_of_triple _ _ _ (verifyAnyM_rule k c q agg (P := fun _ => True) (B := fun _ => True)
    (fun _ => triple_of_run _ _ _ fun _ _ => trivial)
    (triple_of_run _ _ _ fun _ _ => ⟨trivial, fun _ => trivial⟩)) s trivial).2.1

/-- the tests of `voterVerify` on the proposal itself (the first reads the votes cast so far) -/
def VoterChecks (c : RCfg) (id : Nat) (b : Block) (agg : Option AggQC) (s : RState) : Prop :=
  (agg.isSome = true → votedQCView s.ghost ≤ b.qc.view) ∧ b.parent = b.qc.hash ∧ b.qc.view < b.view ∧ id = c.leader b.view

/-- `voterVerify`, line by line: no vote cast in the view yet, the vote rule says yes (which establishes `A`), the
certificate is accepted (`B`), the tests on the proposal.  `P` holds at the start, `P'` is what the two callees keep. -/
theorem voterVerify_rule {P P' A B : RState → Prop} (id : Nat) (b : Block) (agg : Option AggQC)
    (hpp : ∀ s, P s → P' s)
    (hr : ⦃fun s => ⌜P s ∧ s.lastVoted < b.view⌝⦄ voteRule c b.view b agg ⦃⇓ r s => ⌜P' s ∧ (r = true → A s)⌝⦄)
    (ha : ⦃fun s => ⌜P' s ∧ A s⌝⦄ verifyAnyM k c b.qc agg ⦃⇓ r s => ⌜P' s ∧ (r = .ok () → B s)⌝⦄) :
    ⦃fun s => ⌜P s⌝⦄ voterVerify k c id b agg
    ⦃⇓ r s => ⌜P' s ∧ r ≠ .panic ∧ (r = .ok () → B s ∧ VoterChecks c id b agg s)⌝⦄ := by
  have ha' := triple_of_run (verifyAnyM k c b.qc agg) (fun s => P' s ∧ A s)
    (fun r s => (P' s ∧ (r = .ok () → B s)) ∧ r ≠ VRes.panic) fun s hs =>
      ⟨run_res_of_triple _ _ _ ha s hs, verifyAnyM_ne_panic k c b.qc agg s⟩
  clear ha
  mvcgen [voterVerify, hr, ha']
  all_goals clear hr ha'
  -- one goal per return: `simp_all` reads off the path the tests that were passed (`VoterChecks`), `A` and `B` from the
  -- callees' answers, and that no answer is a panic; left are the comparison of views and `P'` where no callee has run
  all_goals simp_all +zetaDelta [VoterChecks]
  all_goals first | omega | exact hpp _ ‹_›

theorem voterVerify_keeps {P : RState → Prop} (id : Nat) (b : Block) (agg : Option AggQC)
    (hr : ⦃fun s => ⌜P s⌝⦄ voteRule c b.view b agg ⦃⇓ _ s => ⌜P s⌝⦄)
    (ha : ⦃fun s => ⌜P s⌝⦄ verifyAnyM k c b.qc agg ⦃⇓ _ s => ⌜P s⌝⦄) :
    ⦃fun s => ⌜P s⌝⦄ voterVerify k c id b agg ⦃⇓ r s => ⌜P s ∧ r ≠ .panic⌝⦄ :=
  triple_conseq (voterVerify_rule k c id b agg (A := fun _ => True) (B := fun _ => True) (fun _ h => h)
    (triple_of_left (triple_resTrue hr)) (triple_of_left (triple_resTrue ha))) (fun _ h => h) fun _ _ h => ⟨h.1, h.2.1⟩

theorem voterVerify_rule_ok {P A B : RState → Prop} (id : Nat) (b : Block) (agg : Option AggQC)
    (hr : ⦃fun s => ⌜P s⌝⦄ voteRule c b.view b agg ⦃⇓ r s => ⌜r = true → A s⌝⦄)
    (ha : ⦃fun s => ⌜A s⌝⦄ verifyAnyM k c b.qc agg ⦃⇓ r s => ⌜r = .ok () → B s⌝⦄) :
    ⦃fun s => ⌜P s⌝⦄ voterVerify k c id b agg ⦃⇓ r s => ⌜r = .ok () → B s⌝⦄ :=
  triple_conseq (voterVerify_rule k c id b agg (P' := fun _ => True) (fun _ _ => trivial)
    (triple_conseq hr (fun _ h => h.1) fun _ _ h => ⟨trivial, h⟩)
    (triple_conseq ha (fun _ h => h.2) fun _ _ h => ⟨trivial, h⟩)) (fun _ h => h) fun _ _ h hr => (h.2.2 hr).1

theorem voterVerify_steps (id : Nat) (b : Block) (agg : Option AggQC) : StepsOf [.chain] (voterVerify k c id b agg) :=
  .of_triple fun s0 => triple_conseq (voterVerify_keeps k c id b agg ((voteRule_steps c b.view b agg).spec [.chain] s0)
    ((verifyAnyM_steps k c b.qc agg).spec [.chain] s0)) (fun _ h => h) fun _ _ h => h.1

theorem voterVerify_ne_panic (id : Nat) (b : Block) (agg : Option AggQC) (s : RState) :
    ((voterVerify k c id b agg).run s).1 ≠ .panic :=
  (run_res_of_triple _ _ _ (voterVerify_keeps k c id b agg (P := fun _ => True)
    (triple_of_run _ _ _ fun _ _ => trivial) (triple_of_run _ _ _ fun _ _ => trivial)) s trivial).2

/-- `verifySyncInfo`'s answer `r` in the state `s` it leaves, in terms of what its verifiers answered: `T tc b`,
`A a x s`, `V q b s` stand for "`verifyTCM` answered `b` on `tc`", "`verifyAggM` answered `x` on `a`, leaving `s`",
"`verifyQCM` answered `b` on `q`, leaving `s`".  The TC is checked first; then the aggregate QC under the aggregate
rule, and the QC otherwise or when there is no aggregate. -/
def SyncAnswer (c : RCfg) (si : SyncInfo) (T : TC → Bool → Prop) (A : AggQC → VRes QC → RState → Prop)
    (V : QC → Bool → RState → Prop) (r : VRes (Option QC × Nat × Bool)) (s : RState) : Prop :=
  match r with
  | .panic => False
  | .reject =>
    (∃ tc, si.tc = some tc ∧ T tc false) ∨ (c.agg = true ∧ ∃ a, si.agg = some a ∧ (a.sig = none ∨ A a .reject s)) ∨
      ((c.agg = true → si.agg = none) ∧ ∃ q, si.qc = some q ∧ V q false s)
  | .ok (qc, v, t) =>
    (∀ tc, si.tc = some tc → T tc true) ∧
    let v0 := (si.tc.map (·.view)).getD 0
    if c.agg = true then
      match si.agg with
      | some a => ∃ high, A a (.ok high) s ∧ qc = some high ∧ v = (if a.view ≥ v0 then a.view else v0)
      | none => v = v0 ∧ t = si.tc.isSome ∧
        match si.qc with
        | some q => V q true s ∧ qc = some q
        | none => qc = none
    else
      match si.qc with
      | some q => V q true s ∧ qc = some q ∧ v = (if q.view ≥ v0 then q.view else v0)
      | none => qc = none ∧ v = v0 ∧ t = si.tc.isSome

/-- a positive answer, case by case: every TC was accepted (`v0`: its view, 0 without one), and the answer comes from the
aggregate QC under the aggregate rule, else from the QC, or there is neither -/
theorem SyncAnswer.ok_cases {c : RCfg} {si : SyncInfo} {T : TC → Bool → Prop} {A : AggQC → VRes QC → RState → Prop}
    {V : QC → Bool → RState → Prop} {qc : Option QC} {v : Nat} {t : Bool} {s : RState} {v0 : Nat}
    (hv0 : (si.tc.map (·.view)).getD 0 = v0) (h : SyncAnswer c si T A V (.ok (qc, v, t)) s) :
    (∀ tc, si.tc = some tc → T tc true) ∧
    ((c.agg = true ∧ ∃ a high, si.agg = some a ∧ A a (.ok high) s ∧ qc = some high ∧
        v = (if a.view ≥ v0 then a.view else v0)) ∨
     ((c.agg = true → si.agg = none) ∧ ∃ q, si.qc = some q ∧ V q true s ∧ qc = some q ∧
        v = (if c.agg = false ∧ q.view ≥ v0 then q.view else v0) ∧ (c.agg = true → t = si.tc.isSome)) ∨
     ((c.agg = true → si.agg = none) ∧ si.qc = none ∧ qc = none ∧ v = v0 ∧ t = si.tc.isSome)) := by
  subst hv0
  refine ⟨h.1, ?_⟩
  have h := h.2
  dsimp only at h
  cases hagg : c.agg <;> cases hq : si.qc <;> cases ha : si.agg <;> simp_all

theorem verifySyncInfo_rule {I : RState → Prop} {T : TC → Bool → Prop} {A : AggQC → VRes QC → RState → Prop}
    {V : QC → Bool → RState → Prop} (si : SyncInfo)
    (ht : ∀ tc, ⦃fun s => ⌜I s⌝⦄ verifyTCM k c tc ⦃⇓ r s => ⌜I s ∧ T tc r⌝⦄)
    (ha : ∀ a, ⦃fun s => ⌜I s⌝⦄ verifyAggM k c a ⦃⇓ r s => ⌜I s ∧ A a r s⌝⦄)
    (hq : ∀ q, ⦃fun s => ⌜I s⌝⦄ verifyQCM k c q ⦃⇓ r s => ⌜I s ∧ V q r s⌝⦄) :
    ⦃fun s => ⌜I s⌝⦄ verifySyncInfo k c si ⦃⇓ r s => ⌜I s ∧ SyncAnswer c si T A V r s⌝⦄ := by
  have ha' := fun a sg (h : a.sig = some sg) => triple_of_run (verifyAggM k c a) I
    (fun r s => (I s ∧ A a r s) ∧ r ≠ VRes.panic) fun s hs =>
      ⟨run_res_of_triple _ _ _ (ha a) s hs, verifyAggM_ne_panic k c a sg h s⟩
  clear ha
  mvcgen [verifySyncInfo, ht, ha', hq]
  all_goals clear ht hq ha'
  -- one goal per path through the three verifiers: `simp_all` matches the answers collected on the path (`T`, `A`, `V`) with
  -- the branch of `SyncAnswer` that the same tests select; left are the two goals where a TC and an aggregate QC compete
  all_goals simp_all +zetaDelta [SyncAnswer]
  -- the certified view stays the TC's
  · exact ⟨_, And.right ‹_ ∧ A _ _ _›, rfl, by omega⟩
  · omega

theorem verifySyncInfo_keeps {I : RState → Prop} (si : SyncInfo)
    (ht : ∀ tc, ⦃fun s => ⌜I s⌝⦄ verifyTCM k c tc ⦃⇓ _ s => ⌜I s⌝⦄)
    (ha : ∀ a, ⦃fun s => ⌜I s⌝⦄ verifyAggM k c a ⦃⇓ _ s => ⌜I s⌝⦄)
    (hq : ∀ q, ⦃fun s => ⌜I s⌝⦄ verifyQCM k c q ⦃⇓ _ s => ⌜I s⌝⦄) :
    ⦃fun s => ⌜I s⌝⦄ verifySyncInfo k c si
    ⦃⇓ r s => ⌜I s ∧ SyncAnswer c si (fun _ _ => True) (fun _ _ _ => True) (fun _ _ _ => True) r s⌝⦄ :=
  verifySyncInfo_rule k c si (fun tc => triple_conseq (ht tc) (fun _ h => h) fun _ _ h => ⟨h, trivial⟩)
    (fun a => triple_conseq (ha a) (fun _ h => h) fun _ _ h => ⟨h, trivial⟩)
    (fun q => triple_conseq (hq q) (fun _ h => h) fun _ _ h => ⟨h, trivial⟩)

theorem verifySyncInfo_steps (si : SyncInfo) : StepsOf [.chain] (verifySyncInfo k c si) :=
  .of_triple fun s0 => triple_conseq (verifySyncInfo_keeps k c si (fun t => (verifyTCM_steps k c t).spec [.chain] s0)
    (fun a => (verifyAggM_steps k c a).spec [.chain] s0) (fun q => (verifyQCM_steps k c q).spec [.chain] s0))
    (fun _ h => h) fun _ _ h => h.1

theorem verifySyncInfo_ne_panic (si : SyncInfo) (s : RState) : ((verifySyncInfo k c si).run s).1 ≠ .panic := by
  have h := (run_res_of_triple _ _ _ (verifySyncInfo_keeps k c si (I := fun _ => True)
    (fun _ => triple_of_run _ _ _ fun _ _ => trivial) (fun _ => triple_of_run _ _ _ fun _ _ => trivial)
    (fun _ => triple_of_run _ _ _ fun _ _ => trivial)) s trivial).2
  intro hp
  rw [hp] at h
  exact h

/-! ## Rules

An invariant chain states which kinds of update keep its invariant, proves the handlers that perform the others, and
applies the rules. -/

/-- the rules' side condition for `Steps L s0`: the handler's own kinds of update are in `L` -/
theorem Steps.own {L : List Tag} (s0 : RState) (own : List Tag) (hL : ∀ t ∈ own, t ∈ L := by decide) :
    ∀ t ∈ own, ∀ s s', Upd t s s' → Steps L s0 s → Steps L s0 s' :=
  fun t ht _ _ hu h => h.step hu (hL t ht)

theorem voteFor_rule {I J : RState → Prop} (b : Block) (id : Nat)
    (hs : ⦃fun s => ⌜I s⌝⦄ signMsg c (blkMsg b.hash) ⦃⇓ _ s => ⌜I s⌝⦄)
    (hv : ∀ s, I s → J { s with lastVoted := b.view, ghost := s.ghost ++ [.vote b id] }) :
    ⦃fun s => ⌜I s⌝⦄ voteFor c b id ⦃⇓ _ s => ⌜J s⌝⦄ := by
  mvcgen [voteFor, hs]
  exact hv _ ‹_›

theorem voteFor_steps (b : Block) (id : Nat) : StepsOf voteForT (voteFor c b id) :=
  .of_triple fun s0 => voteFor_rule c b id ((signMsg_steps c _).spec voteForT s0) fun _ h => h.step (.voted _ b id)

/-- `onValidPropose`: commit, vote, hand the vote on.  `J`: what holds between `tryCommit` and the vote -/
theorem onValidPropose_rule {P J Q : RState → Prop} (id : Nat) (b : Block)
    (ht : ⦃fun s => ⌜P s⌝⦄ tryCommit c b ⦃⇓ _ s => ⌜J s⌝⦄)
    (hf : ⦃fun s => ⌜J s⌝⦄ voteFor c b id ⦃⇓ _ s => ⌜Q s⌝⦄)
    (hu : ∀ t ∈ Tag.outSend :: collectVoteT, ∀ s s', Upd t s s' → Q s → Q s') :
    ⦃fun s => ⌜P s⌝⦄ onValidPropose k c id b ⦃⇓ _ s => ⌜Q s⌝⦄ := by
  have ha := fun sg => (aggregateVote_steps k c b sg).preserves hu
  mvcgen [onValidPropose, ht, hf, ha]

theorem onValidPropose_steps (id : Nat) (b : Block) : StepsOf proposeT (onValidPropose k c id b) :=
  .of_triple fun s0 => onValidPropose_rule k c id b ((tryCommit_steps c b).spec proposeT s0)
    ((voteFor_steps c b id).spec proposeT s0) (.own s0 _)

/-- A triple may assume the view it started in.  The strengthened invariant is handed over as an abstract `I'` with its
characterisation: `mvcgen` would take the conjunction `I s ∧ s.view = v` apart in every condition it leaves. -/
theorem triple_fix_view {α} {f : M α} {I : RState → Prop} {Q : α → RState → Prop}
    (h : ∀ (v : Nat) (I' : RState → Prop), (∀ s, I' s ↔ (I s ∧ s.view = v)) → ⦃fun s => ⌜I' s⌝⦄ f ⦃⇓ r s => ⌜Q r s⌝⦄) :
    ⦃fun s => ⌜I s⌝⦄ f ⦃⇓ r s => ⌜Q r s⌝⦄ :=
  triple_of_run _ _ _ fun s0 h0 => run_res_of_triple f _ Q (h s0.view _ fun _ => Iff.rfl) s0 ⟨h0, rfl⟩

/-- `W b`: what a positive answer of `voterVerify` adds for the vote for the new block `b`; `J b`: what holds
between that vote and `tryCommit` storing the block.  The voter is asked about a block for the view the replica is in
that carries the sync info's QC. -/
theorem createAndPropose_rule_guard {I : RState → Prop} {W J : Block → RState → Prop} (si : SyncInfo)
    (hv : ∀ b agg, ⦃fun s => ⌜I s ∧ b.view = s.view ∧ si.qc = some b.qc⌝⦄ voterVerify k c c.id b agg
      ⦃⇓ r s => ⌜I s ∧ (r = .ok () → W b s)⌝⦄)
    (hf : ∀ b, ⦃fun s => ⌜I s ∧ W b s⌝⦄ voteFor c b c.id ⦃⇓ _ s => ⌜J b s⌝⦄)
    (ht : ∀ b, ⦃fun s => ⌜J b s⌝⦄ tryCommit c b ⦃⇓ _ s => ⌜I s⌝⦄)
    (hu : ∀ t ∈ Tag.lastProposed :: .nextCmd :: .outSend :: collectVoteT, ∀ s s', Upd t s s' → I s → I s') :
    ⦃fun s => ⌜I s⌝⦄ createAndPropose k c si ⦃⇓ _ s => ⌜I s⌝⦄ := by
  -- `I' s`: `I s`, and the view is still the view `v` the handler started in
  refine triple_fix_view fun v I' hI' => ?_
  have hu' : ∀ t ∈ Tag.lastProposed :: .nextCmd :: .outSend :: collectVoteT, ∀ s s', Upd t s s' → I' s → I' s' :=
    fun t ht s s' h hp => (hI' _).2 ⟨hu t ht s s' h ((hI' _).1 hp).1,
      (h.view_eq (by revert ht; cases t <;> decide)).trans ((hI' _).1 hp).2⟩
  have hv' := fun b agg => triple_of_run (voterVerify k c c.id b agg)
    (fun s => I' s ∧ b.view = v ∧ si.qc = some b.qc)
    (fun r s => (I s ∧ (r = .ok () → W b s)) ∧ r ≠ VRes.panic) fun s hs =>
      ⟨run_res_of_triple _ _ _ (hv b agg) s ⟨((hI' _).1 hs.1).1, hs.2.1.trans ((hI' _).1 hs.1).2.symm, hs.2.2⟩,
        voterVerify_ne_panic k c c.id b agg s⟩
  have m1 : ∀ t ∈ [Tag.chain], t ∈ Tag.lastProposed :: .nextCmd :: .outSend :: collectVoteT := by decide
  have m2 : ∀ t ∈ Tag.outSend :: collectVoteT, t ∈ Tag.lastProposed :: .nextCmd :: .outSend :: collectVoteT := by decide
  have hg := fun h => (getBlock_steps h).preserves (P := I') fun t ht => hu' t (m1 t ht)
  have hm := fun n b => (markProposed_steps n b).preserves (P := I') fun t ht => hu' t (m1 t ht)
  have hs := fun b agg => (emit_steps (.sendPropose b agg) .outSend).preserves (P := I) fun t ht =>
    hu t (m2 t (List.mem_cons.2 (Or.inl (List.mem_singleton.1 ht))))
  have ha := fun b sg => (aggregateVote_steps k c b sg).preserves (P := I) fun t ht => hu t (m2 t ht)
  mvcgen [createAndPropose, hv', hf, ht, hg, hm, hs, ha]
  all_goals first
    | exact ((hI' _).1 ‹_›).1                  -- a return before the two counters are touched
    | exact And.left ‹_ ∧ _›                   -- the voter accepted: `I ∧ W b` for the vote
    | exact And.left (And.left ‹_ ∧ _›)        -- the voter rejected
    | (intros; contradiction)                  -- the voter does not panic
    -- the sync info has no QC: the two counters were bumped, nothing else
    | exact ((hI' _).1 (hu' _ (by decide) _ _ (.nextCmd _) (hu' _ (by decide) _ _ (.lastProposed _ _) ‹_›))).1
    -- the voter is asked: the counters were bumped, the block is for the view `v`, on the sync info's QC
    | exact ⟨hu' _ (by decide) _ _ (.nextCmd _) (hu' _ (by decide) _ _ (.lastProposed _ _) ‹_›),
        ((hI' _).1 ‹_›).2, ‹si.qc = some _›⟩

/-- … for an invariant that does not need to know which block is proposed -/
theorem createAndPropose_rule {I : RState → Prop} {W J : Block → RState → Prop} (si : SyncInfo)
    (hv : ∀ b agg, ⦃fun s => ⌜I s⌝⦄ voterVerify k c c.id b agg ⦃⇓ r s => ⌜I s ∧ (r = .ok () → W b s)⌝⦄)
    (hf : ∀ b, ⦃fun s => ⌜I s ∧ W b s⌝⦄ voteFor c b c.id ⦃⇓ _ s => ⌜J b s⌝⦄)
    (ht : ∀ b, ⦃fun s => ⌜J b s⌝⦄ tryCommit c b ⦃⇓ _ s => ⌜I s⌝⦄)
    (hu : ∀ t ∈ Tag.lastProposed :: .nextCmd :: .outSend :: collectVoteT, ∀ s s', Upd t s s' → I s → I s') :
    ⦃fun s => ⌜I s⌝⦄ createAndPropose k c si ⦃⇓ _ s => ⌜I s⌝⦄ :=
  createAndPropose_rule_guard k c si (fun b agg => triple_conseq (hv b agg) (fun _ h => h.1) fun _ _ h => h) hf ht hu

theorem createAndPropose_steps (si : SyncInfo) : StepsOf createT (createAndPropose k c si) :=
  .of_triple fun s0 => createAndPropose_rule k c si (W := fun _ _ => True) (J := fun _ => Steps createT s0)
    (fun b agg => triple_resTrue ((voterVerify_steps k c c.id b agg).spec createT s0))
    (fun b => triple_of_left ((voteFor_steps c b c.id).spec createT s0))
    (fun b => (tryCommit_steps c b).spec createT s0) (.own s0 _)

/-- `advanceView`, line by line.  `R x` holds when `verifySyncInfo` has answered `.ok x`, `R' x` when the two high
certificates have been refreshed; then the replica stays in its view (`hstay`) or enters the certified view + 1 and
queues the event that signals it (`henter`), and proposes or reports to the leader with the sync info `si'`, in which
the QC, if there was one, has become the high QC. -/
theorem advanceView_rule_guard {P Q : RState → Prop} {R R' : Option QC × Nat × Bool → RState → Prop}
    {Q' : SyncInfo → RState → Prop} (si : SyncInfo)
    (hv : ⦃fun s => ⌜P s⌝⦄ verifySyncInfo k c si ⦃⇓ r s => ⌜(r = .reject → Q s) ∧ ∀ x, r = .ok x → R x s⌝⦄)
    (htc : ∀ x tc s, si.tc = some tc → R x s → R x { s with highTC := if tc.view > s.highTC.view then tc else s.highTC })
    (hg : ∀ q v t, ⦃fun s => ⌜R (some q, v, t) s⌝⦄ getBlock q.hash
      ⦃⇓ r s => ⌜(r = none → R' (some q, v, t) s) ∧
        ∀ nb, r = some nb → R' (some q, v, t) { s with highQC := if nb.view ≤ s.highQC.view then s.highQC else q }⌝⦄)
    (hnone : ∀ v t s, R (none, v, t) s → R' (none, v, t) s)
    (hstay : ∀ qc v t s, R' (qc, v, t) s → v < s.view → Q s)
    (henter : ∀ qc v t s, R' (qc, v, t) s → ¬ v < s.view →
      Q' (match qc with | some _ => { si with qc := some s.highQC } | none => si)
        { s with view := v + 1, lastTimeout := none, ghost := s.ghost ++ [.adv s.view v t],
                 queue := s.queue ++ [.viewChange (v + 1) t] })
    (hc : ∀ si', ⦃fun s => ⌜Q' si' s⌝⦄ createAndPropose k c si' ⦃⇓ _ s => ⌜Q s⌝⦄)
    (hn : ∀ si' l s, Q' si' s → Q { s with out := s.out ++ [.sendNewView l si'] }) :
    ⦃fun s => ⌜P s⌝⦄ advanceView k c si ⦃⇓ _ s => ⌜Q s⌝⦄ := by
  have hv' : ⦃fun s => ⌜P s⌝⦄ verifySyncInfo k c si
      ⦃⇓ r s => ⌜match r with | .ok x => R x s | .reject => Q s | .panic => False⌝⦄ :=
    triple_of_run _ _ _ fun s hs => by
      have h := run_res_of_triple _ _ _ hv s hs
      have hp := verifySyncInfo_ne_panic k c si s
      split
      · exact h.2 _ ‹_›
      · exact h.1 ‹_›
      · exact hp ‹_›
  have hg' : ∀ q v t, ⦃fun s => ⌜R (some q, v, t) s⌝⦄ getBlock q.hash
      ⦃⇓ r s => ⌜match r with
        | some nb => R' (some q, v, t) { s with highQC := if nb.view ≤ s.highQC.view then s.highQC else q }
        | none => R' (some q, v, t) s⌝⦄ :=
    fun q v t => triple_of_run _ _ _ fun s hs => by
      have h := run_res_of_triple _ _ _ (hg q v t) s hs
      split
      · exact h.2 _ ‹_›
      · exact h.1 ‹_›
  clear hv hg
  mvcgen [advanceView, addEvent, emit, hv', hg', hc]
  all_goals clear hv' hg' hc
  all_goals subst_vars
  -- after the high certificates: `R'` is in hand when the sync info had a QC (`hg'`), else it comes from `R` by `hnone`,
  -- through `htc` when a TC was refreshed; on entering, `Q'` goes to `createAndPropose` (leader) or through `hn` (NewView)
  all_goals first
    | assumption                                          -- rejected (`Q` from `hv'`), or `Q` from `createAndPropose`
    | exact htc _ _ _ ‹_ = some _› ‹_›                    -- the high TC refreshed: `R` for `getBlock`
    | exact hstay _ _ _ _ ‹R' _ _› ‹_ < _›                -- stays: with a QC
    | exact hstay _ _ _ _ (hnone _ _ _ ‹R _ _›) ‹_ < _›   -- stays: no QC, no TC
    | exact hstay _ _ _ _ (hnone _ _ _ (htc _ _ _ ‹_ = some _› ‹R _ _›)) ‹_ < _›    -- stays: no QC, a TC
    | (have h := henter _ _ _ _ ‹R' _ _› ‹¬ _ < _›; first | exact h | exact hn _ _ _ h)                      -- enters: with a QC
    | (have h := henter _ _ _ _ (hnone _ _ _ ‹R _ _›) ‹¬ _ < _›; first | exact h | exact hn _ _ _ h)         -- enters: no QC, no TC
    | (have h := henter _ _ _ _ (hnone _ _ _ (htc _ _ _ ‹_ = some _› ‹R _ _›)) ‹¬ _ < _›                    -- enters: no QC, a TC
       first | exact h | exact hn _ _ _ h)

/-- the entry into view `v + 1` with the event that signals it, as two primitive updates -/
theorem Upd.enter {I : RState → Prop} {bad : List Tag} (hu : ∀ {t s s'}, Upd t s s' → t ∉ bad → I s → I s')
    {s : RState} (v : Nat) (t : Bool) (hv : ¬ v < s.view) (h : I s)
    (ha : Tag.adv ∉ bad := by decide) (he : Tag.enqVC ∉ bad := by decide) :
    I { s with view := v + 1, lastTimeout := none, ghost := s.ghost ++ [.adv s.view v t],
               queue := s.queue ++ [.viewChange (v + 1) t] } :=
  hu (.enq _ (.viewChange (v + 1) t)) he (hu (.adv s v t hv) ha h)

/-- `advanceView` for an invariant that needs nothing from the verification result: its own assignments are the two
high certificates and, as one step, the entry into the new view with the event that signals it (`he`) -/
theorem advanceView_enter_rule {I : RState → Prop} (si : SyncInfo)
    (hc : ∀ si, ⦃fun s => ⌜I s⌝⦄ createAndPropose k c si ⦃⇓ _ s => ⌜I s⌝⦄)
    (he : ∀ s v t, ¬ v < s.view → I s →
      I { s with view := v + 1, lastTimeout := none, ghost := s.ghost ++ [.adv s.view v t],
                 queue := s.queue ++ [.viewChange (v + 1) t] })
    (hu : ∀ t ∈ [Tag.chain, .highTC, .highQC, .outSend], ∀ s s', Upd t s s' → I s → I s') :
    ⦃fun s => ⌜I s⌝⦄ advanceView k c si ⦃⇓ _ s => ⌜I s⌝⦄ :=
  advanceView_rule_guard k c si (R := fun _ => I) (R' := fun _ => I) (Q' := fun _ => I)
    (triple_of_run _ _ _ fun s hs =>
      have h := (verifySyncInfo_steps k c si s).preserves (fun t ht => hu t (List.mem_cons.2 (Or.inl (List.mem_singleton.1 ht)))) hs
      ⟨fun _ => h, fun _ _ => h⟩)
    (fun _ tc s _ h => hu _ (by decide) _ _ (.highTC s tc) h)
    (fun q _ _ => triple_of_run _ _ _ fun s hs =>
      have h := (getBlock_steps q.hash s).preserves (fun t ht => hu t (List.mem_cons.2 (Or.inl (List.mem_singleton.1 ht)))) hs
      ⟨fun _ => h, fun nb _ => hu _ (by decide) _ _ (.highQC _ q nb) h⟩)
    (fun _ _ _ h => h) (fun _ _ _ _ h _ => h) (fun _ v t s h hv => he s v t hv h)
    hc (fun si' l s h => hu _ (by simp [Out.tag]) _ _ (.out s (.sendNewView l si')) h)

/-- … for an invariant that the two halves of the entry keep one by one -/
theorem advanceView_rule {I : RState → Prop} (si : SyncInfo)
    (hc : ∀ si, ⦃fun s => ⌜I s⌝⦄ createAndPropose k c si ⦃⇓ _ s => ⌜I s⌝⦄)
    (hu : ∀ t ∈ [Tag.chain, .highTC, .highQC, .outSend, .adv, .enqVC], ∀ s s', Upd t s s' → I s → I s') :
    ⦃fun s => ⌜I s⌝⦄ advanceView k c si ⦃⇓ _ s => ⌜I s⌝⦄ :=
  advanceView_enter_rule k c si hc
    (fun s v t hv h =>
      have h := hu .enqVC (by decide) _ _ (.enq _ (.viewChange (v + 1) t)) (hu _ (by decide) _ _ (.adv s v t hv) h)
      h)
    fun t ht => hu t (List.mem_append_left _ ht)

theorem onRemoteTimeout_rule {I : RState → Prop} (t : TimeoutMsg)
    (ha : ∀ si, ⦃fun s => ⌜I s⌝⦄ advanceView k c si ⦃⇓ _ s => ⌜I s⌝⦄)
    (hu : ∀ t ∈ [Tag.timeouts], ∀ s s', Upd t s s' → I s → I s') :
    ⦃fun s => ⌜I s⌝⦄ onRemoteTimeout k c t ⦃⇓ _ s => ⌜I s⌝⦄ := by
  mvcgen [onRemoteTimeout, ha]
  all_goals repeat (first | assumption | refine hu _ (by decide) _ _ (.timeouts _ _) ?_)

/-- `hsv`, `hst`: the two signatures, of the view and of the timeout message; the record of the timeout (`ht`: for the view
`w` the replica is in) and its sending are the handler's own -/
theorem onLocalTimeout_rule_guard {I : RState → Prop}
    (hsv : ∀ v, ⦃fun s => ⌜I s⌝⦄ signMsg c (viewMsg v) ⦃⇓ _ s => ⌜I s⌝⦄)
    (hst : ∀ i v q, ⦃fun s => ⌜I s⌝⦄ signMsg c (k.tmo i v q) ⦃⇓ _ s => ⌜I s⌝⦄)
    (hr : ∀ t, ⦃fun s => ⌜I s⌝⦄ onRemoteTimeout k c t ⦃⇓ _ s => ⌜I s⌝⦄)
    (ht : ∀ s t w, w = s.view → I s →
      I { s with lastTimeout := some t, lastVoted := (if s.lastVoted < w then w else s.lastVoted), ghost := s.ghost ++ [.tmo w] })
    (hu : ∀ t ∈ [Tag.outSend], ∀ s s', Upd t s s' → I s → I s') :
    ⦃fun s => ⌜I s⌝⦄ onLocalTimeout k c ⦃⇓ _ s => ⌜I s⌝⦄ := by
  refine triple_fix_view fun v I' hI' => ?_
  have hs' : ∀ m, ⦃fun s => ⌜I s⌝⦄ signMsg c m ⦃⇓ _ s => ⌜I s⌝⦄ → ⦃fun s => ⌜I' s⌝⦄ signMsg c m ⦃⇓ _ s => ⌜I' s⌝⦄ :=
    fun m hs => triple_of_run _ _ _ fun s hp =>
      (hI' _).2 ⟨run_res_of_triple _ _ _ hs s ((hI' _).1 hp).1,
        ((signMsg_steps c m s).preserves (P := fun s' => s'.view = s.view)
          (fun t ht _ _ h e => (h.view_eq (by revert ht; cases t <;> decide)).trans e) rfl).trans ((hI' _).1 hp).2⟩
  have hsv' := fun v => hs' _ (hsv v)
  have hst' := fun i v q => hs' _ (hst i v q)
  have he := fun t => (emit_steps (.sendTimeout t) .outSend).preserves (P := I) hu
  mvcgen [onLocalTimeout, hsv', hst', hr, he]
  all_goals first
    | exact ((hI' _).1 ‹_›).1                  -- the timeout of this view is sent again
    -- the record: the view read at the start is still the view
    | exact ht _ _ _ (Eq.trans ((hI' _).1 ‹_›).2 (Eq.symm ((hI' _).1 ‹_›).2)) ((hI' _).1 ‹_›).1

/-- … for an invariant that keeps any signature and the record of a timeout for any view -/
theorem onLocalTimeout_rule {I : RState → Prop}
    (hs : ∀ m, ⦃fun s => ⌜I s⌝⦄ signMsg c m ⦃⇓ _ s => ⌜I s⌝⦄)
    (hr : ∀ t, ⦃fun s => ⌜I s⌝⦄ onRemoteTimeout k c t ⦃⇓ _ s => ⌜I s⌝⦄)
    (hu : ∀ t ∈ [Tag.timedOut, .outSend], ∀ s s', Upd t s s' → I s → I s') :
    ⦃fun s => ⌜I s⌝⦄ onLocalTimeout k c ⦃⇓ _ s => ⌜I s⌝⦄ :=
  onLocalTimeout_rule_guard k c (fun _ => hs _) (fun _ _ _ => hs _) hr (fun s t w _ h => hu _ (by decide) _ _ (.timedOut s t w) h)
    fun t ht => hu t (List.mem_cons_of_mem _ ht)

/-- `W`: what a positive answer of `voterVerify` adds for `onValidPropose`.  The voter is asked when `advanceView` on the
proposal's certificate has established `G`, about a proposal that is not for a later view. -/
theorem onPropose_rule_guard {I G W : RState → Prop} (id : Nat) (b : Block) (agg : Option AggQC)
    (ha : ⦃fun s => ⌜I s⌝⦄ advanceView k c { qc := some b.qc } ⦃⇓ _ s => ⌜I s ∧ G s⌝⦄)
    (hv : ⦃fun s => ⌜I s ∧ G s ∧ b.view ≤ s.view⌝⦄ voterVerify k c id b agg ⦃⇓ r s => ⌜I s ∧ (r = .ok () → W s)⌝⦄)
    (ho : ⦃fun s => ⌜I s ∧ W s⌝⦄ onValidPropose k c id b ⦃⇓ _ s => ⌜I s⌝⦄)
    (hu : ∀ t ∈ [Tag.deferVC], ∀ s s', Upd t s s' → I s → I s') :
    ⦃fun s => ⌜I s⌝⦄ onPropose k c id b agg ⦃⇓ _ s => ⌜I s⌝⦄ := by
  have hv' : ⦃fun s => ⌜I s ∧ G s ∧ b.view ≤ s.view⌝⦄ voterVerify k c id b agg
      ⦃⇓ r s => ⌜(I s ∧ (r = .ok () → W s)) ∧ r ≠ VRes.panic⌝⦄ :=
    triple_of_run _ _ _ fun s hs => ⟨run_res_of_triple _ _ _ hv s hs, voterVerify_ne_panic k c id b agg s⟩
  mvcgen [onPropose, ha, hv', ho]
  all_goals first
    | exact And.left ‹_ ∧ _›                   -- too far ahead: dropped; or accepted: `I ∧ W` for `onValidPropose`
    | exact And.left (And.left ‹_ ∧ _›)        -- the voter rejected
    | (intros; contradiction)                  -- the voter does not panic
    | exact hu _ (by decide) _ _ (.deferVC _ _ _ _) (And.left ‹_ ∧ _›)           -- for a later view: deferred
    | exact ⟨And.left ‹_ ∧ _›, And.right ‹_ ∧ _›, Nat.le_of_not_gt ‹_›⟩         -- the voter is asked

/-- … for an invariant that needs neither -/
theorem onPropose_rule {I W : RState → Prop} (id : Nat) (b : Block) (agg : Option AggQC)
    (ha : ∀ si, ⦃fun s => ⌜I s⌝⦄ advanceView k c si ⦃⇓ _ s => ⌜I s⌝⦄)
    (hv : ⦃fun s => ⌜I s⌝⦄ voterVerify k c id b agg ⦃⇓ r s => ⌜I s ∧ (r = .ok () → W s)⌝⦄)
    (ho : ⦃fun s => ⌜I s ∧ W s⌝⦄ onValidPropose k c id b ⦃⇓ _ s => ⌜I s⌝⦄)
    (hu : ∀ t ∈ [Tag.deferVC], ∀ s s', Upd t s s' → I s → I s') :
    ⦃fun s => ⌜I s⌝⦄ onPropose k c id b agg ⦃⇓ _ s => ⌜I s⌝⦄ :=
  onPropose_rule_guard k c id b agg (G := fun _ => True)
    (triple_conseq (ha _) (fun _ h => h) fun _ _ h => ⟨h, trivial⟩) (triple_conseq hv (fun _ h => h.1) fun _ _ h => h) ho hu

/-- the effect with which `tick` hands an internal event to the caller of `step` -/
def Ev.echo : Ev → Option Out
  | .viewChange v t => some (.viewChange v t)
  | .commit b => some (.commit b)
  | .exec b => some (.exec b)
  | .abort b => some (.abort b)
  | _ => none

/-- `tick` for an invariant about the queue and the effects, which popping alone need not keep: the head of the queue
goes to its handler or, if it has an echo, moves to the effects (`hh`, with `o = none` and `o = some _`) -/
theorem tick_fifo_rule {I : RState → Prop}
    (hp : ∀ id b agg, ⦃fun s => ⌜I s⌝⦄ onPropose k c id b agg ⦃⇓ _ s => ⌜I s⌝⦄)
    (hc : ∀ id sig h d, ⦃fun s => ⌜I s⌝⦄ collectVote k c id sig h d ⦃⇓ _ s => ⌜I s⌝⦄)
    (hr : ∀ t, ⦃fun s => ⌜I s⌝⦄ onRemoteTimeout k c t ⦃⇓ _ s => ⌜I s⌝⦄)
    (ha : ∀ si, ⦃fun s => ⌜I s⌝⦄ advanceView k c si ⦃⇓ _ s => ⌜I s⌝⦄)
    (hl : ⦃fun s => ⌜I s⌝⦄ onLocalTimeout k c ⦃⇓ _ s => ⌜I s⌝⦄)
    (hh : ∀ s e rest o, s.queue = e :: rest → e.echo = o → I s → I { s with queue := rest, out := s.out ++ o.toList })
    (hu : ∀ t ∈ [Tag.requeueProp, .requeueVC], ∀ s s', Upd t s s' → I s → I s') :
    ⦃fun s => ⌜I s⌝⦄ tick k c ⦃⇓ _ s => ⌜I s⌝⦄ := by
  have hpop : ∀ s e rest, s.queue = e :: rest → e.echo = none → I s → I { s with queue := rest } :=
    fun s e rest hq he h => by simpa using hh s e rest none hq he h
  have hecho : ∀ s e rest o, s.queue = e :: rest → e.echo = some o → I s → I { s with queue := rest, out := s.out ++ [o] } :=
    fun s e rest o hq he h => hh s e rest (some o) hq he h
  clear hh
  mvcgen [tick, emit, hp, hc, hr, ha, hl]
  all_goals subst_vars
  all_goals repeat (first
    | assumption
    | exact hpop _ _ _ ‹_ = _ :: _› rfl ‹I _›
    | (have h := hecho _ _ _ _ ‹_ = _ :: _› rfl ‹I _›; exact h)
    | refine hu _ (by decide) _ _ (.requeueProp _) ?_
    | refine hu _ (by decide) _ _ (.requeueVC _) ?_)

/-- the hand-over as two primitive updates, pop and emit -/
theorem hand_of_upd {I : RState → Prop} (hu : ∀ t ∈ [Tag.pop, .outEvent], ∀ s s', Upd t s s' → I s → I s')
    (s : RState) (e : Ev) (rest : List Ev) (o : Option Out) (hq : s.queue = e :: rest) (he : e.echo = o) (h : I s) :
    I { s with queue := rest, out := s.out ++ o.toList } := by
  have hp := hu _ (by decide) _ _ (.pop s e rest hq) h
  cases o with
  | none => simpa using hp
  | some o =>
    have ht : o.tag = .outEvent := by cases e <;> cases he <;> rfl
    exact hu _ (by decide) _ _ (ht ▸ Upd.out _ o) hp

/-- ... for an invariant that popping keeps -/
theorem tick_rule {I : RState → Prop}
    (hp : ∀ id b agg, ⦃fun s => ⌜I s⌝⦄ onPropose k c id b agg ⦃⇓ _ s => ⌜I s⌝⦄)
    (hc : ∀ id sig h d, ⦃fun s => ⌜I s⌝⦄ collectVote k c id sig h d ⦃⇓ _ s => ⌜I s⌝⦄)
    (hr : ∀ t, ⦃fun s => ⌜I s⌝⦄ onRemoteTimeout k c t ⦃⇓ _ s => ⌜I s⌝⦄)
    (ha : ∀ si, ⦃fun s => ⌜I s⌝⦄ advanceView k c si ⦃⇓ _ s => ⌜I s⌝⦄)
    (hl : ⦃fun s => ⌜I s⌝⦄ onLocalTimeout k c ⦃⇓ _ s => ⌜I s⌝⦄)
    (hu : ∀ t ∈ [Tag.pop, .outEvent, .requeueProp, .requeueVC], ∀ s s', Upd t s s' → I s → I s') :
    ⦃fun s => ⌜I s⌝⦄ tick k c ⦃⇓ _ s => ⌜I s⌝⦄ :=
  tick_fifo_rule k c hp hc hr ha hl (hand_of_upd fun t ht => hu t (List.mem_append_left _ ht))
    fun t ht => hu t (List.mem_append_right [Tag.pop, .outEvent] ht)

theorem runLoop_rule {I : RState → Prop} (ht : ⦃fun s => ⌜I s⌝⦄ tick k c ⦃⇓ _ s => ⌜I s⌝⦄) (fuel : Nat) :
    ⦃fun s => ⌜I s⌝⦄ runLoop k c fuel ⦃⇓ _ s => ⌜I s⌝⦄ := by
  induction fuel with
  | zero => mvcgen [runLoop]
  | succ n ih => mvcgen [runLoop, ht, ih]

/-- **the event loop**: an invariant of `advanceView`, of the vote on a proposal, of the two signatures (`hsv`, `hst`) and the
record (`ht`) of a local timeout and of `tick`'s hand-over of the head of the queue (`hh`) that every kind of update outside
`bad` respects, where `bad` holds only kinds that those perform, is an invariant of the event loop.  `G b`: what
`advanceView` on the certificate of the proposed block `b` establishes for the voter, who is asked about a proposal that is
not for a later view; `W id b`: what a positive answer of `voterVerify` adds for `onValidPropose`. -/
theorem runLoop_of_guard {I : RState → Prop} {G : Block → RState → Prop} {W : Nat → Block → RState → Prop} {bad : List Tag}
    (ha : ∀ si, ⦃fun s => ⌜I s⌝⦄ advanceView k c si ⦃⇓ _ s => ⌜I s⌝⦄)
    (hg : ∀ b : Block, ⦃fun s => ⌜I s⌝⦄ advanceView k c { qc := some b.qc } ⦃⇓ _ s => ⌜I s ∧ G b s⌝⦄)
    (hv : ∀ id b agg, ⦃fun s => ⌜I s ∧ G b s ∧ b.view ≤ s.view⌝⦄ voterVerify k c id b agg
      ⦃⇓ r s => ⌜I s ∧ (r = .ok () → W id b s)⌝⦄)
    (ho : ∀ id b, ⦃fun s => ⌜I s ∧ W id b s⌝⦄ onValidPropose k c id b ⦃⇓ _ s => ⌜I s⌝⦄)
    (hsv : ∀ v, ⦃fun s => ⌜I s⌝⦄ signMsg c (viewMsg v) ⦃⇓ _ s => ⌜I s⌝⦄)
    (hst : ∀ i v q, ⦃fun s => ⌜I s⌝⦄ signMsg c (k.tmo i v q) ⦃⇓ _ s => ⌜I s⌝⦄)
    (ht : ∀ s t w, w = s.view → I s →
      I { s with lastTimeout := some t, lastVoted := (if s.lastVoted < w then w else s.lastVoted), ghost := s.ghost ++ [.tmo w] })
    (hh : ∀ s e rest o, s.queue = e :: rest → e.echo = o → I s → I { s with queue := rest, out := s.out ++ o.toList })
    (hu : ∀ {t s s'}, Upd t s s' → t ∉ bad → I s → I s') (fuel : Nat)
    (hbad : ∀ t ∈ bad, t ∈ [Tag.sign, .timedOut, .pop, .outEvent, .highTC, .highQC, .adv, .enqVC, .voted, .lock, .committed,
      .enqCommit, .lastProposed, .nextCmd] := by decide) :
    ⦃fun s => ⌜I s⌝⦄ runLoop k c fuel ⦃⇓ _ s => ⌜I s⌝⦄ := by
  have hu : ∀ {t s s'}, Upd t s s' → t ∉ [Tag.sign, .timedOut, .pop, .outEvent, .highTC, .highQC, .adv, .enqVC, .voted, .lock,
      .committed, .enqCommit, .lastProposed, .nextCmd] → I s → I s' := fun h ht => hu h fun hb => ht (hbad _ hb)
  have hr := fun t => onRemoteTimeout_rule k c t ha (upd_of_notin hu _)
  have hl := onLocalTimeout_rule_guard k c hsv hst hr ht (upd_of_notin hu _)
  have hp := fun id b agg => onPropose_rule_guard k c id b agg (hg b) (hv id b agg) (ho id b) (upd_of_notin hu _)
  have hc := fun id sig h d => (collectVote_steps k c id sig h d).preserves (upd_of_notin hu _)
  exact runLoop_rule k c (tick_fifo_rule k c hp hc hr ha hl hh (upd_of_notin hu _)) fuel

/-- ... for an invariant that needs none of the handlers' guards and keeps any signature and the record of a timeout for
any view -/
theorem runLoop_of_fifo {I : RState → Prop} {W : Nat → Block → RState → Prop} {bad : List Tag}
    (ha : ∀ si, ⦃fun s => ⌜I s⌝⦄ advanceView k c si ⦃⇓ _ s => ⌜I s⌝⦄)
    (hv : ∀ id b agg, ⦃fun s => ⌜I s⌝⦄ voterVerify k c id b agg ⦃⇓ r s => ⌜I s ∧ (r = .ok () → W id b s)⌝⦄)
    (ho : ∀ id b, ⦃fun s => ⌜I s ∧ W id b s⌝⦄ onValidPropose k c id b ⦃⇓ _ s => ⌜I s⌝⦄)
    (hh : ∀ s e rest o, s.queue = e :: rest → e.echo = o → I s → I { s with queue := rest, out := s.out ++ o.toList })
    (hu : ∀ {t s s'}, Upd t s s' → t ∉ bad → I s → I s') (fuel : Nat)
    (hbad : ∀ t ∈ bad, t ∈ [Tag.pop, .outEvent, .highTC, .highQC, .adv, .enqVC, .voted, .lock, .committed, .enqCommit,
      .lastProposed, .nextCmd] := by decide) :
    ⦃fun s => ⌜I s⌝⦄ runLoop k c fuel ⦃⇓ _ s => ⌜I s⌝⦄ := by
  have hu : ∀ {t s s'}, Upd t s s' → t ∉ [Tag.pop, .outEvent, .highTC, .highQC, .adv, .enqVC, .voted, .lock, .committed,
      .enqCommit, .lastProposed, .nextCmd] → I s → I s' := fun h ht => hu h fun hb => ht (hbad _ hb)
  have hs := fun m => (signMsg_steps c m).preserves (upd_of_notin hu _)
  exact runLoop_of_guard k c (G := fun _ _ => True) ha (fun _ => triple_conseq (ha _) (fun _ h => h) fun _ _ h => ⟨h, trivial⟩)
    (fun id b agg => triple_of_left (hv id b agg)) ho (fun _ => hs _) (fun _ _ _ => hs _)
    (fun s t w _ h => hu (.timedOut s t w) (by decide) h) hh hu fuel

/-- ... for an invariant that the two halves of the hand-over keep one by one -/
theorem runLoop_of {I : RState → Prop} {W : Nat → Block → RState → Prop} {bad : List Tag}
    (ha : ∀ si, ⦃fun s => ⌜I s⌝⦄ advanceView k c si ⦃⇓ _ s => ⌜I s⌝⦄)
    (hv : ∀ id b agg, ⦃fun s => ⌜I s⌝⦄ voterVerify k c id b agg ⦃⇓ r s => ⌜I s ∧ (r = .ok () → W id b s)⌝⦄)
    (ho : ∀ id b, ⦃fun s => ⌜I s ∧ W id b s⌝⦄ onValidPropose k c id b ⦃⇓ _ s => ⌜I s⌝⦄)
    (hu : ∀ {t s s'}, Upd t s s' → t ∉ bad → I s → I s') (fuel : Nat)
    (hbad : ∀ t ∈ bad, t ∈ [Tag.highTC, .highQC, .adv, .enqVC, .voted, .lock, .committed, .enqCommit, .lastProposed,
      .nextCmd] := by decide) :
    ⦃fun s => ⌜I s⌝⦄ runLoop k c fuel ⦃⇓ _ s => ⌜I s⌝⦄ := by
  have hu : ∀ {t s s'}, Upd t s s' → t ∉ [Tag.highTC, .highQC, .adv, .enqVC, .voted, .lock, .committed, .enqCommit,
      .lastProposed, .nextCmd] → I s → I s' := fun h ht => hu h fun hb => ht (hbad _ hb)
  exact runLoop_of_fifo k c ha hv ho (hand_of_upd (upd_of_notin hu _)) hu fuel

/-- ... when only `advanceView`'s own kinds of update and the hand-over (`bad ⊆ [highTC, highQC, adv, enqVC, pop, outEvent]`)
can break the invariant -/
theorem runLoop_of_advanceView {I : RState → Prop} {bad : List Tag}
    (ha : ∀ si, ⦃fun s => ⌜I s⌝⦄ advanceView k c si ⦃⇓ _ s => ⌜I s⌝⦄)
    (hh : ∀ s e rest o, s.queue = e :: rest → e.echo = o → I s → I { s with queue := rest, out := s.out ++ o.toList })
    (hu : ∀ {t s s'}, Upd t s s' → t ∉ bad → I s → I s') (fuel : Nat)
    (hbad : ∀ t ∈ bad, t ∈ [Tag.highTC, .highQC, .adv, .enqVC, .pop, .outEvent] := by decide) :
    ⦃fun s => ⌜I s⌝⦄ runLoop k c fuel ⦃⇓ _ s => ⌜I s⌝⦄ := by
  have hu : ∀ {t s s'}, Upd t s s' → t ∉ [Tag.highTC, .highQC, .adv, .enqVC, .pop, .outEvent] → I s → I s' :=
    fun h ht => hu h fun hb => ht (hbad _ hb)
  exact runLoop_of_fifo k c (W := fun _ _ _ => True) ha
    (fun id b agg => triple_resTrue ((voterVerify_steps k c id b agg).preserves (upd_of_notin hu _)))
    (fun id b => triple_of_left ((onValidPropose_steps k c id b).preserves (upd_of_notin hu _))) hh hu fuel

/-! ### Voting and committing as one step

Both handlers that vote call `tryCommit` and `voteFor` next to each other — `onValidPropose` commits first,
`createAndPropose` votes first — and an invariant that speaks of votes and of the lock, the committed block or the
store at once holds before and after the pair, not in between.  These rules take the pair as ONE step, in either order
(`hcv`, `hvc`), from a state in which `voterVerify` has just accepted the block (`W`). -/

theorem onValidPropose_accept {I W : RState → Prop} (id : Nat) (b : Block)
    (hcv : ∀ s, I s → W s → I ((voteFor c b id).run ((tryCommit c b).run s).2).2)
    (hu : ∀ t ∈ Tag.outSend :: collectVoteT, ∀ s s', Upd t s s' → I s → I s') :
    ⦃fun s => ⌜I s ∧ W s⌝⦄ onValidPropose k c id b ⦃⇓ _ s => ⌜I s⌝⦄ :=
  onValidPropose_rule k c id b (J := fun s => I ((voteFor c b id).run s).2)
    (triple_of_run _ _ _ fun s h => hcv s h.1 h.2) (triple_of_run _ _ _ fun _ h => h) hu

theorem createAndPropose_accept {I : RState → Prop} {W : Block → RState → Prop} (si : SyncInfo)
    (hv : ∀ b agg, ⦃fun s => ⌜I s⌝⦄ voterVerify k c c.id b agg ⦃⇓ r s => ⌜I s ∧ (r = .ok () → W b s)⌝⦄)
    (hvc : ∀ b s, I s → W b s → I ((tryCommit c b).run ((voteFor c b c.id).run s).2).2)
    (hu : ∀ t ∈ Tag.lastProposed :: .nextCmd :: .outSend :: collectVoteT, ∀ s s', Upd t s s' → I s → I s') :
    ⦃fun s => ⌜I s⌝⦄ createAndPropose k c si ⦃⇓ _ s => ⌜I s⌝⦄ :=
  createAndPropose_rule k c si (I := I) (W := W) (J := fun b s => I ((tryCommit c b).run s).2) hv
    (fun b => triple_of_run _ _ _ fun s hs => hvc b s hs.1 hs.2) (fun _ => triple_of_run _ _ _ fun _ h => h) hu

/-- **the event loop**, for an invariant that every kind of update outside `bad ⊆ [voted, lock, committed, enqCommit]`
respects — the kinds that only `voteFor` and `tryCommit` perform -/
theorem runLoop_accept {I : RState → Prop} {W : Nat → Block → RState → Prop} {bad : List Tag}
    (hv : ∀ id b agg, ⦃fun s => ⌜I s⌝⦄ voterVerify k c id b agg ⦃⇓ r s => ⌜I s ∧ (r = .ok () → W id b s)⌝⦄)
    (hcv : ∀ id b s, I s → W id b s → I ((voteFor c b id).run ((tryCommit c b).run s).2).2)
    (hvc : ∀ b s, I s → W c.id b s → I ((tryCommit c b).run ((voteFor c b c.id).run s).2).2)
    (hu : ∀ {t s s'}, Upd t s s' → t ∉ bad → I s → I s') (fuel : Nat)
    (hbad : ∀ t ∈ bad, t ∈ [Tag.voted, .lock, .committed, .enqCommit] := by decide) :
    ⦃fun s => ⌜I s⌝⦄ runLoop k c fuel ⦃⇓ _ s => ⌜I s⌝⦄ := by
  have hu : ∀ {t s s'}, Upd t s s' → t ∉ [Tag.voted, .lock, .committed, .enqCommit] → I s → I s' :=
    fun h ht => hu h fun hb => ht (hbad _ hb)
  exact runLoop_of k c (W := W)
    (fun si => advanceView_rule k c si
      (fun si => createAndPropose_accept k c si (hv c.id) hvc (upd_of_notin hu _)) (upd_of_notin hu _))
    hv (fun id b => onValidPropose_accept k c id b (hcv id b) (upd_of_notin hu _)) hu fuel

theorem advanceView_steps (si : SyncInfo) : StepsOf advanceT (advanceView k c si) :=
  .of_triple fun s0 => advanceView_rule k c si (fun si => (createAndPropose_steps k c si).spec advanceT s0) (.own s0 _)

theorem onRemoteTimeout_steps (t : TimeoutMsg) : StepsOf timeoutT (onRemoteTimeout k c t) :=
  .of_triple fun s0 => onRemoteTimeout_rule k c t (fun si => (advanceView_steps k c si).spec timeoutT s0) (.own s0 _)

theorem onLocalTimeout_steps : StepsOf timeoutT (onLocalTimeout k c) :=
  .of_triple fun s0 => onLocalTimeout_rule k c (fun m => (signMsg_steps c m).spec timeoutT s0)
    (fun t => (onRemoteTimeout_steps k c t).spec timeoutT s0) (.own s0 _)

theorem onPropose_steps (id : Nat) (b : Block) (agg : Option AggQC) :
    StepsOf (.deferVC :: advanceT) (onPropose k c id b agg) :=
  .of_triple fun s0 => onPropose_rule (W := fun _ => True) k c id b agg
    (fun si => (advanceView_steps k c si).spec _ s0)
    (triple_resTrue ((voterVerify_steps k c id b agg).spec _ s0))
    (triple_of_left ((onValidPropose_steps k c id b).spec _ s0)) (.own s0 _)

theorem tick_steps : StepsOf tickT (tick k c) :=
  .of_triple fun s0 => tick_rule k c (fun id b agg => (onPropose_steps k c id b agg).spec tickT s0)
    (fun id sig h d => (collectVote_steps k c id sig h d).spec tickT s0)
    (fun t => (onRemoteTimeout_steps k c t).spec tickT s0) (fun si => (advanceView_steps k c si).spec tickT s0)
    ((onLocalTimeout_steps k c).spec tickT s0) (.own s0 _)

theorem runLoop_steps (fuel : Nat) : StepsOf tickT (runLoop k c fuel) :=
  .of_triple fun s0 => runLoop_rule k c ((tick_steps k c).spec tickT s0) fuel

/-- `Start`: the first proposal, with the replica's own high certificates, if this replica leads view 1, then the event
loop -/
theorem start_rule_guard {I : RState → Prop}
    (hc : ∀ si, ⦃fun s => ⌜I s ∧ si = { qc := some s.highQC, tc := some s.highTC }⌝⦄ createAndPropose k c si ⦃⇓ _ s => ⌜I s⌝⦄)
    (hr : ⦃fun s => ⌜I s⌝⦄ runLoop k c 100000 ⦃⇓ _ s => ⌜I s⌝⦄) (s : RState) (h : I { s with out := [] }) :
    ∃ s1, I s1 ∧ start k c s = ({ s1 with out := [] }, s1.out) := by
  have spec : ⦃fun s => ⌜I s⌝⦄ (do
      let s ← get
      if s.view == 1 && c.leader 1 == c.id then
        createAndPropose k c { qc := some s.highQC, tc := some s.highTC }
      runLoop k c 100000 : M Unit) ⦃⇓ _ s => ⌜I s⌝⦄ := by
    mvcgen [hc, hr]
  exact ⟨_, run_res_of_triple _ _ _ spec _ h, rfl⟩

theorem start_rule {I : RState → Prop}
    (hc : ∀ si, ⦃fun s => ⌜I s⌝⦄ createAndPropose k c si ⦃⇓ _ s => ⌜I s⌝⦄)
    (hr : ⦃fun s => ⌜I s⌝⦄ runLoop k c 100000 ⦃⇓ _ s => ⌜I s⌝⦄) (s : RState) (h : I { s with out := [] }) :
    ∃ s1, I s1 ∧ start k c s = ({ s1 with out := [] }, s1.out) :=
  start_rule_guard k c (I := I) (fun si => triple_conseq (hc si) (fun _ h => h.1) fun _ _ h => h) hr s h

theorem step_rule {I : RState → Prop} (hr : ⦃fun s => ⌜I s⌝⦄ runLoop k c 100000 ⦃⇓ _ s => ⌜I s⌝⦄) (s : RState) (e : Ev)
    (h : I { s with out := [], queue := s.queue ++ [e] }) :
    ∃ s1, I s1 ∧ step k c s e = ({ s1 with out := [] }, s1.out) :=
  ⟨_, run_res_of_triple _ _ _ hr _ h, rfl⟩

/-- ... for an invariant of the event loop that does not read the effects -/
theorem step_keeps {I : RState → Prop} (hr : ⦃fun s => ⌜I s⌝⦄ runLoop k c 100000 ⦃⇓ _ s => ⌜I s⌝⦄)
    (ho : ∀ s, I s → I { s with out := [] }) (s : RState) (e : Ev)
    (h : I { s with out := [], queue := s.queue ++ [e] }) : I (step k c s e).1 := by
  obtain ⟨s1, h1, he⟩ := step_rule k c hr s e h
  rw [he]; exact ho _ h1

theorem start_keeps_guard {I : RState → Prop}
    (hc : ∀ si, ⦃fun s => ⌜I s ∧ si = { qc := some s.highQC, tc := some s.highTC }⌝⦄ createAndPropose k c si ⦃⇓ _ s => ⌜I s⌝⦄)
    (hr : ⦃fun s => ⌜I s⌝⦄ runLoop k c 100000 ⦃⇓ _ s => ⌜I s⌝⦄)
    (ho : ∀ s, I s → I { s with out := [] }) (s : RState) (h : I s) : I (start k c s).1 := by
  obtain ⟨s1, h1, he⟩ := start_rule_guard k c hc hr s (ho s h)
  rw [he]; exact ho _ h1

theorem start_keeps {I : RState → Prop}
    (hc : ∀ si, ⦃fun s => ⌜I s⌝⦄ createAndPropose k c si ⦃⇓ _ s => ⌜I s⌝⦄)
    (hr : ⦃fun s => ⌜I s⌝⦄ runLoop k c 100000 ⦃⇓ _ s => ⌜I s⌝⦄)
    (ho : ∀ s, I s → I { s with out := [] }) (s : RState) (h : I s) : I (start k c s).1 :=
  start_keeps_guard k c (I := I) (fun si => triple_conseq (hc si) (fun _ h => h.1) fun _ _ h => h) hr ho s h

theorem start_steps (s : RState) :
    ∃ s1, Steps tickT { s with out := [] } s1 ∧ start k c s = ({ s1 with out := [] }, s1.out) :=
  start_rule k c (fun si => (createAndPropose_steps k c si).spec tickT _) ((runLoop_steps k c 100000).spec tickT _) s (.refl _)

/-- **What the `_accept` rules ask of an invariant `I`, once.**  `I` holds before and after `tryCommit` and `voteFor` taken
together, in either order, from a state in which `voterVerify` has just accepted the block (`W`); every kind of update
outside `bad` — kinds that only those two perform — keeps it, and it does not read the effects. -/
structure AcceptInv (k : Keys) (c : RCfg) (bad : List Tag) (I : RState → Prop) (W : Nat → Block → RState → Prop) :
    Prop where
  verify : ∀ id b agg, ⦃fun s => ⌜I s⌝⦄ voterVerify k c id b agg ⦃⇓ r s => ⌜I s ∧ (r = .ok () → W id b s)⌝⦄
  commitVote : ∀ id b s, I s → W id b s → I ((voteFor c b id).run ((tryCommit c b).run s).2).2
  voteCommit : ∀ id b s, I s → W id b s → I ((tryCommit c b).run ((voteFor c b id).run s).2).2
  upd : ∀ {t s s'}, Upd t s s' → t ∉ bad → I s → I s'
  out : ∀ s, I s → I { s with out := [] }
  bad_sub : ∀ t ∈ bad, t ∈ [Tag.voted, .lock, .committed, .enqCommit] := by decide

section AcceptInv
variable {k c} {bad : List Tag} {I : RState → Prop} {W : Nat → Block → RState → Prop}

theorem AcceptInv.runLoop (h : AcceptInv k c bad I W) (fuel : Nat) :
    ⦃fun s => ⌜I s⌝⦄ runLoop k c fuel ⦃⇓ _ s => ⌜I s⌝⦄ :=
  runLoop_accept k c h.verify h.commitVote (h.voteCommit c.id) h.upd fuel h.bad_sub

theorem AcceptInv.step (h : AcceptInv k c bad I W) (s : RState) (e : Ev)
    (hi : I { s with out := [], queue := s.queue ++ [e] }) : I (step k c s e).1 :=
  step_keeps k c (h.runLoop _) h.out s e hi

theorem AcceptInv.start (h : AcceptInv k c bad I W) (s : RState) (hi : I s) : I (start k c s).1 :=
  start_keeps k c
    (fun si => createAndPropose_accept k c si (h.verify c.id) (h.voteCommit c.id)
      (upd_of_notin (fun hu ht => h.upd hu fun hb => ht (h.bad_sub _ hb)) _))
    (h.runLoop _) h.out s hi

end AcceptInv

/-! ## The loop, as equations

`tick` on a queue whose head is a message hands it to its handler (`h`: what the handler does — `rfl` when nothing is
known of it, with `s'` given: left to the unifier it comes out as the handler unfolded); `step` on an empty queue is that
one `tick` and then the rest of the loop (`drain`). -/

theorem tick_empty (s : RState) (hq : s.queue = []) : (tick k c).run s = pure (false, s) := by
  unfold tick
  simp only [bind, StateT.bind, get, getThe, MonadStateOf.get, StateT.get, StateT.run, hq, pure, StateT.pure]

theorem tick_propose {s s' : RState} {id : Nat} {b : Block} {agg : Option AggQC} {rest : List Ev}
    (hq : s.queue = .propose id b agg :: rest)
    (h : (onPropose k c id b agg).run { s with queue := rest } = pure ((), s')) :
    (tick k c).run s = pure (true, { s' with waitingProp := [], queue := s'.queue ++ s'.waitingProp }) := by
  have h' : onPropose k c id b agg { s with queue := rest } = ((), s') := h
  unfold tick
  simp only [bind, StateT.bind, get, getThe, MonadStateOf.get, StateT.get, StateT.run, hq, set, StateT.set, pure, StateT.pure, h']

theorem tick_vote {s s' : RState} {id : Nat} {sig : Option Sig} {hash : Hash} {d : Bool}
    {rest : List Ev} (hq : s.queue = .vote id sig hash d :: rest)
    (h : (collectVote k c id sig hash d).run { s with queue := rest } = pure ((), s')) :
    (tick k c).run s = pure (true, s') := by
  have h' : collectVote k c id sig hash d { s with queue := rest } = ((), s') := h
  unfold tick
  simp only [bind, StateT.bind, get, getThe, MonadStateOf.get, StateT.get, StateT.run, hq, set, StateT.set, pure, StateT.pure, h']

theorem tick_newview {s s' : RState} {id : Nat} {si : SyncInfo}
    {rest : List Ev} (hq : s.queue = .newview id si :: rest)
    (h : (advanceView k c si).run { s with queue := rest } = pure ((), s')) :
    (tick k c).run s = pure (true, s') := by
  have h' : advanceView k c si { s with queue := rest } = ((), s') := h
  unfold tick
  simp only [bind, StateT.bind, get, getThe, MonadStateOf.get, StateT.get, StateT.run, hq, set, StateT.set, pure, StateT.pure, h']

theorem tick_timeout {s s' : RState} {t : TimeoutMsg}
    {rest : List Ev} (hq : s.queue = .timeout t :: rest)
    (h : (onRemoteTimeout k c t).run { s with queue := rest } = pure ((), s')) :
    (tick k c).run s = pure (true, s') := by
  have h' : onRemoteTimeout k c t { s with queue := rest } = ((), s') := h
  unfold tick
  simp only [bind, StateT.bind, get, getThe, MonadStateOf.get, StateT.get, StateT.run, hq, set, StateT.set, pure, StateT.pure, h']

theorem runLoop_succ (n : Nat) {s s' : RState} (h : (tick k c).run s = pure (true, s')) :
    (runLoop k c (n + 1)).run s = (runLoop k c n).run s' := by
  have h' : tick k c s = (true, s') := h
  simp only [runLoop, bind, StateT.bind, StateT.run, h']
  rfl

theorem runLoop_idle (n : Nat) {s : RState} (hq : s.queue = []) :
    (runLoop k c (n + 1)).run s = pure ((), s) := by
  have h' : tick k c s = (false, s) := tick_empty k c s hq
  simp only [runLoop, bind, StateT.bind, StateT.run, h']
  rfl

/-- the rest of a step after its first tick: run the loop on, return state and effects -/
def drain (k : Keys) (c : RCfg) (s1 : RState) : RState × List Out :=
  ({ ((runLoop k c 99999).run s1).2 with out := [] }, ((runLoop k c 99999).run s1).2.out)

/-- **one delivery to an empty queue**: the first turn of the loop hands the event to its handler (`ht`: one of the `tick_…`
lemmas applied to the handler's run); the step is what the rest of the loop makes of the state `s'` the handler ends in -/
theorem step_tick (s s' : RState) (e : Ev) (hq : s.queue = [])
    (ht : (tick k c).run { s with out := [], queue := [e] } = pure (true, s')) :
    step k c s e = drain k c s' := by
  have e1 : step k c s e =
      ({ ((runLoop k c (99999 + 1)).run { s with out := [], queue := s.queue ++ [e] }).2 with out := [] },
       ((runLoop k c (99999 + 1)).run { s with out := [], queue := s.queue ++ [e] }).2.out) := rfl
  rw [e1, hq]
  exact congrArg (fun r : Id (Unit × RState) => (({ r.2 with out := [] } : RState), r.2.out)) (runLoop_succ k c 99999 ht)

theorem step_tick_idle (s s' : RState) (e : Ev) (hq : s.queue = [])
    (ht : (tick k c).run { s with out := [], queue := [e] } = pure (true, s')) (hq' : s'.queue = []) :
    step k c s e = ({ s' with out := [] }, s'.out) := by
  rw [step_tick k c s s' e hq ht, drain, runLoop_idle k c 99998 hq']
  rfl

end Handlers
end HsVerif.Model
