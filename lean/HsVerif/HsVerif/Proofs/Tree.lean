import HsVerif.Model.Tree
/-! Lemmas for C17 about the Kauri tree of internal/tree/tree.go, read as a heap laid out in `pos`
(`treePosToID`): the children of position `p` are the positions `p*bf+1 … p*bf+bf`, the parent of
position `q ≥ 1` is `(q-1)/bf`. -/
namespace HsVerif.Model.Tree

theorem getD_eq_getElem {l : List Nat} {i : Nat} (h : i < l.length) : l.getD i 0 = l[i] := by
  simp [List.getD_eq_getElem?_getD, List.getElem?_eq_getElem h]

theorem replicaPosition_mk' (id bf : Nat) (pos : List Nat) (x : Nat) :
    (mk' id bf pos).replicaPosition x = if pos.idxOf x < pos.length then some (pos.idxOf x) else none := rfl

theorem replicaPosition_getElem {id bf : Nat} {pos : List Nat} (hnd : pos.Nodup) (p : Nat) (hp : p < pos.length) :
    (mk' id bf pos).replicaPosition pos[p] = some p := by
  rw [replicaPosition_mk', hnd.idxOf_getElem p hp, if_pos hp]

/-- membership in the Go slice expression `l[s:e]` -/
theorem mem_slice {l : List Nat} {s e x : Nat} :
    x ∈ (l.take e).drop s ↔ ∃ q, ∃ h : q < l.length, s ≤ q ∧ q < e ∧ l[q] = x := by
  simp only [List.mem_drop_iff_getElem, List.getElem_take, List.length_take]
  constructor
  · rintro ⟨i, h, rfl⟩; exact ⟨s + i, by omega, by omega, by omega, rfl⟩
  · rintro ⟨q, h, h1, h2, rfl⟩; exact ⟨q - s, by omega, by simp [Nat.add_sub_cancel' h1]⟩

/-- arithmetic of the heap layout: `q` is a child position of `p` -/
theorem child_range_iff {b p q : Nat} (hb : 0 < b) :
    (p * b + 1 ≤ q ∧ q < p * b + 1 + b) ↔ (1 ≤ q ∧ (q - 1) / b = p) := by
  rw [Nat.div_eq_iff hb]
  omega

theorem parentPos_lt {b q : Nat} (hq : 1 ≤ q) : (q - 1) / b < q := by
  have : (q - 1) / b ≤ q - 1 := Nat.div_le_self _ _
  omega

theorem mem_childrenOf_iff {id b : Nat} {pos : List Nat} (hnd : pos.Nodup) (hb : 2 ≤ b) (x c : Nat) :
    c ∈ (mk' id b pos).childrenOf x ↔
      ∃ q, ∃ h : q < pos.length, pos[q] = c ∧ 1 ≤ q ∧ pos[(q - 1) / b]? = some x := by
  have hb0 : 0 < b := by omega
  by_cases hx : x ∈ pos
  · obtain ⟨p, hp, rfl⟩ := List.getElem_of_mem hx
    have key : ∀ q, pos[(q - 1) / b]? = some pos[p] ↔ (q - 1) / b = p := fun q =>
      List.getElem?_eq_some_iff.trans ⟨fun ⟨_, e⟩ => (List.getElem_inj hnd).mp e, fun e => ⟨e ▸ hp, by simp [e]⟩⟩
    simp only [childrenOf, replicaPosition_getElem hnd p hp, key]
    show c ∈ (if p * b + 1 ≥ pos.length then []
      else (pos.take (if p * b + 1 + b > pos.length then pos.length else p * b + 1 + b)).drop (p * b + 1)) ↔ _
    split
    · simp only [List.not_mem_nil, false_iff]
      rintro ⟨q, h, _, h12⟩
      have := (child_range_iff (p := p) (q := q) hb0).mpr h12
      omega
    · rw [mem_slice]
      constructor
      · rintro ⟨q, h, h1, h2, h3⟩
        exact ⟨q, h, h3, (child_range_iff hb0).mp ⟨h1, by split at h2 <;> omega⟩⟩
      · rintro ⟨q, h, h3, h12⟩
        obtain ⟨a1, a2⟩ := (child_range_iff (p := p) (q := q) hb0).mpr h12
        exact ⟨q, h, a1, by split <;> omega, h3⟩
  · have : (mk' id b pos).childrenOf x = [] := by
      rw [childrenOf, replicaPosition_mk', if_neg (by rwa [List.idxOf_lt_length_iff])]
    rw [this]
    simp only [List.not_mem_nil, false_iff]
    rintro ⟨q, _, _, _, h2⟩
    exact hx (List.mem_of_getElem? h2)

theorem childrenOf_eq_slice (t : Tree) (x : Nat) :
    ∃ s e, e ≤ s + t.bf ∧ t.childrenOf x = (t.pos.take e).drop s := by
  unfold childrenOf
  split
  · exact ⟨0, 0, Nat.zero_le _, rfl⟩
  · simp only
    split
    · exact ⟨0, 0, Nat.zero_le _, rfl⟩
    · exact ⟨_, _, by split <;> omega, rfl⟩

theorem childrenOf_sublist (t : Tree) (x : Nat) : (t.childrenOf x).Sublist t.pos := by
  obtain ⟨s, e, _, h⟩ := childrenOf_eq_slice t x
  rw [h]
  exact (List.drop_sublist _ _).trans (List.take_sublist _ _)

theorem childrenOf_id_irrel (id id' b : Nat) (pos : List Nat) (x : Nat) :
    (mk' id b pos).childrenOf x = (mk' id' b pos).childrenOf x := rfl

theorem childrenOf_idx_lt {id b : Nat} {pos : List Nat} (hnd : pos.Nodup) (hb : 2 ≤ b) {x c : Nat}
    (hc : c ∈ (mk' id b pos).childrenOf x) : x ∈ pos ∧ c ∈ pos ∧ pos.idxOf x < pos.idxOf c := by
  obtain ⟨q, hq, rfl, h1, h2⟩ := (mem_childrenOf_iff hnd hb x c).mp hc
  obtain ⟨hp, rfl⟩ := List.getElem?_eq_some_iff.mp h2
  rw [hnd.idxOf_getElem _ _, hnd.idxOf_getElem _ _]
  exact ⟨List.getElem_mem _, List.getElem_mem _, parentPos_lt h1⟩

/-- `Parent` from the vantage point of the replica at position `q`. -/
theorem parent_getElem {b : Nat} {pos : List Nat} (hnd : pos.Nodup) (q : Nat) (hq : q < pos.length) :
    (mk' pos[q] b pos).parent = if q = 0 then (pos[q], false) else (pos.getD ((q - 1) / b) 0, true) := by
  rw [parent, show (mk' pos[q] b pos).id = pos[q] from rfl, replicaPosition_getElem hnd q hq]
  cases q <;> rfl

theorem parent_eq_iff {b : Nat} {pos : List Nat} (hnd : pos.Nodup) (q : Nat) (hq : q < pos.length) (p : Nat) :
    (mk' pos[q] b pos).parent = (p, true) ↔ 1 ≤ q ∧ pos[(q - 1) / b]? = some p := by
  rw [parent_getElem hnd q hq]
  cases q with
  | zero => simp
  | succ q =>
    have hlt : q / b < pos.length := Nat.lt_of_le_of_lt (Nat.div_le_self _ _) (by omega)
    rw [if_neg (Nat.succ_ne_zero q), show q + 1 - 1 = q from rfl, getD_eq_getElem hlt, List.getElem?_eq_getElem hlt]
    simp [eq_comm]

theorem parent_snd_eq_false_iff {b : Nat} {pos : List Nat} (hnd : pos.Nodup) (q : Nat) (hq : q < pos.length) :
    (mk' pos[q] b pos).parent.2 = false ↔ q = 0 := by
  rw [parent_getElem hnd q hq]
  cases q <;> simp

/-! ### the work-list loop of `SubTree` computes the proper descendants -/

inductive Desc (ch : Nat → List Nat) (r : Nat) : Nat → Prop
  | child {c : Nat} : c ∈ ch r → Desc ch r c
  | step {x c : Nat} : Desc ch r x → c ∈ ch x → Desc ch r c

structure GoodCh (ch : Nat → List Nat) (U : List Nat) : Prop where
  sub : ∀ x c, c ∈ ch x → c ∈ U
  nodup : ∀ x, (ch x).Nodup
  uniq : ∀ x y c, c ∈ ch x → c ∈ ch y → x = y
  acyc : ∀ x, ¬ Desc ch x x

theorem Desc.mem_univ {ch : Nat → List Nat} {U : List Nat} (g : GoodCh ch U) {r c : Nat} (h : Desc ch r c) : c ∈ U := by
  cases h with
  | child h => exact g.sub _ _ h
  | step _ h => exact g.sub _ _ h

theorem Desc.trans {ch : Nat → List Nat} {a b c : Nat} (h1 : Desc ch a b) (h2 : Desc ch b c) : Desc ch a c := by
  induction h2 with
  | child h => exact Desc.step h1 h
  | step _ h ih => exact Desc.step ih h

theorem getElem_not_mem_take {l : List Nat} (hnd : l.Nodup) (i : Nat) (hi : i < l.length) : l[i] ∉ l.take i := by
  intro h
  rw [List.mem_take_iff_getElem] at h
  obtain ⟨j, hj, e⟩ := h
  have hj' : j < l.length := by omega
  have := (List.getElem_inj (h₀ := hj') (h₁ := hi) hnd).mp e
  omega

theorem subTreeLoop_spec (t : Tree) (g : GoodCh t.childrenOf t.pos) (r : Nat) :
    ∀ (fuel i : Nat) (sub : List Nat), i ≤ sub.length → sub.Nodup → (∀ x ∈ sub, Desc t.childrenOf r x) →
      sub = t.childrenOf r ++ (sub.take i).flatMap t.childrenOf → t.pos.length ≤ fuel + i →
      (subTreeLoop t fuel i sub).Nodup ∧ (∀ x ∈ subTreeLoop t fuel i sub, Desc t.childrenOf r x) ∧
      subTreeLoop t fuel i sub = t.childrenOf r ++ (subTreeLoop t fuel i sub).flatMap t.childrenOf := by
  intro fuel
  have hlen : ∀ sub : List Nat, sub.Nodup → (∀ x ∈ sub, Desc t.childrenOf r x) → sub.length ≤ t.pos.length :=
    fun sub h1 h2 => h1.length_le_of_subset (fun x hx => (h2 x hx).mem_univ g)
  have done : ∀ (i : Nat) (sub : List Nat), i ≤ sub.length → sub.length ≤ i →
      sub = t.childrenOf r ++ (sub.take i).flatMap t.childrenOf →
      sub = t.childrenOf r ++ sub.flatMap t.childrenOf := by
    intro i sub h1 h2 h3
    have : sub.take i = sub := List.take_of_length_le h2
    rw [this] at h3; exact h3
  induction fuel with
  | zero =>
    intro i sub hi hnd hd heq hf
    have := hlen sub hnd hd
    exact ⟨hnd, hd, done i sub hi (by omega) heq⟩
  | succ fuel ih =>
    intro i sub hi hnd hd heq hf
    unfold subTreeLoop
    by_cases hlt : i < sub.length
    · rw [if_pos hlt]
      rw [getD_eq_getElem hlt]
      have hxd : Desc t.childrenOf r sub[i] := hd _ (List.getElem_mem hlt)
      apply ih
      · simp; omega
      · rw [List.nodup_append]
        refine ⟨hnd, g.nodup _, ?_⟩
        intro a ha c hc hac
        subst hac
        rw [heq, List.mem_append, List.mem_flatMap] at ha
        rcases ha with ha | ⟨y, hy, hay⟩
        · have := g.uniq _ _ _ ha hc
          rw [← this] at hxd
          exact g.acyc r hxd
        · have := g.uniq _ _ _ hay hc
          rw [this] at hy
          exact getElem_not_mem_take hnd i hlt hy
      · intro x hx'
        rw [List.mem_append] at hx'
        rcases hx' with h | h
        · exact hd x h
        · exact Desc.step hxd h
      · rw [List.take_append_of_le_length (by omega), List.take_add_one, List.getElem?_eq_getElem hlt]
        simp only [Option.toList_some, List.flatMap_append, List.flatMap_cons, List.flatMap_nil, List.append_nil]
        rw [← List.append_assoc, ← heq]
      · omega
    · rw [if_neg hlt]
      exact ⟨hnd, hd, done i sub hi (by omega) heq⟩

theorem mem_of_desc_of_closed {ch : Nat → List Nat} {r : Nat} {res : List Nat}
    (h : res = ch r ++ res.flatMap ch) {c : Nat} (hd : Desc ch r c) : c ∈ res := by
  induction hd with
  | child hc => rw [h]; exact List.mem_append_left _ hc
  | step _ hc ih => rw [h]; exact List.mem_append_right _ (List.mem_flatMap.mpr ⟨_, ih, hc⟩)

theorem subTree_leaf (t : Tree) (h : t.childrenOf t.id = []) : t.subTree = [] := by
  simp [subTree, h]

theorem subTree_eq (t : Tree) : t.subTree = subTreeLoop t t.pos.length 0 (t.childrenOf t.id) := by
  cases h : t.childrenOf t.id with
  | nil => rw [subTree_leaf t h]; cases t.pos.length <;> rfl
  | cons c l => simp [subTree, h]

theorem subTree_spec (t : Tree) (g : GoodCh t.childrenOf t.pos) :
    t.subTree.Nodup ∧ ∀ c, c ∈ t.subTree ↔ Desc t.childrenOf t.id c := by
  rw [subTree_eq]
  obtain ⟨h1, h2, h3⟩ := subTreeLoop_spec t g t.id t.pos.length 0 (t.childrenOf t.id) (Nat.zero_le _) (g.nodup _)
    (fun x hx => Desc.child hx) (by simp) (Nat.le_refl _)
  exact ⟨h1, fun c => ⟨h2 c, mem_of_desc_of_closed h3⟩⟩


/-! ### well-formed trees: `pos` duplicate-free, `bf ≥ 2` -/

theorem desc_idx_lt {id b : Nat} {pos : List Nat} (hnd : pos.Nodup) (hb : 2 ≤ b) {r c : Nat}
    (h : Desc (mk' id b pos).childrenOf r c) : pos.idxOf r < pos.idxOf c := by
  induction h with
  | child hc => exact (childrenOf_idx_lt hnd hb hc).2.2
  | step _ hc ih => exact Nat.lt_trans ih (childrenOf_idx_lt hnd hb hc).2.2

theorem goodCh_mk' {id b : Nat} {pos : List Nat} (hnd : pos.Nodup) (hb : 2 ≤ b) :
    GoodCh (mk' id b pos).childrenOf (mk' id b pos).pos := by
  refine ⟨fun x c h => (childrenOf_sublist _ x).subset h, fun x => (childrenOf_sublist _ x).nodup hnd, ?_,
    fun x hd => Nat.lt_irrefl _ (desc_idx_lt hnd hb hd)⟩
  intro x y c hx hy
  obtain ⟨q, hq, rfl, _, h2⟩ := (mem_childrenOf_iff hnd hb _ _).mp hx
  obtain ⟨q', hq', e, _, h2'⟩ := (mem_childrenOf_iff hnd hb _ _).mp hy
  rw [(List.getElem_inj hnd).mp e, h2] at h2'
  exact Option.some.inj h2'

theorem desc_root {id b : Nat} {pos : List Nat} (hnd : pos.Nodup) (hb : 2 ≤ b) :
    ∀ q, ∀ hq : q < pos.length, 1 ≤ q → Desc (mk' id b pos).childrenOf (pos[0]'(by omega)) pos[q] := by
  intro q
  induction q using Nat.strongRecOn with
  | _ q ih =>
    intro hq h1
    have hlt : (q - 1) / b < q := parentPos_lt h1
    have hpl : (q - 1) / b < pos.length := by omega
    have hc : pos[q] ∈ (mk' id b pos).childrenOf pos[(q - 1) / b] :=
      (mem_childrenOf_iff hnd hb _ _).mpr ⟨q, hq, rfl, h1, List.getElem?_eq_getElem hpl⟩
    by_cases hz : (q - 1) / b = 0
    · simp only [hz] at hc
      exact Desc.child hc
    · exact Desc.step (ih _ hlt hpl (Nat.pos_of_ne_zero hz)) hc

/-- the closed sub-tree of `r`: `r` and its `SubTree()` -/
def cl (b : Nat) (pos : List Nat) (r : Nat) : List Nat := r :: (mk' r b pos).subTree

theorem mem_cl {b : Nat} {pos : List Nat} (hnd : pos.Nodup) (hb : 2 ≤ b) (r x : Nat) :
    x ∈ cl b pos r ↔ x = r ∨ Desc (mk' 0 b pos).childrenOf r x := by
  unfold cl
  rw [List.mem_cons, (subTree_spec (mk' r b pos) (goodCh_mk' hnd hb)).2]
  rfl

theorem cl_nodup {b : Nat} {pos : List Nat} (hnd : pos.Nodup) (hb : 2 ≤ b) (r : Nat) : (cl b pos r).Nodup := by
  have g := goodCh_mk' (id := r) hnd hb
  exact List.nodup_cons.mpr ⟨fun h => g.acyc r (((subTree_spec _ g).2 r).mp h), (subTree_spec _ g).1⟩

theorem cl_root {b : Nat} {pos : List Nat} (hnd : pos.Nodup) (hb : 2 ≤ b) (h0 : 0 < pos.length) :
    (cl b pos pos[0]).Perm pos := by
  rw [List.perm_ext_iff_of_nodup (cl_nodup hnd hb _) hnd]
  intro x
  rw [mem_cl hnd hb]
  constructor
  · rintro (h | h)
    · rw [h]; exact List.getElem_mem h0
    · exact h.mem_univ (goodCh_mk' hnd hb)
  · intro hx
    obtain ⟨q, hq, rfl⟩ := List.getElem_of_mem hx
    rcases Nat.eq_zero_or_pos q with rfl | hz
    · exact Or.inl rfl
    · exact Or.inr (desc_root hnd hb q hq hz)

theorem nodup_flatMap_of_mem {l : List Nat} {f : Nat → List Nat} (hl : l.Nodup) (hf : ∀ x ∈ l, (f x).Nodup)
    (hd : ∀ x ∈ l, ∀ y ∈ l, ∀ c, c ∈ f x → c ∈ f y → x = y) : (l.flatMap f).Nodup := by
  rw [List.Nodup, List.pairwise_flatMap]
  exact ⟨hf, hl.imp_of_mem fun hx hy hne c hc d hd' e => hne (hd _ hx _ hy c hc (e ▸ hd'))⟩


/-- first position of level `l` (= 1 + b + … + b^(l-1)) -/
def lvlStart (b : Nat) : Nat → Nat
  | 0 => 0
  | l + 1 => lvlStart b l + b ^ l

theorem lvlStart_succ (b l : Nat) : lvlStart b (l + 1) = b * lvlStart b l + 1 := by
  induction l with
  | zero => simp [lvlStart]
  | succ l ih =>
    have e : lvlStart b (l + 1) = lvlStart b l + b ^ l := rfl
    show lvlStart b (l + 1) + b ^ (l + 1) = b * lvlStart b (l + 1) + 1
    have h1 : b * lvlStart b (l + 1) = b * lvlStart b l + b ^ (l + 1) := by
      rw [e, Nat.mul_add, Nat.pow_succ, Nat.mul_comm (b ^ l) b]
    omega

theorem lvlStart_mono (b : Nat) {l m : Nat} (h : l ≤ m) : lvlStart b l ≤ lvlStart b m := by
  induction h with
  | refl => exact Nat.le_refl _
  | step _ ih => exact Nat.le_trans ih (Nat.le_add_right _ _)

theorem lvlStart_ge (b : Nat) (hb : 1 ≤ b) (l : Nat) : l ≤ lvlStart b l := by
  induction l with
  | zero => exact Nat.le_refl _
  | succ l ih =>
    show l + 1 ≤ lvlStart b l + b ^ l
    have : 1 ≤ b ^ l := Nat.one_le_pow _ _ hb
    omega

def OnLevel (b q l : Nat) : Prop := lvlStart b l ≤ q ∧ q < lvlStart b (l + 1)

theorem OnLevel.lt {b q l m : Nat} (h : OnLevel b q l) (hq : q < lvlStart b m) : l < m := by
  false_or_by_contra; rename_i hh
  have := lvlStart_mono b (show m ≤ l by omega)
  have := h.1
  omega

theorem onLevel_unique {b q l m : Nat} (h1 : OnLevel b q l) (h2 : OnLevel b q m) : l = m :=
  Nat.le_antisymm (Nat.le_of_lt_succ (h1.lt h2.2)) (Nat.le_of_lt_succ (h2.lt h1.2))

theorem onLevel_zero {b q : Nat} : OnLevel b q 0 ↔ q = 0 := by
  unfold OnLevel; simp [lvlStart]

theorem onLevel_child {b q l : Nat} (hb : 1 ≤ b) (hq : 1 ≤ q) :
    OnLevel b q (l + 1) ↔ OnLevel b ((q - 1) / b) l := by
  unfold OnLevel
  have e1 := lvlStart_succ b l
  have e2 := lvlStart_succ b (l + 1)
  have c1 := Nat.mul_comm (lvlStart b l) b
  have c2 := Nat.mul_comm (lvlStart b (l + 1)) b
  rw [Nat.le_div_iff_mul_le (by omega), Nat.div_lt_iff_lt_mul (by omega)]
  omega

theorem onLevel_exists {b : Nat} (hb : 1 ≤ b) : ∀ q, ∃ l, OnLevel b q l := by
  intro q
  induction q using Nat.strongRecOn with
  | _ q ih =>
    by_cases h0 : q = 0
    · exact ⟨0, onLevel_zero.mpr h0⟩
    · obtain ⟨l, hl⟩ := ih _ (parentPos_lt (b := b) (by omega))
      exact ⟨l + 1, (onLevel_child hb (by omega)).mpr hl⟩

/-- the loop of `treeHeight`, started at level `k` -/
theorem treeHeightAux_spec {b n : Nat} (hb : 1 ≤ b) :
    ∀ fuel k, n - lvlStart b k ≤ fuel → (k = 0 ∨ lvlStart b (k - 1) < n) →
      let h := treeHeightAux b fuel (n - lvlStart b k) (b ^ k) k
      (h = 0 ∨ lvlStart b (h - 1) < n) ∧ n ≤ lvlStart b h := by
  intro fuel
  induction fuel with
  | zero => exact fun k hf hk => ⟨hk, by show n ≤ lvlStart b k; omega⟩
  | succ fuel ih =>
    intro k hf hk
    rw [treeHeightAux]
    split
    · rename_i hpos
      have h1 : 1 ≤ b ^ k := Nat.one_le_pow _ _ hb
      rw [Nat.sub_sub, ← Nat.pow_succ]
      exact ih (k + 1) (by show n - (lvlStart b k + b ^ k) ≤ fuel; omega) (Or.inr (by show lvlStart b k < n; omega))
    · exact ⟨hk, by omega⟩

/-- `treeHeight n b` is the number of levels: the least `h` whose `h` complete levels hold `n` nodes. -/
theorem treeHeight_spec {b n : Nat} (hb : 1 ≤ b) (hn : 1 ≤ n) :
    1 ≤ treeHeight n b ∧ lvlStart b (treeHeight n b - 1) < n ∧ n ≤ lvlStart b (treeHeight n b) := by
  obtain ⟨h1, h2⟩ := treeHeightAux_spec (b := b) (n := n) hb n 0 (Nat.sub_le _ _) (Or.inl rfl)
  have h2 : n ≤ lvlStart b (treeHeight n b) := h2
  have hpos : 1 ≤ treeHeight n b := Nat.pos_of_ne_zero fun e => by
    rw [e] at h2; exact absurd h2 (by show ¬ n ≤ 0; omega)
  exact ⟨hpos, h1.resolve_left (by show treeHeight n b ≠ 0; omega), h2⟩

theorem heightLoop_spec {b h rp l : Nat} (hl : OnLevel b rp l) (hlh : l < h) :
    ∀ fuel lvl, lvl ≤ l → h ≤ fuel + lvl →
      heightLoop b h rp fuel lvl (lvlStart b lvl) (b ^ lvl) = h - l := by
  intro fuel
  induction fuel with
  | zero => intro lvl h1 h2; omega
  | succ fuel ih =>
    intro lvl h1 h2
    unfold heightLoop
    have hlt : lvl < h := by omega
    rw [if_pos hlt]
    simp only
    have e : lvlStart b lvl + b ^ lvl = lvlStart b (lvl + 1) := rfl
    rw [e]
    by_cases hin : rp ≥ lvlStart b lvl ∧ rp < lvlStart b (lvl + 1)
    · rw [if_pos hin]
      have : lvl = l := onLevel_unique hin hl
      rw [this]
    · rw [if_neg hin]
      have hne : lvl ≠ l := by
        intro e; subst e; exact hin hl
      rw [← Nat.pow_succ]
      exact ih (lvl + 1) (by omega) (by omega)

theorem heightOf_getElem {id b : Nat} {pos : List Nat} (hnd : pos.Nodup) (hb : 2 ≤ b)
    (q : Nat) (hq : q < pos.length) {l : Nat} (hl : OnLevel b q l) :
    (mk' id b pos).heightOf pos[q] = treeHeight pos.length b - l ∧ l < treeHeight pos.length b := by
  obtain ⟨hpos, hlo, hhi⟩ := treeHeight_spec (b := b) (n := pos.length) (by omega) (by omega)
  have hlh : l < treeHeight pos.length b := hl.lt (Nat.lt_of_lt_of_le hq hhi)
  refine ⟨?_, hlh⟩
  unfold heightOf isRoot
  rw [replicaPosition_getElem hnd q hq]
  by_cases h0 : q = 0
  · subst h0
    have : l = 0 := onLevel_unique hl (onLevel_zero.mpr rfl)
    subst this
    simp [mk']
  · have hne : (some q == some 0) = false := by simp [h0]
    rw [hne]
    simp only [Bool.false_eq_true, if_false]
    have hl1 : 1 ≤ l := Nat.pos_of_ne_zero fun e => h0 (onLevel_zero.mp (e ▸ hl))
    have := heightLoop_spec hl hlh (treeHeight pos.length b) 1 hl1 (by omega)
    have e1 : lvlStart b 1 = 1 := by simp [lvlStart]
    rw [e1, Nat.pow_one] at this
    exact this


theorem swapAt_length (l : List Nat) (i j : Nat) : (swapAt l i j).length = l.length := by
  simp [swapAt]

theorem swapAt_perm (l : List Nat) (i j : Nat) (hi : i < l.length) (hj : j < l.length) : (swapAt l i j).Perm l := by
  rw [swapAt, getD_eq_getElem hi, getD_eq_getElem hj]
  exact List.set_set_perm hi hj

theorem shuffleLoop_perm : ∀ (k : Nat) (js l : List Nat), k < l.length ∨ k = 0 → (shuffleLoop k js l).Perm l := by
  intro k
  induction k with
  | zero => intro js l _; exact List.Perm.refl _
  | succ k ih =>
    intro js l hk
    unfold shuffleLoop
    cases js with
    | nil => exact List.Perm.refl _
    | cons j js =>
      simp only
      have hlt : k + 1 < l.length := by omega
      have hj : j % (k + 2) < l.length := by
        have := Nat.mod_lt j (show 0 < k + 2 by omega); omega
      exact (ih js _ (by rw [swapAt_length]; omega)).trans (swapAt_perm l _ _ hlt hj)

end HsVerif.Model.Tree
