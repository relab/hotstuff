import HsVerif.Proofs.ReplicaFrames
import HsVerif.Proofs.ReplicaVote
/-! View advancement (C07): the view only moves forward, to the view after a verified certificate of a
view at least the current one (`EnterViewAfter`), and each move is recorded.  The invariant `InvA` is about
the projection `AP` (advancement records, current view, high QC; Proofs/ReplicaFrames.lean), which only the entry into a
view and the refreshing of the high QC, both in `advanceView`, change (`Upd.ap_eq`).  Also here, for the modules above:
what an accepted certificate says about the store (`QCBlockView`, `verifyQC_blockView`, `getBlock_certified`) and what a
positive answer of `verifySyncInfo` means (`verifySyncInfo_ok`). -/
open Std.Do
namespace HsVerif.Model
open HsVerif.Proofs

/-- a certificate for view `v` passed the replica's verifier (in some state `s0` of its store) -/
def Evidence (k : Keys) (c : RCfg) (v : Nat) : Prop :=
  ∃ s0 : RState,
    (∃ q : QC, verifyQC (env k c s0) q = true ∧ q.view = v) ∨
    (∃ t : TC, verifyTC (env k c s0) t = true ∧ t.view = v) ∨
    (∃ (a : AggQC) (sg : Sig), a.sig = some sg ∧ c.cfg.quorum ≤ sg.len ∧
      batchVerify (env k c s0).T c.cfg sg (aggMessages k a) = true ∧ a.view = v)

theorem verifyTCM_ev (k : Keys) (c : RCfg) (t : TC) (x) :
    ⦃fun s => ⌜AP s = x⌝⦄ verifyTCM k c t ⦃⇓ r s => ⌜AP s = x ∧ (r = true → Evidence k c t.view)⌝⦄ :=
  triple_of_run _ _ _ fun s h => by
    rw [verifyTCM_run]; exact ⟨h, fun hr => ⟨s, Or.inr (Or.inl ⟨t, hr, rfl⟩)⟩⟩

/-- an accepted aggregate QC is evidence for its view, and the QC that `VerifyAggregateQC` picks verifies in the state the
verifier leaves -/
theorem verifyAggM_ev (k : Keys) (c : RCfg) (a : AggQC) (x) :
    ⦃fun s => ⌜AP s = x⌝⦄ verifyAggM k c a
    ⦃⇓ r s => ⌜AP s = x ∧ ∀ q, r = .ok q → Evidence k c a.view ∧ verifyQC (env k c s) q = true⌝⦄ :=
  triple_conseq (verifyAggM_rule k c a (P := fun s => AP s = x) (B := fun q s => verifyQC (env k c s) q = true)
    fun q => triple_and ((verifyQCM_steps k c q).frame Upd.ap_eq x) (verifyQCM_res k c q))
    (fun _ h => h) fun _ _ h => ⟨h.1, fun q hr =>
      have ⟨_, hv, sg, s1, _, h1, h2, h3⟩ := h.2.2 q hr
      ⟨⟨s1, Or.inr (Or.inr ⟨a, sg, h1, h2, h3, rfl⟩)⟩, hv⟩⟩

def GRec.advFrom : GRec → Nat
  | .adv f _ _ => f
  | _ => 0

/-- the view entered by an advancement: the one after the certificate's (`EnterViewAfter`) -/
def GRec.advTo : GRec → Nat
  | .adv _ cv _ => cv + 1
  | _ => 0

/-- invariant on (advancement records, current view, high QC): the advancement records form a chain
from view 1 to the current view (the first one left view 1, each next one left the view the previous one
entered, the last one entered the current view; the view entered is the certified view + 1), and each was
backed by a verified certificate of a view at least the one that was left -/
def InvA (k : Keys) (c : RCfg) (x : List GRec × Nat × QC) : Prop :=
  1 ≤ x.2.1 ∧ x.1.map GRec.advFrom ++ [x.2.1] = 1 :: x.1.map GRec.advTo ∧
  ∀ f cv t, GRec.adv f cv t ∈ x.1 → f ≤ cv ∧ Evidence k c cv

theorem InvA_init (k : Keys) (c : RCfg) : InvA k c ([], 1, genesisQC) := by
  simp [InvA]

theorem InvA_hqc (k : Keys) (c : RCfg) (g : List GRec) (v : Nat) (q q' : QC)
    (h : InvA k c (g, v, q)) : InvA k c (g, v, q') := h

theorem InvA_step (k : Keys) (c : RCfg) (g : List GRec) (v : Nat) (q q' : QC) (view : Nat) (t : Bool)
    (h : InvA k c (g.filter GRec.isAdv, v, q)) (hle : v ≤ view) (he : view = 0 ∨ Evidence k c view) :
    InvA k c ((g ++ [GRec.adv v view t]).filter GRec.isAdv, view + 1, q') := by
  obtain ⟨h1, h2, h3⟩ := h
  simp only at h1 h2 h3
  have he' : Evidence k c view := he.resolve_left (by omega)
  have : (g ++ [GRec.adv v view t]).filter GRec.isAdv = g.filter GRec.isAdv ++ [GRec.adv v view t] := by
    simp [List.filter_append, GRec.isAdv]
  rw [this]
  refine ⟨by simp, ?_, ?_⟩
  · simp only [List.map_append, List.map_cons, GRec.advFrom, GRec.advTo, List.map_nil]
    rw [h2]; simp
  · intro f cv' t' hm
    simp only [List.mem_append, List.mem_singleton] at hm
    rcases hm with hm | hm
    · exact h3 f cv' t' hm
    · cases hm; exact ⟨hle, he'⟩

theorem lift_projS {α X} (proj : RState → X) (P : X → Prop) (f : M α) (R : α → RState → Prop)
    (hf : ∀ x, ⦃fun s => ⌜proj s = x⌝⦄ f ⦃⇓ r s => ⌜proj s = x ∧ R r s⌝⦄) :
    ⦃fun s => ⌜P (proj s)⌝⦄ f ⦃⇓ r s => ⌜P (proj s) ∧ R r s⌝⦄ :=
  triple_of_run _ _ _ fun s hp =>
    have h := run_res_of_triple _ _ _ (hf (proj s)) s rfl
    ⟨h.1.symm ▸ hp, h.2⟩

def QCBlockView (q : QC) (s : RState) : Prop :=
  (q.hash = genesisHash ∧ q.view = 0) ∨ ∃ b, s.chain.blocks.lookup q.hash = some b ∧ b.view = q.view

theorem verifyQC_blockView (k : Keys) (c : RCfg) (s : RState) (q : QC) (h : verifyQC (env k c s) q = true) :
    QCBlockView q s := by
  unfold verifyQC at h
  split at h
  · left; rename_i hg; exact ⟨by simpa using hg, by simpa using h⟩
  · right
    split at h
    · simp at h
    · split at h
      · simp at h
      · split at h
        · simp at h
        · rename_i b hb
          split at h
          · simp at h
          · rename_i hv
            exact ⟨b, hb, by simp at hv; exact hv.symm⟩

theorem QCBlockView.mono {q : QC} {s s' : RState} (h : QCBlockView q s) (hg : ChainGrows s.chain.blocks s'.chain) :
    QCBlockView q s' :=
  h.imp id fun ⟨b, hb, hv⟩ => ⟨b, hg _ _ hb, hv⟩

theorem verifySyncInfo_ok (k : Keys) (c : RCfg) (si : SyncInfo) (x) :
    ⦃fun s => ⌜AP s = x⌝⦄ verifySyncInfo k c si
    ⦃⇓ r s => ⌜AP s = x ∧ ∀ qc view t, r = .ok (qc, view, t) →
      (view = 0 ∨ Evidence k c view) ∧ (∀ q, qc = some q → verifyQC (env k c s) q = true) ∧
      (c.agg = false → (∀ tc, si.tc = some tc → tc.view ≤ view) ∧ (∀ q, qc = some q → q.view ≤ view))⌝⦄ := by
  refine triple_conseq (verifySyncInfo_rule k c si (I := fun s => AP s = x) (T := fun tc b => b = true → Evidence k c tc.view)
    (A := fun a r s => ∀ q, r = .ok q → Evidence k c a.view ∧ verifyQC (env k c s) q = true)
    (V := fun q b s => b = true → Evidence k c q.view ∧ verifyQC (env k c s) q = true) (fun tc => verifyTCM_ev k c tc x) ?_ ?_)
    (fun _ h => h) fun r s ⟨hx, h⟩ => ⟨hx, fun qc view t hr => ?_⟩
  · exact fun a => verifyAggM_ev k c a x
  · exact fun q => triple_of_run _ _ _ fun s hs =>
      ⟨run_res_of_triple _ _ _ ((verifyQCM_steps k c q).frame Upd.ap_eq x) s hs, fun hr =>
        have hv := run_res_of_triple _ (fun _ => True) _ (verifyQCM_res k c q) s trivial hr
        ⟨⟨_, Or.inl ⟨q, hv, rfl⟩⟩, hv⟩⟩
  · subst hr
    obtain ⟨htc, hc⟩ := h.ok_cases rfl
    have hv0 : ∀ v0, v0 = (si.tc.map (·.view)).getD 0 →
        (v0 = 0 ∨ Evidence k c v0) ∧ ∀ tc, si.tc = some tc → tc.view = v0 := by
      intro v0 e
      cases ht : si.tc with
      | none => rw [ht] at e; exact ⟨Or.inl e, nofun⟩
      | some tc =>
        rw [ht] at e
        exact ⟨Or.inr (e ▸ htc tc ht rfl), fun _ h => by cases h; exact e.symm⟩
    obtain ⟨he0, hb0⟩ := hv0 _ rfl
    generalize (si.tc.map (·.view)).getD 0 = v0 at hc he0 hb0
    rcases hc with ⟨hagg, a, high, _, ha, rfl, rfl⟩ | ⟨_, q, _, hv, rfl, rfl, _⟩ | ⟨_, _, rfl, rfl, _⟩
    · refine ⟨?_, fun q hq => by cases hq; exact (ha high rfl).2, fun hf => absurd hagg (by simp [hf])⟩
      split
      · exact Or.inr (ha high rfl).1
      · exact he0
    · refine ⟨?_, fun q' hq => by cases hq; exact (hv rfl).2, fun hf => ⟨fun tc ht => ?_, fun q' hq => ?_⟩⟩
      · split
        · exact Or.inr (hv rfl).1
        · exact he0
      · rw [hb0 tc ht]; simp only [hf, true_and]; split <;> omega
      · cases hq; simp only [hf, true_and]; split <;> omega
    · exact ⟨he0, nofun, fun _ => ⟨fun tc ht => Nat.le_of_eq (hb0 tc ht), nofun⟩⟩

theorem verifySyncInfo_bv (k : Keys) (c : RCfg) (si : SyncInfo) (x) :
    ⦃fun s => ⌜AP s = x⌝⦄ verifySyncInfo k c si
    ⦃⇓ r s => ⌜AP s = x ∧ (∀ q view t, r = .ok (some q, view, t) → QCBlockView q s)⌝⦄ :=
  triple_of_run _ _ _ fun s hs =>
    have h := run_res_of_triple _ _ _ (verifySyncInfo_ok k c si x) s hs
    ⟨h.1, fun q _ _ hr => verifyQC_blockView k c _ q ((h.2 _ _ _ hr).2.1 q rfl)⟩

/-- `InvA` reads the view and the advancement records, not the high QC: only the entry into a view matters to it -/
theorem Upd.ia (k : Keys) (c : RCfg) {t : Tag} {s s' : RState} (h : Upd t s s') (ht : t ∉ [Tag.adv]) (hi : InvA k c (AP s)) :
    InvA k c (AP s') := by
  cases h with
  | adv => exact absurd (by decide) ht
  | voted | timedOut => simpa [AP, GRec.isAdv] using hi
  | _ => exact hi

/-!
The view of the high QC never decreases (C07): `HQ hv`.  Only `advanceView` assigns the high QC; it needs the store
invariant "genesis is stored" (block maps only grow) to know the view of the block that `getBlock` returns for the
verified QC.  That the event loop keeps `HQ hv` is read off the trace of Proofs/ReplicaEvidence.lean (`EUpd.hq`).
-/

def G0 : List (Hash × Block) := [(genesisHash, genesisBlock)]

def HQ (hv : Nat) (s : RState) : Prop := hv ≤ s.highQC.view ∧ Grows G0 s

theorem G0_init : Grows G0 ({} : RState) := fun _ _ hx => hx

theorem QCBlockView.view_eq {q : QC} {s : RState} {nb : Block} (h : QCBlockView q s) (hg : Grows G0 s)
    (hl : s.chain.blocks.lookup q.hash = some nb) : nb.view = q.view := by
  rcases h with ⟨hq, hz⟩ | ⟨b, hb, hbv⟩
  · have := hg genesisHash genesisBlock (by simp [G0])
    rw [hq, this] at hl
    cases hl; rw [hz]; rfl
  · rw [hb] at hl; cases hl; exact hbv

theorem getBlock_certified {q : QC} {s : RState} (hg : Grows G0 s) (h : QCBlockView q s) :
    ∃ b, (getBlock q.hash).run s = (some b, s) ∧ b.view = q.view := by
  have hl : ∃ b, s.chain.blocks.lookup q.hash = some b ∧ b.view = q.view := by
    rcases h with ⟨hq, hz⟩ | h
    · exact ⟨genesisBlock, by rw [hq]; exact hg genesisHash genesisBlock (by simp [G0]), by rw [hz]; rfl⟩
    · exact h
  obtain ⟨b, hb, hbv⟩ := hl
  refine ⟨b, ?_, hbv⟩
  simp [getBlock, RChain.get, hb, StateT.run, bind, StateT.bind, get, getThe, MonadStateOf.get, StateT.get, set, StateT.set, pure, StateT.pure]

section HQChain
variable (k : Keys) (c : RCfg)

theorem Upd.highQC_eq {t : Tag} {s s' : RState} (h : Upd t s s') (ht : t ∉ [Tag.highQC]) : s'.highQC = s.highQC := by
  cases h <;> first | rfl | exact absurd (by decide) ht

theorem Upd.hq {t : Tag} {s s' : RState} (hv : Nat) (h : Upd t s s') (ht : t ∉ [Tag.highQC]) (hi : HQ hv s) : HQ hv s' :=
  ⟨h.highQC_eq ht ▸ hi.1, fun k b hk => h.chainGrows k b (hi.2 k b hk)⟩

theorem createAndPropose_hv (si : SyncInfo) (v) :
    ⦃fun s => ⌜s.highQC.view = v ∧ Grows G0 s⌝⦄ createAndPropose k c si ⦃⇓ _ s => ⌜s.highQC.view = v ∧ Grows G0 s⌝⦄ :=
  (createAndPropose_steps k c si).preserves (upd_of_notin (bad := [.highQC])
    (fun hu ht h => ⟨hu.highQC_eq ht ▸ h.1, fun k b hk => hu.chainGrows k b (h.2 k b hk)⟩) _)

end HQChain

end HsVerif.Model
