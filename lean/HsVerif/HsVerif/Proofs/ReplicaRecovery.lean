import HsVerif.Proofs.ReplicaProgress
import HsVerif.Props.C08
import HsVerif.Model.Sys
/-!
ONE REPLICA in the recovery by timeouts (C05, replica level): the runs of `onRemoteTimeout` on accepted timeout
messages (kept, quorum: the certificate is assembled with C08's `tc_verifies`, the view is left), and the replica as a function
of the senders `frm` whose timeout message it has seen — still collecting in view `v` (`RColl`) or, from the message that
completes its quorum on, in view `v + 1` (`RMoved`); its high QC is that of sender `absI … frm`: `UpdateHighQC` folded over the
messages seen.  At the end, what the round of the system assumes of ALL replicas at its start: `RecSetup`, in particular `cover` (the vote rules
are ready for every `Top` certificate, the highest of some quorum), and `RecSetupLive`, which allows a silent minority.
-/
namespace HsVerif.Model

theorem signedBy_of_accepted (T : Truth) (cfg : Cfg) (t : TimeoutMsg) (h : HsVerif.Props.C08.Accepted T cfg t) :
    signedBy t.viewSig t.id = true ∧ ∃ vs, t.viewSig = some vs ∧ verify T cfg vs (viewMsg t.view) = true := by
  obtain ⟨vs, h1, _, h3, h4, h5, h6⟩ := h
  refine ⟨?_, vs, h1, h6⟩
  have : t.id ≠ 0 := by simp [Cfg.has] at h5; omega
  simp [signedBy, h1, h3, h4, this]

theorem onRemoteTimeout_keep_run (k : Keys) (c : RCfg) (s : RState) (t : TimeoutMsg) (q : QC) (nb : Block) (tc0 : TC)
    (ts' : List TimeoutMsg) (ha : c.agg = false)
    (hacc : HsVerif.Props.C08.Accepted (fun b => s.truth.lookup b) c.cfg t)
    (hsi : t.si = { qc := some q, tc := some tc0 })
    (htc0 : verifyTC (env k c s) tc0 = true) (hq : verifyQC (env k c s) q = true)
    (hnb : s.chain.blocks.lookup q.hash = some nb) (hv1 : tc0.view < s.view) (hv2 : q.view < s.view)
    (hcol : collectorAdd c.cfg.quorum s.timeouts t = (ts', none)) :
    (onRemoteTimeout k c t).run s =
      pure ((), { absorbS s q nb tc0 with timeouts := ts'.filter (fun x => !(x.view < s.view)) }) := by
  obtain ⟨hsb, vs, hvs, hver⟩ := signedBy_of_accepted _ _ t hacc
  have h1 := advanceView_old k c s q nb tc0 ha htc0 hq hnb hv1 hv2
  rw [hvs] at hsb
  have hts : (absorbS s q nb tc0).timeouts = s.timeouts := rfl
  simp [onRemoteTimeout, hsb, hvs, env, hver, ha, hsi, h1, hts, hcol]

theorem verifyTC_mono (k : Keys) (c : RCfg) (s s' : RState) (tc : TC)
    (hT : ∀ b a, s.truth.lookup b = some a → s'.truth.lookup b = some a)
    (hv : verifyTC (env k c s) tc = true) : verifyTC (env k c s') tc = true := by
  by_cases h0 : tc.view = 0
  · simp [verifyTC, h0]
  · obtain ⟨sg, h1, h2, h3⟩ := (verifyTC_iff _ tc h0).mp hv
    exact (verifyTC_iff _ tc h0).mpr ⟨sg, h1, h2, verify_mono _ _ _ sg _ (fun b a hb => hT b a hb) h3⟩

theorem mapM_some_of_map {α β} (f : α → Option β) (l : List α) (r : List β) (h : l.map f = r.map some) :
    l.mapM f = some r := by
  induction l generalizing r with
  | nil =>
    cases r with
    | nil => rfl
    | cons _ _ => simp at h
  | cons a l ih =>
    cases r with
    | nil => simp at h
    | cons b r =>
      simp only [List.map_cons, List.cons.injEq] at h
      simp [List.mapM_cons, h.1, ih r h.2]

theorem ids_nodup_of_keyed (l : List TimeoutMsg) (v : Nat) (hk : HsVerif.Props.C08.Keyed l) (hv : ∀ x ∈ l, x.view = v) :
    (l.map (·.id)).Nodup := by
  unfold HsVerif.Props.C08.Keyed at hk
  rw [List.nodup_iff_pairwise_ne, List.pairwise_map]
  refine List.Pairwise.imp_of_mem ?_ hk
  intro a b ha hb h e
  exact h ⟨by rw [hv a ha, hv b hb], e⟩


open HsVerif.Props.C08 in
theorem timeout_quorum_data (k : Keys) (c : RCfg) (s : RState) (t : TimeoutMsg)
    (hk : Keyed s.timeouts) (hnew : ¬ ∃ x ∈ s.timeouts, x.view = t.view ∧ x.id = t.id)
    (hq : c.cfg.quorum ≤ (ofView (s.timeouts ++ [t]) t.view).length)
    (h2 : 2 ≤ (ofView (s.timeouts ++ [t]) t.view).length)
    (hall : ∀ x ∈ s.timeouts, x.view = t.view → Accepted (fun b => s.truth.lookup b) c.cfg x)
    (hacc : Accepted (fun b => s.truth.lookup b) c.cfg t) :
    ∃ ts' list sigs sg, collectorAdd c.cfg.quorum s.timeouts t = (ts', some list) ∧
      list.mapM (·.viewSig) = some sigs ∧ combine c.cfg sigs = .ok sg ∧
      verifyTC (env k c s) ⟨some sg, t.view⟩ = true := by
  obtain ⟨h1, _, h3, _, h5⟩ := collector_exact c.cfg.quorum s.timeouts t hk hnew
  have hacc' : ∀ x ∈ ofView (s.timeouts ++ [t]) t.view, Accepted (env k c s).T (env k c s).cfg x := by
    intro x hx
    have hxv := h3 x hx
    simp only [ofView, List.mem_filter, List.mem_append, List.mem_singleton] at hx
    rcases hx.1 with hx' | rfl
    · exact hall x hx' hxv
    · exact hacc
  obtain ⟨sigs, sg, hm, hc, hv⟩ := tc_verifies (env k c s) t.view (ofView (s.timeouts ++ [t]) t.view) h3
    (ids_nodup_of_keyed _ _ h5 h3) hq h2 hacc'
  exact ⟨_, _, sigs, sg, h1 hq, mapM_some_of_map _ _ _ hm, hc, hv⟩

open HsVerif.Props.C08 in
/-- preconditions of the timeout-quorum step (plain timeout rule); `hb` is the stored block of the replica's high QC after
looking at `q` -/
structure TmoQuorumPre (k : Keys) (c : RCfg) (s : RState) (t : TimeoutMsg) (q : QC) (nb hb : Block) (tc0 : TC) : Prop where
  agg : c.agg = false
  scheme : c.scheme ≠ .bls12
  fresh : FreshS s
  queue : s.queue = []
  view : t.view = s.view
  view0 : s.view ≠ 0
  acc : Accepted (fun b => s.truth.lookup b) c.cfg t
  si : t.si = { qc := some q, tc := some tc0 }
  tc0ok : verifyTC (env k c s) tc0 = true
  tc0v : tc0.view < s.view
  qok : verifyQC (env k c s) q = true
  qv : q.view < s.view
  nbok : s.chain.blocks.lookup q.hash = some nb
  keyed : Keyed s.timeouts
  new : ¬ ∃ x ∈ s.timeouts, x.view = t.view ∧ x.id = t.id
  quorum : c.cfg.quorum ≤ (ofView (s.timeouts ++ [t]) t.view).length
  two : 2 ≤ (ofView (s.timeouts ++ [t]) t.view).length
  all : ∀ x ∈ s.timeouts, x.view = t.view → Accepted (fun b => s.truth.lookup b) c.cfg x
  hqok : verifyQC (env k c s) (absorbS s q nb tc0).highQC = true
  hbok : s.chain.blocks.lookup (absorbS s q nb tc0).highQC.hash = some hb
  hqv : (absorbS s q nb tc0).highQC.view < s.view

open HsVerif.Props.C08 in
/-- `onRemoteTimeout` on the message that completes the quorum, from the state in which `step` hands it over: the collector
hands out `list`, the view signatures of `list` combine to `sg`, and the replica leaves its view on that certificate -/
theorem TmoQuorumPre.run {k : Keys} {c : RCfg} {s : RState} {t : TimeoutMsg} {q : QC} {nb hb : Block} {tc0 : TC}
    (h : TmoQuorumPre k c s t q nb hb tc0) :
    ∃ ts' list sg, collectorAdd c.cfg.quorum s.timeouts t = (ts', some list) ∧
      verifyTC (env k c s) ⟨some sg, t.view⟩ = true ∧
      (onRemoteTimeout k c t).run { s with out := [], queue := [] } =
        ((if c.leader (s.view + 1) = c.id then
            createAndPropose k c { qc := some (absorbS s q nb tc0).highQC, tc := some ⟨some sg, t.view⟩ }
          else emit (.sendNewView (c.leader (s.view + 1)) { qc := some (absorbS s q nb tc0).highQC, tc := some ⟨some sg, t.view⟩ }))
          >>= fun _ => modify fun s' => { s' with timeouts := s'.timeouts.filter (fun x => !(x.view < s.view)) }).run
          (movedTS { absorbS { s with out := [], queue := [] } q nb tc0 with timeouts := ts' } ⟨some sg, t.view⟩) := by
  let sA : RState := { s with out := [], queue := [] }
  obtain ⟨ts', list, sigs, sg, hcol, hmap, hcomb, htc⟩ := timeout_quorum_data k c sA t h.keyed h.new h.quorum h.two h.all h.acc
  refine ⟨ts', list, sg, hcol, htc, ?_⟩
  -- up to `advanceView` on the certificate
  have hadv : (onRemoteTimeout k c t).run sA =
      (advanceView k c { qc := some (absorbS sA q nb tc0).highQC, tc := some ⟨some sg, t.view⟩ }
        >>= fun _ => modify fun s' => { s' with timeouts := s'.timeouts.filter (fun x => !(x.view < sA.view)) }).run
        { absorbS sA q nb tc0 with timeouts := ts' } := by
    obtain ⟨hsb, vs, hvs, hver⟩ := signedBy_of_accepted _ _ t h.acc
    have h1 := advanceView_old k c sA q nb tc0 h.agg h.tc0ok h.qok h.nbok h.tc0v h.qv
    rw [hvs] at hsb
    have hts : (absorbS sA q nb tc0).timeouts = sA.timeouts := rfl
    have htv0 : t.view ≠ 0 := by rw [h.view]; exact h.view0
    have hver' : verify (fun b => sA.truth.lookup b) c.cfg vs (viewMsg t.view) = true := hver
    have hcol' : collectorAdd c.cfg.quorum sA.timeouts t = (ts', some list) := hcol
    simp [onRemoteTimeout, hsb, hvs, env, hver', h.agg, h.si, h1, hts, hcol', htv0, hmap, hcomb]
  have h2 := advanceView_tc_move k c { absorbS sA q nb tc0 with timeouts := ts' } ⟨some sg, t.view⟩ hb h.agg htc h.hqok h.hbok
    (by show s.view = t.view; exact h.view.symm) (by show _ < t.view; rw [h.view]; exact h.hqv)
  rw [hadv, StateT.run_bind, h2]
  rfl

/-- **A quorum of timeouts moves a replica to the next view; it reports to the next leader** (which it is not). -/
theorem step_timeout_quorum_newview (k : Keys) (c : RCfg) (s : RState) (t : TimeoutMsg) (q : QC) (nb hb : Block) (tc0 : TC)
    (h : TmoQuorumPre k c s t q nb hb tc0) (hl : c.leader (s.view + 1) ≠ c.id) :
    ∃ sg : Sig,
      verifyTC (env k c (step k c s (.timeout t)).1) ⟨some sg, s.view⟩ = true ∧
      s.view + 1 ≤ (step k c s (.timeout t)).1.view ∧
      Out.sendNewView (c.leader (s.view + 1)) { qc := some (absorbS s q nb tc0).highQC, tc := some ⟨some sg, s.view⟩ }
        ∈ (step k c s (.timeout t)).2 := by
  let sA : RState := { s with out := [], queue := [] }
  obtain ⟨ts', _, sg, _, htc, hrun⟩ := h.run
  let m : RState := movedTS { absorbS sA q nb tc0 with timeouts := ts' } ⟨some sg, t.view⟩
  let o : Out := .sendNewView (c.leader (s.view + 1)) { qc := some (absorbS s q nb tc0).highQC, tc := some ⟨some sg, t.view⟩ }
  let s7 : RState := { m with out := m.out ++ [o], timeouts := m.timeouts.filter (fun x => !(x.view < s.view)) }
  have hrun' : (onRemoteTimeout k c t).run sA = pure ((), s7) := by
    rw [hrun, if_neg (by exact hl)]
    rfl
  let s8 : RState := ((runLoop k c 99999).run s7).2
  have hstep : step k c s (.timeout t) = ({ s8 with out := [] }, s8.out) :=
    step_tick k c s s7 _ h.queue (tick_timeout k c rfl hrun')
  have hf7 : Fresh s7 := h.fresh.2
  have h78 : Later s7 s8 := runLoop_later k c 99999 s7 hf7
  have hext' := step_ext k c s (.timeout t) h.fresh.2
  rw [hstep] at hext' ⊢
  refine ⟨sg, ?_, ?_, ?_⟩
  · have := verifyTC_mono k c s _ _ hext'.truth htc
    rw [h.view] at this; exact this
  · exact h78.view
  · have : o ∈ s7.out := by simp [s7]
    have := h78.mem_out _ this
    simp only [o, h.view] at this
    exact this


theorem run_then_modify (x : M Unit) (F : RState → RState) (s : RState) :
    (x >>= fun _ => modify F).run s = pure ((), F (x.run s).2) := rfl

/-- **A quorum of timeouts makes the next leader enter the next view and propose.** -/
theorem step_timeout_quorum_proposes (k : Keys) (c : RCfg) (s : RState) (t : TimeoutMsg) (q : QC) (nb hb : Block) (tc0 : TC)
    (h : TmoQuorumPre k c s t q nb hb tc0) (hr : c.rules ≠ .fast)
    (hlead : c.leader (s.view + 1) = c.id) (hlv : s.lastVoted ≤ s.view)
    (hready : RuleReady c s (s.view + 1) hb)
    (hmark : markWalk (s.chain.fuel + 1) s.chain.blocks s.lastProposed hb = true) :
    ∃ (sg : Sig) (b' : Block),
      verifyTC (env k c (step k c s (.timeout t)).1) ⟨some sg, s.view⟩ = true ∧
      s.view + 1 ≤ (step k c s (.timeout t)).1.view ∧
      b'.view = s.view + 1 ∧ b'.qc = (absorbS s q nb tc0).highQC ∧ b'.parent = (absorbS s q nb tc0).highQC.hash ∧
      b'.proposer = c.id ∧
      Out.sendPropose b' none ∈ (step k c s (.timeout t)).2 ∧
      Out.sign (blkMsg b'.hash) ∈ (step k c s (.timeout t)).2 ∧
      Has b'.hash (step k c s (.timeout t)).1 := by
  let sA : RState := { s with out := [], queue := [] }
  obtain ⟨ts', _, sg, _, htc, hrun⟩ := h.run
  let hq' : QC := (absorbS sA q nb tc0).highQC
  let tc : TC := ⟨some sg, t.view⟩
  let m : RState := movedTS { absorbS sA q nb tc0 with timeouts := ts' } tc
  let b' : Block := newBlock c m hq'
  let s6 : RState := proposedS c m hq'
  let s6a : RState := ((aggregateVote k c b' (voteSig c b' (propS m))).run s6).2
  let s7 : RState := { s6a with timeouts := s6a.timeouts.filter (fun x => !(x.view < s.view)) }
  have hcp : (createAndPropose k c { qc := some hq', tc := some tc }).run m =
      (aggregateVote k c b' (voteSig c b' (propS m))).run s6 :=
    createAndPropose_run k c m hq' hb (some tc) h.scheme hr h.hbok (markProposed_walk _ _ m hmark)
      (by show s.lastVoted < s.view + 1; omega)
      (hready.rule h.hbok (Nat.le_refl _) rfl)
      h.hqok (by show (absorbS s q nb tc0).highQC.view < s.view + 1; have := h.hqv; omega) hlead.symm
  have hrun' : (onRemoteTimeout k c t).run sA = pure ((), s7) := by
    rw [hrun, if_pos (by exact hlead), run_then_modify]
    exact congrArg (fun r : Id (Unit × RState) =>
      (pure ((), { r.2 with timeouts := r.2.timeouts.filter (fun x => !(x.view < s.view)) }) : Id (Unit × RState))) hcp
  let s8 : RState := ((runLoop k c 99999).run s7).2
  have hstep : step k c s (.timeout t) = ({ s8 with out := [] }, s8.out) :=
    step_tick k c s s7 _ h.queue (tick_timeout k c rfl hrun')
  have hfm : FreshS m := h.fresh
  have h66a : Later s6 s6a := aggregateVote_later k c b' _ s6 (proposedS_facts c m hq' h.scheme hfm).1.2
  have h6a7 : Later s6a s7 := ⟨⟨[], by simp [s7]⟩, ext_of_eq _ _ h66a.ext.fresh rfl rfl rfl, Nat.le_refl _⟩
  have h78 : Later s7 s8 := runLoop_later k c 99999 s7 h6a7.ext.fresh
  obtain ⟨hview, hsend, hsign, hhas⟩ := proposed_later c m s8 hq' h.scheme hfm ((h66a.trans h6a7).trans h78)
  have hext' := step_ext k c s (.timeout t) h.fresh.2
  rw [hstep] at hext' ⊢
  refine ⟨sg, b', ?_, hview, rfl, rfl, rfl, rfl, hsend, hsign, hhas⟩
  have := verifyTC_mono k c s _ _ hext'.truth htc
  rw [h.view] at this; exact this

/-- executable form of `C08.Accepted` for ECDSA / EdDSA signatures -/
def acceptedB (T : Truth) (cfg : Cfg) (x : TimeoutMsg) : Bool :=
  match x.viewSig with
  | some (.multi k [e]) => e.claimed == x.id && cfg.has x.id && verify T cfg (.multi k [e]) (viewMsg x.view)
  | _ => false

theorem accepted_of_acceptedB (T : Truth) (cfg : Cfg) (x : TimeoutMsg) (h : acceptedB T cfg x = true) :
    HsVerif.Props.C08.Accepted T cfg x := by
  unfold acceptedB at h
  split at h
  · rename_i k e hs
    simp only [Bool.and_eq_true, beq_iff_eq] at h
    exact ⟨_, hs, trivial, rfl, by simp [Sig.participants, h.1.1], h.1.2, h.2⟩
  · simp at h

open HsVerif.Props.C08

/-- the collector of a replica in recovery holds messages of ONE view from pairwise different senders: the case `ofView l v = l`
of C08's statements about `Keyed` lists (this lemma and the next are the bridge) -/
theorem keyed_of_ids (l : List TimeoutMsg) (h : (l.map (·.id)).Nodup) : Keyed l := by
  unfold Keyed
  rw [List.nodup_iff_pairwise_ne, List.pairwise_map] at h
  exact h.imp (fun hne hand => hne hand.2)

theorem ofView_all (l : List TimeoutMsg) (v : Nat) (h : ∀ x ∈ l, x.view = v) : ofView l v = l := by
  unfold ofView
  apply List.filter_eq_self.mpr
  intro x hx; simp [h x hx]

/-- the collector when all it holds is of the view of the new message, from a new sender: below the quorum the message is kept,
at the quorum everything is handed out -/
theorem collector_one_view (q : Nat) (ts : List TimeoutMsg) (t : TimeoutMsg) (hall : ∀ x ∈ ts, x.view = t.view)
    (hnew : ∀ x ∈ ts, x.id ≠ t.id) :
    collectorAdd q ts t = if ts.length + 1 < q then (ts ++ [t], none) else ([], some (ts ++ [t])) := by
  have hv : ∀ x ∈ ts ++ [t], x.view = t.view :=
    fun x hx => (List.mem_append.mp hx).elim (hall x) (fun h => List.mem_singleton.mp h ▸ rfl)
  rw [add_new q ts t (fun ⟨x, hx, _, e⟩ => hnew x hx e), ofView_all _ _ hv, List.length_append, List.length_singleton,
    List.filter_eq_nil_iff.mpr (fun x hx => by simp [hv x hx])]

theorem step_timeout_collect (k : Keys) (c : RCfg) (s : RState) (t : TimeoutMsg) (q : QC) (nb : Block) (tc0 : TC)
    (ha : c.agg = false) (hq0 : s.queue = [])
    (hacc : Accepted (fun b => s.truth.lookup b) c.cfg t)
    (hsi : t.si = { qc := some q, tc := some tc0 })
    (htc0 : verifyTC (env k c s) tc0 = true) (hq : verifyQC (env k c s) q = true)
    (hnb : s.chain.blocks.lookup q.hash = some nb) (hv1 : tc0.view < s.view) (hv2 : q.view < s.view)
    (htv : t.view = s.view)
    (hall : ∀ x ∈ s.timeouts, x.view = t.view) (hnew : ∀ x ∈ s.timeouts, x.id ≠ t.id)
    (hlt : s.timeouts.length + 1 < c.cfg.quorum) :
    step k c s (.timeout t) = ({ absorbS s q nb tc0 with timeouts := s.timeouts ++ [t], out := [] }, []) := by
  let sA : RState := { s with out := [], queue := [] }
  have hrun := onRemoteTimeout_keep_run k c sA t q nb tc0 _ ha hacc hsi htc0 hq hnb hv1 hv2
    ((collector_one_view _ _ _ hall hnew).trans (if_pos hlt))
  have hfil : (s.timeouts ++ [t]).filter (fun x => !(x.view < s.view)) = s.timeouts ++ [t] := by
    apply List.filter_eq_self.mpr
    intro x hx
    simp only [List.mem_append, List.mem_singleton] at hx
    rcases hx with hx | rfl
    · simp [hall x hx, htv]
    · simp [htv]
  rw [step_tick_idle k c s _ _ hq0 (tick_timeout k c rfl hrun) rfl]
  show (({ absorbS sA q nb tc0 with timeouts := (s.timeouts ++ [t]).filter _, out := [] } : RState), ([] : List Out)) = _
  rw [hfil]
  show (({ absorbS { s with out := [], queue := [] } q nb tc0 with timeouts := s.timeouts ++ [t], out := [] } : RState), ([] : List Out)) = _
  rw [← hq0]
  rfl

theorem step_timeout_stale (k : Keys) (c : RCfg) (s : RState) (t : TimeoutMsg) (q : QC) (nb : Block) (tc0 : TC)
    (ha : c.agg = false) (hq2 : 2 ≤ c.cfg.quorum) (hq0 : s.queue = [])
    (hacc : Accepted (fun b => s.truth.lookup b) c.cfg t)
    (hsi : t.si = { qc := some q, tc := some tc0 })
    (htc0 : verifyTC (env k c s) tc0 = true) (hq : verifyQC (env k c s) q = true)
    (hnb : s.chain.blocks.lookup q.hash = some nb) (hv1 : tc0.view < s.view) (hv2 : q.view < s.view)
    (htv : t.view < s.view) (hts0 : s.timeouts = []) :
    step k c s (.timeout t) = ({ absorbS s q nb tc0 with out := [] }, []) := by
  let sA : RState := { s with out := [], queue := [] }
  have hcol : collectorAdd c.cfg.quorum sA.timeouts t = ([t], none) := by
    have : (1 : Nat) < c.cfg.quorum := by omega
    show collectorAdd c.cfg.quorum s.timeouts t = _
    simp [hts0, collectorAdd, this]
  have hrun := onRemoteTimeout_keep_run k c sA t q nb tc0 _ ha hacc hsi htc0 hq hnb hv1 hv2 hcol
  rw [step_tick_idle k c s _ _ hq0 (tick_timeout k c rfl hrun) rfl]
  have hfil : [t].filter (fun x => !(x.view < sA.view)) = s.timeouts := by
    rw [hts0]; simpa using htv
  rw [hfil]
  show (({ absorbS { s with out := [], queue := [] } q nb tc0 with timeouts := s.timeouts, out := [] } : RState), ([] : List Out)) = _
  rw [← hq0]
  rfl


theorem TmoQuorumPre.run_all {k : Keys} {c : RCfg} {s : RState} {t : TimeoutMsg} {q : QC} {nb hb : Block} {tc0 : TC}
    (h : TmoQuorumPre k c s t q nb hb tc0) (hall : ∀ x ∈ s.timeouts, x.view = t.view) :
    ∃ sg : Sig, verifyTC (env k c s) ⟨some sg, s.view⟩ = true ∧
      (onRemoteTimeout k c t).run { s with out := [], queue := [] } =
        ((if c.leader (s.view + 1) = c.id then
            createAndPropose k c { qc := some (absorbS s q nb tc0).highQC, tc := some ⟨some sg, s.view⟩ }
          else emit (.sendNewView (c.leader (s.view + 1)) { qc := some (absorbS s q nb tc0).highQC, tc := some ⟨some sg, s.view⟩ }))
          >>= fun _ => modify fun s' => { s' with timeouts := s'.timeouts.filter (fun x => !(x.view < s.view)) }).run
          (movedTS { absorbS { s with out := [], queue := [] } q nb tc0 with timeouts := [] } ⟨some sg, s.view⟩) := by
  obtain ⟨ts', list, sg, hcol, htc, hrun⟩ := h.run
  have hge : c.cfg.quorum ≤ s.timeouts.length + 1 := by
    have := h.quorum
    rwa [ofView_all _ _ (fun x hx => (List.mem_append.mp hx).elim (hall x) (fun e => List.mem_singleton.mp e ▸ rfl)),
      List.length_append] at this
  have hcq := (collector_one_view c.cfg.quorum s.timeouts t hall (fun x hx e => h.new ⟨x, hx, hall x hx, e⟩)).trans
    (if_neg (Nat.not_lt.mpr hge))
  cases hcol.symm.trans hcq
  rw [h.view] at hrun htc
  exact ⟨sg, htc, hrun⟩

/-- the state of a non-leader after the timeout message that completes the quorum -/
def tmoMovedS (s : RState) (q : QC) (nb : Block) (tc0 tc : TC) : RState :=
  { absorbS s q nb tc0 with
    highTC := if tc.view > (absorbS s q nb tc0).highTC.view then tc else (absorbS s q nb tc0).highTC,
    view := s.view + 1, lastTimeout := none, timeouts := [],
    ghost := s.ghost ++ [.adv s.view tc.view true], queue := [], out := [] }

/-- **the timeout message that completes the quorum, at a replica that is not the next leader**, exactly (nothing waits for a
view change, the collector holds messages of this view only) -/
theorem step_timeout_quorum_exact (k : Keys) (c : RCfg) (s : RState) (t : TimeoutMsg) (q : QC) (nb hb : Block) (tc0 : TC)
    (h : TmoQuorumPre k c s t q nb hb tc0) (hwvc : s.waitingVC = []) (hall : ∀ x ∈ s.timeouts, x.view = t.view)
    (hl : c.leader (s.view + 1) ≠ c.id) :
    ∃ sg : Sig, verifyTC (env k c s) ⟨some sg, s.view⟩ = true ∧
      step k c s (.timeout t) =
        (tmoMovedS s q nb tc0 ⟨some sg, s.view⟩,
         [.sendNewView (c.leader (s.view + 1)) { qc := some (absorbS s q nb tc0).highQC, tc := some ⟨some sg, s.view⟩ },
          .viewChange (s.view + 1) true]) := by
  let sA : RState := { s with out := [], queue := [] }
  obtain ⟨sg, htc, hrun⟩ := h.run_all hall
  refine ⟨sg, htc, ?_⟩
  let m : RState := movedTS { absorbS sA q nb tc0 with timeouts := [] } ⟨some sg, s.view⟩
  let o : Out := .sendNewView (c.leader (s.view + 1)) { qc := some (absorbS s q nb tc0).highQC, tc := some ⟨some sg, s.view⟩ }
  let s7 : RState := { m with out := m.out ++ [o], timeouts := m.timeouts.filter (fun x => !(x.view < s.view)) }
  have hrun' : (onRemoteTimeout k c t).run sA = pure ((), s7) := by
    rw [hrun, if_neg (by exact hl)]
    rfl
  have hs7q : s7.queue = [.viewChange (s.view + 1) true] := rfl
  rw [step_tick_quiet k c s s7 _ h.queue (tick_timeout k c rfl hrun')
    (by rw [hs7q]; intro e he; simp at he; subst he; rfl) hwvc (by rw [hs7q]; simp)]
  rfl

/-- the index of the highest certificate seen: start with `cur`, then look at the certificates of
`l` in order; a certificate replaces the current one only if its block has a strictly higher view
(`bv`: view of the certified block) — this is `UpdateHighQC` -/
def absI (bv : Nat → Nat) : Nat → List Nat → Nat
  | cur, [] => cur
  | cur, i :: rest => absI bv (if bv i ≤ bv cur then cur else i) rest

theorem absI_mem (bv : Nat → Nat) : ∀ (l : List Nat) (cur : Nat), absI bv cur l ∈ cur :: l := by
  intro l
  induction l with
  | nil => intro cur; simp [absI]
  | cons i rest ih =>
    intro cur
    unfold absI
    by_cases hc : bv i ≤ bv cur
    · rw [if_pos hc]
      have := ih cur
      simp only [List.mem_cons] at this ⊢
      rcases this with h | h
      · exact Or.inl h
      · exact Or.inr (Or.inr h)
    · rw [if_neg hc]
      have := ih i
      simp only [List.mem_cons] at this ⊢
      exact Or.inr this

theorem absI_honest {C : SysCfg} (bv : Nat → Nat) {j : Nat} {l : List Nat} (hj : j ∈ C.honest) (hl : ∀ x ∈ l, x ∈ C.honest) :
    absI bv j l ∈ C.honest :=
  (List.mem_cons.mp (absI_mem bv l j)).elim (fun e => by rw [e]; exact hj) (hl _)

theorem absI_max (bv : Nat → Nat) : ∀ (l : List Nat) (cur : Nat), bv cur ≤ bv (absI bv cur l) ∧ ∀ i ∈ l, bv i ≤ bv (absI bv cur l) := by
  intro l
  induction l with
  | nil => intro cur; simp [absI]
  | cons i rest ih =>
    intro cur
    unfold absI
    by_cases hc : bv i ≤ bv cur
    · rw [if_pos hc]
      obtain ⟨h1, h2⟩ := ih cur
      refine ⟨h1, ?_⟩
      intro x hx
      simp only [List.mem_cons] at hx
      rcases hx with rfl | hx
      · omega
      · exact h2 x hx
    · rw [if_neg hc]
      obtain ⟨h1, h2⟩ := ih i
      refine ⟨by omega, ?_⟩
      intro x hx
      simp only [List.mem_cons] at hx
      rcases hx with rfl | hx
      · exact h1
      · exact h2 x hx

theorem absI_snoc (bv : Nat → Nat) (l : List Nat) (cur i : Nat) :
    absI bv cur (l ++ [i]) = (if bv i ≤ bv (absI bv cur l) then absI bv cur l else i) := by
  induction l generalizing cur with
  | nil => simp only [List.nil_append, absI]; rfl
  | cons a rest ih => simp only [List.cons_append, absI]; exact ih _



/-- the data of the scenario: the view `v` every replica is in; for replica `i` its high QC `hq i`
(certifying the block `hb i`), its high TC `htc i`, and the bytes `bt i` of its signature over the view -/
structure RecData where
  v : Nat
  hq : Nat → QC
  hb : Nat → Block
  htc : Nat → TC
  bt : Nat → Nat

def RecData.tmsg (D : RecData) (C : SysCfg) (i : Nat) : TimeoutMsg :=
  ⟨i, D.v, some (.multi C.scheme [⟨i, D.bt i⟩]), none, { qc := some (D.hq i), tc := some (D.htc i) }⟩

def RecData.bv (D : RecData) (i : Nat) : Nat := (D.hb i).view

/-- what a timeout round leaves alone in a replica that does not propose -/
structure Frame (s0 s : RState) : Prop where
  chain : s.chain = s0.chain
  lock : s.lock = s0.lock
  committed : s.committed = s0.committed
  lastVoted : s.lastVoted = s0.lastVoted
  lastProposed : s.lastProposed = s0.lastProposed
  nextCmd : s.nextCmd = s0.nextCmd
  votes : s.votes = s0.votes
  wvc : s.waitingVC = s0.waitingVC
  wprop : s.waitingProp = s0.waitingProp

theorem Frame.refl (s : RState) : Frame s s := ⟨rfl, rfl, rfl, rfl, rfl, rfl, rfl, rfl, rfl⟩

/-- replica `j` (with its table) can check everybody's certificates and timeout message -/
structure KnowsAll (k : Keys) (C : SysCfg) (D : RecData) (j : Nat) (s : RState) : Prop where
  qc : ∀ i ∈ C.honest, verifyQC (env k (C.rcfg j) s) (D.hq i) = true ∧
    s.chain.blocks.lookup (D.hq i).hash = some (D.hb i) ∧ (D.hq i).view = (D.hb i).view ∧ (D.hq i).view < D.v
  tc : ∀ i ∈ C.honest, verifyTC (env k (C.rcfg j) s) (D.htc i) = true ∧ (D.htc i).view < D.v
  acc : ∀ i ∈ C.honest, Accepted (fun b => s.truth.lookup b) (C.rcfg j).cfg (D.tmsg C i)

theorem accepted_mono (T T' : Truth) (cfg : Cfg) (t : TimeoutMsg) (hT : TruthLe T T') (h : Accepted T cfg t) :
    Accepted T' cfg t := by
  obtain ⟨sg, h1, h2, h3, h4, h5, h6⟩ := h
  exact ⟨sg, h1, h2, h3, h4, h5, verify_mono T T' cfg sg _ hT h6⟩

theorem KnowsAll.mono {k : Keys} {C : SysCfg} {D : RecData} {j : Nat} {s s' : RState} (h : KnowsAll k C D j s)
    (hc : s'.chain = s.chain) (hT : ∀ b a, s.truth.lookup b = some a → s'.truth.lookup b = some a) :
    KnowsAll k C D j s' := by
  refine ⟨?_, ?_, ?_⟩
  · intro i hi
    obtain ⟨h1, h2, h3, h4⟩ := h.qc i hi
    refine ⟨?_, by rw [hc]; exact h2, h3, h4⟩
    exact verifyQC_mono (fun b => s.truth.lookup b) (fun b => s'.truth.lookup b) (C.rcfg j).cfg s.chain.blocks s'.chain.blocks _ _
      (fun b a hb => hT b a hb) (by rw [hc]; exact fun _ _ h => h) h1
  · intro i hi
    obtain ⟨h1, h2⟩ := h.tc i hi
    exact ⟨verifyTC_mono k _ s s' _ hT h1, h2⟩
  · intro i hi
    exact accepted_mono _ _ _ _ (fun b a hb => hT b a hb) (h.acc i hi)

/-- replica `j` is still in view `v` and has collected the timeout messages of `frm` (after its own) -/
structure RColl (C : SysCfg) (D : RecData) (s0 : RState) (j : Nat) (frm : List Nat) (s : RState) : Prop where
  frame : Frame s0 s
  view : s.view = D.v
  queue : s.queue = []
  touts : s.timeouts = D.tmsg C j :: frm.map (D.tmsg C)
  hqc : s.highQC = D.hq (absI D.bv j frm)

/-- replica `j` has moved to view `v + 1` (it is not the next leader) and has seen the messages of `frm` -/
structure RMoved (C : SysCfg) (D : RecData) (s0 : RState) (j : Nat) (frm : List Nat) (s : RState) : Prop where
  frame : Frame s0 s
  view : s.view = D.v + 1
  queue : s.queue = []
  touts : s.timeouts = []
  hqc : s.highQC = D.hq (absI D.bv j frm)


theorem tmsg_ids (C : SysCfg) (D : RecData) (l : List Nat) : (l.map (D.tmsg C)).map (·.id) = l := by
  induction l with
  | nil => rfl
  | cons a rest ih => simp [RecData.tmsg, ih]

theorem RColl.touts_spec {C : SysCfg} {D : RecData} {s0 s : RState} {j : Nat} {frm : List Nat} (hc : RColl C D s0 j frm s) :
    s.timeouts.map (·.id) = j :: frm ∧
    ∀ P : TimeoutMsg → Prop, (∀ y ∈ j :: frm, P (D.tmsg C y)) → ∀ x ∈ s.timeouts, P x := by
  rw [hc.touts]
  refine ⟨tmsg_ids C D (j :: frm), fun P hP x hx => ?_⟩
  obtain ⟨y, hy, rfl⟩ := List.mem_map.mp (show x ∈ (j :: frm).map (D.tmsg C) from hx)
  exact hP y hy

theorem rcoll_touts {k : Keys} {C : SysCfg} {D : RecData} {s0 s : RState} {j i : Nat} {frm : List Nat} {T : List (Nat × Atom)} {nb : Nat}
    (hj : j ∈ C.honest) (hfrm : ∀ x ∈ frm, x ∈ C.honest) (hnd : (j :: frm).Nodup) (hnew : i ∉ j :: frm)
    (hc : RColl C D s0 j frm s) (hk : KnowsAll k C D j { s with truth := T, nextBytes := nb }) :
    s.timeouts.length = frm.length + 1 ∧ (∀ x ∈ s.timeouts, x.view = (D.tmsg C i).view) ∧
    ((s.timeouts ++ [D.tmsg C i]).map (·.id)).Nodup ∧ ∀ x ∈ s.timeouts, Accepted (fun b => T.lookup b) (C.rcfg j).cfg x := by
  have htouts : s.timeouts = D.tmsg C j :: frm.map (D.tmsg C) := hc.touts
  rw [htouts]
  refine ⟨by simp, ?_, ?_, ?_⟩
  · intro x hx
    simp only [List.mem_cons, List.mem_map] at hx
    rcases hx with rfl | ⟨y, _, rfl⟩ <;> rfl
  · have : (D.tmsg C j :: frm.map (D.tmsg C) ++ [D.tmsg C i]).map (·.id) = (j :: frm) ++ [i] := by
      have := tmsg_ids C D ((j :: frm) ++ [i])
      simpa using this
    rw [this, List.nodup_append]
    refine ⟨hnd, by simp, ?_⟩
    intro a ha' b hb'
    simp at hb'; subst hb'
    exact fun e => hnew (e ▸ ha')
  · intro x hx
    simp only [List.mem_cons, List.mem_map] at hx
    rcases hx with rfl | ⟨y, hy, rfl⟩
    · exact hk.acc j hj
    · exact hk.acc y (hfrm y hy)

theorem frame_absorb {s0 s : RState} (h : Frame s0 s) (T : List (Nat × Atom)) (n : Nat) (q : QC) (nb : Block) (tc0 : TC)
    (ts : List TimeoutMsg) :
    Frame s0 { absorbS { s with truth := T, nextBytes := n } q nb tc0 with timeouts := ts, out := [] } :=
  ⟨h.chain, h.lock, h.committed, h.lastVoted, h.lastProposed, h.nextCmd, h.votes, h.wvc, h.wprop⟩

/-- `UpdateHighQC` with the certificate of replica `i` -/
theorem absorb_hq (D : RecData) (s : RState) (j i : Nat) (frm : List Nat) (tc0 : TC)
    (hqc : s.highQC = D.hq (absI D.bv j frm)) (hv : (D.hq (absI D.bv j frm)).view = D.bv (absI D.bv j frm)) :
    (absorbS s (D.hq i) (D.hb i) tc0).highQC = D.hq (absI D.bv j (frm ++ [i])) := by
  rw [absI_snoc]
  show (if (D.hb i).view ≤ s.highQC.view then s.highQC else D.hq i) = _
  rw [hqc, hv]
  show (if D.bv i ≤ _ then _ else _) = _
  split <;> rfl

/-- one more timeout message at a replica that is still collecting: no quorum yet, the message is kept, nothing is emitted -/
theorem rcoll_add (k : Keys) (C : SysCfg) (D : RecData) (s0 s : RState) (j i : Nat) (frm : List Nat)
    (T : List (Nat × Atom)) (nb : Nat)
    (ha : C.agg = false) (hj : j ∈ C.honest) (hfrm : ∀ x ∈ frm, x ∈ C.honest) (hi : i ∈ C.honest)
    (hnew : i ∉ j :: frm)
    (hc : RColl C D s0 j frm s) (hk : KnowsAll k C D j { s with truth := T, nextBytes := nb })
    (hlt : frm.length + 2 < (C.rcfg j).cfg.quorum) :
    ∃ s', step k (C.rcfg j) { s with truth := T, nextBytes := nb } (.timeout (D.tmsg C i)) = (s', []) ∧
      RColl C D s0 j (frm ++ [i]) s' ∧ s'.truth = T ∧ s'.nextBytes = nb := by
  obtain ⟨q1, q2, q3, q4⟩ := hk.qc i hi
  obtain ⟨t1, t2⟩ := hk.tc i hi
  have hmem : absI D.bv j frm ∈ C.honest := absI_honest D.bv hj hfrm
  have hstep := step_timeout_collect k (C.rcfg j) { s with truth := T, nextBytes := nb } (D.tmsg C i) (D.hq i) (D.hb i) (D.htc i)
    ha hc.queue (hk.acc i hi) rfl t1 q1 q2 (by show _ < s.view; rw [hc.view]; exact t2) (by show _ < s.view; rw [hc.view]; exact q4)
    (by show D.v = s.view; rw [hc.view])
    (hc.touts_spec.2 _ (fun _ _ => rfl)) (hc.touts_spec.2 _ (fun y hy (e : y = i) => hnew (e ▸ hy)))
    (by show s.timeouts.length + 1 < _; rw [hc.touts]; simp; omega)
  refine ⟨_, hstep, ⟨frame_absorb hc.frame T nb _ _ _ _, hc.view, hc.queue, ?_, ?_⟩, rfl, rfl⟩
  · show s.timeouts ++ [D.tmsg C i] = _
    rw [hc.touts]; simp
  · exact absorb_hq D _ j i frm (D.htc i) hc.hqc (hk.qc _ hmem).2.2.1

theorem rmoved_add (k : Keys) (C : SysCfg) (D : RecData) (s0 s : RState) (j i : Nat) (frm : List Nat)
    (T : List (Nat × Atom)) (nb : Nat)
    (ha : C.agg = false) (hq2 : 2 ≤ (C.rcfg j).cfg.quorum) (hj : j ∈ C.honest) (hfrm : ∀ x ∈ frm, x ∈ C.honest) (hi : i ∈ C.honest)
    (hc : RMoved C D s0 j frm s) (hk : KnowsAll k C D j { s with truth := T, nextBytes := nb }) :
    ∃ s', step k (C.rcfg j) { s with truth := T, nextBytes := nb } (.timeout (D.tmsg C i)) = (s', []) ∧
      RMoved C D s0 j (frm ++ [i]) s' ∧ s'.truth = T ∧ s'.nextBytes = nb := by
  obtain ⟨q1, q2, q3, q4⟩ := hk.qc i hi
  obtain ⟨t1, t2⟩ := hk.tc i hi
  have hmem : absI D.bv j frm ∈ C.honest := absI_honest D.bv hj hfrm
  have hstep := step_timeout_stale k (C.rcfg j) { s with truth := T, nextBytes := nb } (D.tmsg C i) (D.hq i) (D.hb i) (D.htc i)
    ha hq2 hc.queue (hk.acc i hi) rfl t1 q1 q2 (by show _ < s.view; rw [hc.view]; omega) (by show _ < s.view; rw [hc.view]; omega)
    (by show D.v < s.view; rw [hc.view]; omega) hc.touts
  exact ⟨_, hstep, ⟨frame_absorb hc.frame T nb _ _ _ _, hc.view, hc.queue, hc.touts,
    absorb_hq D _ j i frm (D.htc i) hc.hqc (hk.qc _ hmem).2.2.1⟩, rfl, rfl⟩


theorem RColl.tmoPre {k : Keys} {C : SysCfg} {D : RecData} {s0 s : RState} {j i : Nat} {frm : List Nat} {T : List (Nat × Atom)}
    {nb : Nat} (hc : RColl C D s0 j frm s) (hk : KnowsAll k C D j { s with truth := T, nextBytes := nb })
    (ha : C.agg = false) (hsch : C.scheme ≠ .bls12) (hv0 : D.v ≠ 0) (hfr : FreshL T nb)
    (hj : j ∈ C.honest) (hfrm : ∀ x ∈ frm, x ∈ C.honest) (hi : i ∈ C.honest) (hnd : (j :: frm).Nodup) (hnew : i ∉ j :: frm)
    (hge : (C.rcfg j).cfg.quorum ≤ frm.length + 2) :
    TmoQuorumPre k (C.rcfg j) { s with truth := T, nextBytes := nb } (D.tmsg C i) (D.hq i) (D.hb i)
      (D.hb (absI D.bv j (frm ++ [i]))) (D.htc i) ∧
    (absorbS { s with truth := T, nextBytes := nb } (D.hq i) (D.hb i) (D.htc i)).highQC = D.hq (absI D.bv j (frm ++ [i])) ∧
    ∀ x ∈ s.timeouts, x.view = (D.tmsg C i).view := by
  obtain ⟨q1, q2, q3, q4⟩ := hk.qc i hi
  obtain ⟨t1, t2⟩ := hk.tc i hi
  have hmem' : absI D.bv j (frm ++ [i]) ∈ C.honest := absI_honest D.bv hj
    (fun x hx => (List.mem_append.mp hx).elim (hfrm x) (fun h => List.mem_singleton.mp h ▸ hi))
  have hmem : absI D.bv j frm ∈ C.honest := absI_honest D.bv hj hfrm
  let sT : RState := { s with truth := T, nextBytes := nb }
  have habs := absorb_hq D sT j i frm (D.htc i) hc.hqc (hk.qc _ hmem).2.2.1
  obtain ⟨a1, a2, a3, a4⟩ := hk.qc _ hmem'
  obtain ⟨u1, u2, u3, u4⟩ : sT.timeouts.length = frm.length + 1 ∧ (∀ x ∈ sT.timeouts, x.view = (D.tmsg C i).view) ∧
      ((sT.timeouts ++ [D.tmsg C i]).map (·.id)).Nodup ∧ ∀ x ∈ sT.timeouts, Accepted (fun b => sT.truth.lookup b) (C.rcfg j).cfg x :=
    rcoll_touts hj hfrm hnd hnew hc hk
  have hov : ofView (sT.timeouts ++ [D.tmsg C i]) (D.tmsg C i).view = sT.timeouts ++ [D.tmsg C i] :=
    ofView_all _ _ (fun x hx => (List.mem_append.mp hx).elim (u2 x) (fun h => List.mem_singleton.mp h ▸ rfl))
  have hids := u3
  rw [List.map_append, List.nodup_append] at hids
  refine ⟨⟨ha, hsch, hfr, hc.queue, by show D.v = s.view; rw [hc.view], by show s.view ≠ 0; rw [hc.view]; exact hv0,
      hk.acc i hi, rfl, t1, by show _ < s.view; rw [hc.view]; exact t2, q1, by show _ < s.view; rw [hc.view]; exact q4, q2,
      keyed_of_ids _ hids.1, ?_, ?_, ?_, fun x hx _ => u4 x hx, by rw [habs]; exact a1, by rw [habs]; exact a2,
      by rw [habs]; show _ < s.view; rw [hc.view]; exact a4⟩, habs, u2⟩
  · rintro ⟨x, hx, _, hxe⟩
    exact hids.2.2 _ (List.mem_map_of_mem hx) _ (by simp) hxe
  · rw [hov, List.length_append, u1]; exact hge
  · rw [hov, List.length_append, u1]; exact Nat.le_add_left _ _

theorem rcoll_quorum (k : Keys) (C : SysCfg) (D : RecData) (s0 s : RState) (j i : Nat) (frm : List Nat)
    (T : List (Nat × Atom)) (nb : Nat)
    (ha : C.agg = false) (hsch : C.scheme ≠ .bls12) (hv0 : D.v ≠ 0)
    (hj : j ∈ C.honest) (hfrm : ∀ x ∈ frm, x ∈ C.honest) (hi : i ∈ C.honest)
    (hnd : (j :: frm).Nodup) (hnew : i ∉ j :: frm) (hw0 : s0.waitingVC = [])
    (hc : RColl C D s0 j frm s) (hk : KnowsAll k C D j { s with truth := T, nextBytes := nb }) (hfr : FreshL T nb)
    (hge : (C.rcfg j).cfg.quorum ≤ frm.length + 2)
    (hl : (C.rcfg j).leader (D.v + 1) ≠ j) :
    ∃ s' to si v, step k (C.rcfg j) { s with truth := T, nextBytes := nb } (.timeout (D.tmsg C i)) =
        (s', [.sendNewView to si, .viewChange v true]) ∧
      RMoved C D s0 j (frm ++ [i]) s' ∧ s'.truth = T ∧ s'.nextBytes = nb := by
  obtain ⟨hpre, habs, hall⟩ := hc.tmoPre hk ha hsch hv0 hfr hj hfrm hi hnd hnew hge
  obtain ⟨sg, _, hstep⟩ := step_timeout_quorum_exact k (C.rcfg j) { s with truth := T, nextBytes := nb } (D.tmsg C i) (D.hq i) (D.hb i)
    (D.hb (absI D.bv j (frm ++ [i]))) (D.htc i) hpre (by show s.waitingVC = []; rw [hc.frame.wvc]; exact hw0) hall
    (by show (C.rcfg j).leader (s.view + 1) ≠ j; rw [hc.view]; exact hl)
  refine ⟨_, _, _, _, hstep, ⟨?_, ?_, rfl, rfl, habs⟩, rfl, rfl⟩
  · exact ⟨hc.frame.chain, hc.frame.lock, hc.frame.committed, hc.frame.lastVoted, hc.frame.lastProposed, hc.frame.nextCmd,
      hc.frame.votes, hc.frame.wvc, hc.frame.wprop⟩
  · show s.view + 1 = _; rw [hc.view]

theorem rcoll_quorum_leader (k : Keys) (C : SysCfg) (D : RecData) (s0 s : RState) (j i : Nat) (frm : List Nat)
    (T : List (Nat × Atom)) (nb : Nat)
    (ha : C.agg = false) (hsch : C.scheme ≠ .bls12) (hr : C.rules ≠ .fast) (hv0 : D.v ≠ 0)
    (hj : j ∈ C.honest) (hfrm : ∀ x ∈ frm, x ∈ C.honest) (hi : i ∈ C.honest)
    (hnd : (j :: frm).Nodup) (hnew : i ∉ j :: frm) (hlv : s0.lastVoted ≤ D.v)
    (hc : RColl C D s0 j frm s) (hk : KnowsAll k C D j { s with truth := T, nextBytes := nb })
    (hfr : FreshL T nb)
    (hge : (C.rcfg j).cfg.quorum ≤ frm.length + 2)
    (hl : (C.rcfg j).leader (D.v + 1) = j)
    (hready : RuleReady (C.rcfg j) s0 (D.v + 1) (D.hb (absI D.bv j (frm ++ [i]))))
    (hmark : markWalk (s0.chain.fuel + 1) s0.chain.blocks s0.lastProposed (D.hb (absI D.bv j (frm ++ [i]))) = true) :
    ∃ (b' : Block),
      b'.view = D.v + 1 ∧ b'.qc = D.hq (absI D.bv j (frm ++ [i])) ∧ b'.parent = (D.hq (absI D.bv j (frm ++ [i]))).hash ∧
      b'.proposer = j ∧
      Out.sendPropose b' none ∈ (step k (C.rcfg j) { s with truth := T, nextBytes := nb } (.timeout (D.tmsg C i))).2 ∧
      D.v + 1 ≤ (step k (C.rcfg j) { s with truth := T, nextBytes := nb } (.timeout (D.tmsg C i))).1.view := by
  let sT : RState := { s with truth := T, nextBytes := nb }
  obtain ⟨hpre, habs, _⟩ := hc.tmoPre hk ha hsch hv0 hfr hj hfrm hi hnd hnew hge
  obtain ⟨sg, b', p1, p2, p3, p4, p5, p6, p7, p8, p9⟩ := step_timeout_quorum_proposes k (C.rcfg j) sT (D.tmsg C i) (D.hq i) (D.hb i)
    (D.hb (absI D.bv j (frm ++ [i]))) (D.htc i) hpre hr (by show (C.rcfg j).leader (s.view + 1) = j; rw [hc.view]; exact hl)
    (by show s.lastVoted ≤ s.view; rw [hc.frame.lastVoted, hc.view]; exact hlv)
    (by show RuleReady (C.rcfg j) sT (s.view + 1) _
        rw [hc.view]
        exact ruleReady_congr (C.rcfg j) s0 sT _ _ hc.frame.chain hc.frame.lock hready)
    (by show markWalk (s.chain.fuel + 1) s.chain.blocks s.lastProposed _ = true
        rw [hc.frame.chain, hc.frame.lastProposed]; exact hmark)
  refine ⟨b', by rw [p3]; show s.view + 1 = _; rw [hc.view], by rw [p4, habs], by rw [p5, habs], p6, p7, ?_⟩
  have : sT.view = D.v := hc.view
  rw [← this]; exact p2


theorem step_view_mono (k : Keys) (c : RCfg) (s : RState) (e : Ev) : s.view ≤ (step k c s e).1.view :=
  (runLoop_steps k c 100000 { s with out := [], queue := s.queue ++ [e] }).view_le

/-- certificate `hq i` is the highest among those of a quorum `Q` of replicas that contains `i` -/
def Top (C : SysCfg) (D : RecData) (i : Nat) : Prop :=
  ∃ Q : List Nat, Q.Nodup ∧ (∀ x ∈ Q, x ∈ C.honest) ∧ (C.rcfg 0).cfg.quorum ≤ Q.length ∧ i ∈ Q ∧ ∀ x ∈ Q, D.bv x ≤ D.bv i

/-- **the assumptions of the recovery theorem**: all `n ≥ 2` replicas run the model (chained or
simplified HotStuff, plain timeout rule, ECDSA / EdDSA); they agree that `ℓ` leads view `v + 1`;
every replica `j` is in state `s0 j`: in view `v ≠ 0`, nothing queued or waiting for a view change,
not voted beyond `v`, timed out (its collector holds its own timeout message), high QC `hq j`;
everybody can check everybody's certificates and timeout message against the table `T0`
(`KnowsAll`: the certified blocks are stored); the leader can walk from every certified block
to what it proposed last; and — the fact that the classical argument derives from the safety
invariants — every certificate that is the highest of a quorum (`Top`) makes every replica's vote
rule ready (`RuleReady`: its block is above the replica's lock, or a proposal on it extends the lock) -/
structure RecSetup (k : Keys) (C : SysCfg) (D : RecData) (s0 : Nat → RState) (ℓ : Nat) (T0 : List (Nat × Atom)) : Prop where
  agg : C.agg = false
  scheme : C.scheme ≠ .bls12
  rules : C.rules ≠ .fast
  v0 : D.v ≠ 0
  nodup : C.honest.Nodup
  range : ∀ i ∈ C.honest, 1 ≤ i ∧ i ≤ C.n
  all : C.honest.length = C.n
  two : 2 ≤ C.n
  leader : ∀ j ∈ C.honest, (C.rcfg j).leader (D.v + 1) = ℓ
  lmem : ℓ ∈ C.honest
  init : ∀ j ∈ C.honest, RColl C D (s0 j) j [] (s0 j) ∧ (s0 j).waitingVC = [] ∧ (s0 j).lastVoted ≤ D.v ∧
    KnowsAll k C D j { s0 j with truth := T0 }
  mark : ∀ i ∈ C.honest, markWalk ((s0 ℓ).chain.fuel + 1) (s0 ℓ).chain.blocks (s0 ℓ).lastProposed (D.hb i) = true
  cover : ∀ j ∈ C.honest, ∀ i ∈ C.honest, Top C D i → RuleReady (C.rcfg j) (s0 j) (D.v + 1) (D.hb i)

/-- `RecSetup` with a silent minority: `qh` (a quorum of replicas takes part) in place of `all` -/
structure RecSetupLive (k : Keys) (C : SysCfg) (D : RecData) (s0 : Nat → RState) (ℓ : Nat) (T0 : List (Nat × Atom)) : Prop where
  agg : C.agg = false
  scheme : C.scheme ≠ .bls12
  rules : C.rules ≠ .fast
  v0 : D.v ≠ 0
  nodup : C.honest.Nodup
  range : ∀ i ∈ C.honest, 1 ≤ i ∧ i ≤ C.n
  qh : (C.rcfg 0).cfg.quorum ≤ C.honest.length
  two : 2 ≤ C.n
  leader : ∀ j ∈ C.honest, (C.rcfg j).leader (D.v + 1) = ℓ
  lmem : ℓ ∈ C.honest
  init : ∀ j ∈ C.honest, RColl C D (s0 j) j [] (s0 j) ∧ (s0 j).waitingVC = [] ∧ (s0 j).lastVoted ≤ D.v ∧
    KnowsAll k C D j { s0 j with truth := T0 }
  mark : ∀ i ∈ C.honest, markWalk ((s0 ℓ).chain.fuel + 1) (s0 ℓ).chain.blocks (s0 ℓ).lastProposed (D.hb i) = true
  cover : ∀ j ∈ C.honest, ∀ i ∈ C.honest, Top C D i → RuleReady (C.rcfg j) (s0 j) (D.v + 1) (D.hb i)

theorem RecSetup.toLive {k : Keys} {C : SysCfg} {D : RecData} {s0 : Nat → RState} {ℓ : Nat} {T0 : List (Nat × Atom)}
    (h : RecSetup k C D s0 ℓ T0) : RecSetupLive k C D s0 ℓ T0 :=
  ⟨h.agg, h.scheme, h.rules, h.v0, h.nodup, h.range, by rw [h.all]; exact (quorum_le_n C.n h.two).2, h.two,
    h.leader, h.lmem, h.init, h.mark, h.cover⟩

theorem absI_top {C : SysCfg} {D : RecData} {j : Nat} {l : List Nat} (hnd : (j :: l).Nodup) (hj : j ∈ C.honest)
    (hl : ∀ x ∈ l, x ∈ C.honest) (hq : (C.rcfg 0).cfg.quorum ≤ l.length + 1) : Top C D (absI D.bv j l) :=
  ⟨j :: l, hnd, fun x hx => (List.mem_cons.mp hx).elim (fun e => by rw [e]; exact hj) (hl x), hq, absI_mem D.bv l j,
    fun x hx => (List.mem_cons.mp hx).elim (fun e => by rw [e]; exact (absI_max D.bv l j).1) ((absI_max D.bv l j).2 x)⟩

end HsVerif.Model
