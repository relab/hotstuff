import HsVerif.Proofs.SysChainGlue
/-!
The rounds of Proofs/SysChain.lean with ALL messages of a round delivered: the new-view messages that the replicas send to the
leader on entering a view by a certificate reach the leader interleaved with the votes, in any order.  A new-view message
changes nothing (`newview_old_noop` in both collector states of `ABInvR`), provided the collector can check the certificate it carries
(`NVok`).  The views and the recovery that follow are those of a fixed leader.  The property theorems are in Props/C05Chain.lean.
-/
namespace HsVerif.Model
open HsVerif.Props.C01Sys HsVerif.Props.C01SysWF

/-- the new-view message replica `i` sends to the leader on entering a view on the certificate `q` -/
def nvMsg (L : Nat) (q : QC) (i : Nat) : Nat × Ev := (L, Ev.newview i { qc := some q })

/-- a message of the votes round at `(w, B)`: the vote of replica `p.2` (`p.1 = true`) or its new-view message -/
def abMsg (C : SysCfg) (L : Nat) (B : Block) (bt : Nat → Nat) (p : Bool × Nat) : Nat × Ev :=
  if p.1 then voteMsg C L B.hash bt p.2 else nvMsg L B.qc p.2

/-- the leader can check the certificate that the new-view messages of the round carry -/
def NVok (k : Keys) (C : SysCfg) (L w : Nat) (B : Block) (σ : SysState) : Prop :=
  ∃ sL, σ.reps.lookup L = some sL ∧
    verifyQC (env k (C.rcfg L) { sL with truth := σ.truth, nextBytes := σ.nextBytes }) B.qc = true ∧ B.qc.view < w

theorem ab_nv_step (k : Keys) (C : SysCfg) (c c2 w N : Nat) (hC : RotCfg C) (B P : Block)
    (σ0 : SysState) (sc0 : RState)
    (hver : verifyQC (env k (C.rcfg c) { sc0 with truth := σ0.truth, nextBytes := σ0.nextBytes }) B.qc = true)
    (hqv : B.qc.view < w) (hP0 : sc0.chain.blocks.lookup B.qc.hash = some P) (hPv : P.view < w) (hBv : B.view = w)
    (done : List Nat) (σ : SysState) (acc : Msgs) (i : Nat)
    (hinv : ABInvR C c c2 w N B P σ0 sc0 done (σ, acc)) (hlp : CollProposed C c w done (σ, acc)) :
    ABInvR C c c2 w N B P σ0 sc0 done (deliverAll k C (σ, acc) [nvMsg c B.qc i]) ∧
    CollProposed C c w done (deliverAll k C (σ, acc) [nvMsg c B.qc i]) := by
  have hnoop : ∀ sc : RState, sc.queue = [] → StoreLe sc0.chain.blocks sc.chain.blocks → B.qc.view < sc.view →
      P.view ≤ sc.highQC.view →
      step k (C.rcfg c) { sc with truth := σ.truth, nextBytes := σ.nextBytes } (.newview i { qc := some B.qc }) =
        ({ ({ sc with truth := σ.truth, nextBytes := σ.nextBytes } : RState) with out := [] }, []) :=
    fun sc hq hst hv hhi => newview_old_noop k (C.rcfg c) { sc with truth := σ.truth, nextBytes := σ.nextBytes } i B.qc P hC.agg hq
      (verifyQC_mono (fun b => σ0.truth.lookup b) (fun b => σ.truth.lookup b) (C.rcfg c).cfg sc0.chain.blocks sc.chain.blocks _ _
        (fun b a hb => hinv.table b a hb) hst hver)
      (hst _ _ hP0) hv hhi
  by_cases hlt : done.length + 1 < (C.rcfg c).cfg.quorum
  · obtain ⟨hacc, sc, vs, hl, hS, hvs, hch, hcm'⟩ := hinv.coll hlt
    obtain ⟨σ', hd, ⟨rj, ro, rk, r2, r3⟩, rf, rt⟩ := deliver_frame k C σ acc c (Ev.newview i { qc := some B.qc }) sc hl hinv.fresh
    have hstep := hnoop sc hS.core.queue (by rw [hch]; exact fun _ _ h => h)
      (by show B.qc.view < sc.view; rw [show sc.view = w from hS.core.view]; exact hqv) hS.hqge
    rw [hstep] at hd rj r2 r3
    show ABInvR C c c2 w N B P σ0 sc0 done (deliverAll k C (σ, acc) [(c, _)]) ∧ CollProposed C c w done (deliverAll k C (σ, acc) [(c, _)])
    rw [hd]
    refine ⟨⟨rf, rk.trans hinv.keys, fun b a hb => rt b a (hinv.table b a hb), fun x hx => (ro x hx).trans (hinv.others x hx), ?_,
      fun h => by omega⟩, fun h => by omega⟩
    intro _
    refine ⟨by simp [route]; exact hacc, ({ sc with truth := σ.truth, nextBytes := σ.nextBytes, out := [] } : RState), vs, rj, ?_, hvs, hch, hcm'⟩
    rw [r2, r3]; refine syncC_proj ?_ hS; rfl
  · exact hinv.late k hlp (by omega) done (by omega) _ fun B' sc sgq _ hsync _ hcs =>
      hnoop sc hsync.core.queue hcs.store (by show B.qc.view < sc.view; rw [show sc.view = w + 1 from hsync.core.view]; omega)
        (by have h1 : B.view ≤ sc.highQC.view := hsync.hqge
            omega)

def voteIds (items : List (Bool × Nat)) : List Nat := (items.filter (·.1)).map (·.2)

theorem voteIds_cons_true (j : Nat) (rest : List (Bool × Nat)) : voteIds ((true, j) :: rest) = j :: voteIds rest := by
  simp [voteIds]
theorem voteIds_cons_false (j : Nat) (rest : List (Bool × Nat)) : voteIds ((false, j) :: rest) = voteIds rest := by
  simp [voteIds]

theorem ab_deliver_all (k : Keys) (C : SysCfg) (L c2 w N : Nat) (hC : RotCfg C) (hcm : L ∈ C.honest) (hc1 : ldr C (w + 1) = L)
    (hc2 : ldr C (w + 1 + 1) = c2) (B P : Block) (bt : Nat → Nat)
    (σ0 : SysState) (sL0 : RState) (hN : N + 12 ≤ 99999)
    (hbt : ∀ j ∈ C.honest, j ≠ L → σ0.truth.lookup (bt j) = some ⟨j, blkMsg B.hash⟩)
    (hP0 : sL0.chain.blocks.lookup B.qc.hash = some P) (hPv : P.view < w) (hBv : B.view = w) :
    ∀ (items : List (Bool × Nat)) (done : List Nat) (x : SysState × Msgs),
      ABInvR C L c2 w N B P σ0 sL0 done x ∧ CollProposed C L w done x →
      (voteIds items).Nodup → (∀ j ∈ voteIds items, j ∈ C.honest ∧ j ≠ L ∧ j ∉ done) →
      ((∃ p ∈ items, p.1 = false) →
        verifyQC (env k (C.rcfg L) { sL0 with truth := σ0.truth, nextBytes := σ0.nextBytes }) B.qc = true ∧ B.qc.view < w) →
      ABInvR C L c2 w N B P σ0 sL0 (done ++ voteIds items) (deliverAll k C x (items.map (abMsg C L B bt))) ∧
      CollProposed C L w (done ++ voteIds items) (deliverAll k C x (items.map (abMsg C L B bt))) := by
  intro items
  induction items with
  | nil => intro done x h _ _ _; simp only [voteIds, List.filter_nil, List.map_nil, List.append_nil]; exact h
  | cons p rest ih =>
    intro done x h hnd hall hnv
    obtain ⟨σ, acc⟩ := x
    obtain ⟨b, j⟩ := p
    simp only [List.map_cons]
    rw [show (abMsg C L B bt (b, j) :: rest.map (abMsg C L B bt)) = [abMsg C L B bt (b, j)] ++ rest.map (abMsg C L B bt) from rfl,
      deliverAll_append]
    cases b with
    | true =>
      rw [voteIds_cons_true] at hnd hall ⊢
      obtain ⟨h1, h2, h3⟩ := hall j (by simp)
      have hstep := ab_step k C L c2 w N hC hcm hc1 hc2 B P bt σ0 sL0 hN hbt done σ acc j h.1 h.2 h1 h2 h3
      have := ih (done ++ [j]) _ hstep (List.nodup_cons.mp hnd).2 (by
        intro i hi
        obtain ⟨q1, q2, q3⟩ := hall i (by simp [hi])
        refine ⟨q1, q2, ?_⟩
        simp only [List.mem_append, List.mem_singleton, not_or]
        exact ⟨q3, fun e => (List.nodup_cons.mp hnd).1 (e ▸ hi)⟩)
        (fun ⟨p, hp, hf⟩ => hnv ⟨p, by simp [hp], hf⟩)
      rw [List.append_assoc] at this
      exact this
    | false =>
      rw [voteIds_cons_false] at hnd hall ⊢
      obtain ⟨hv1, hv2⟩ := hnv ⟨(false, j), by simp, rfl⟩
      have hstep := ab_nv_step k C L c2 w N hC B P σ0 sL0 hv1 hv2 hP0 hPv hBv done σ acc j h.1 h.2
      exact ih done _ hstep hnd hall (fun ⟨p, hp, hf⟩ => hnv ⟨p, by simp [hp], hf⟩)

theorem chain_round_AB_all (k : Keys) (C : SysCfg) (L w N : Nat) (hC : HappyLive C L) (B P : Block) (bt : Nat → Nat)
    (σ : SysState) (hN : N + 12 ≤ 99999) (hA : PhaseA C L w N B P bt σ)
    (items : List (Bool × Nat)) (hnd : (voteIds items).Nodup) (hord : ∀ j ∈ voteIds items, j ∈ C.honest ∧ j ≠ L)
    (hlen : (C.rcfg L).cfg.quorum ≤ (voteIds items).length + 1)
    (hnv : (∃ p ∈ items, p.1 = false) → NVok k C L w B σ) :
    let x := deliverAll k C (σ, []) (items.map (abMsg C L B bt))
    ∃ B' : Block,
      PhaseB C L w N B' B P x.1 ∧ x.2 = (othersOf C L).map (propMsg L B') ∧
      (∀ j, j ≠ L → x.1.reps.lookup j = σ.reps.lookup j) ∧ (∀ b a, σ.truth.lookup b = some a → x.1.truth.lookup b = some a) ∧
      ∃ sL0 sL, σ.reps.lookup L = some sL0 ∧ x.1.reps.lookup L = some sL ∧ CommitStep w B P sL0 sL := by
  intro x
  have e1 := hC.ldr (w + 1)
  have e2 := hC.ldr (w + 1 + 1)
  obtain ⟨sL0, hl0, hinit⟩ := (hA.toColl hC).ab_init hC.toRot
  rw [e1] at hl0
  rw [e1, e2] at hinit
  obtain ⟨sL, sgL, hl, hS⟩ := hA.leader
  rw [hl0] at hl; cases hl
  have hfin := ab_deliver_all k C L L w N hC.toRot hC.leader e1 e2 B P bt σ sL0 hN hA.bytes hS.core.hasP hS.core.pview
    hS.core.bview items [] (σ, []) hinit hnd (fun j hj => ⟨(hord j hj).1, (hord j hj).2, by simp⟩)
    (by intro h
        obtain ⟨sL', e1, e2, e3⟩ := hnv h
        rw [hl0] at e1; cases e1
        exact ⟨e2, e3⟩)
  rw [List.nil_append] at hfin
  exact phaseB_of_moved hC hA hl0 hfin.1 hfin.2 hlen



/-- the messages in flight in phase A, as items: for every replica of `ord` its new-view message (if `nv`) and its vote -/
def roundItems (nv : Bool) (ord : List Nat) : List (Bool × Nat) :=
  ord.flatMap fun j => (if nv then [(false, j)] else []) ++ [(true, j)]

theorem roundItems_cons (nv : Bool) (j : Nat) (rest : List Nat) :
    roundItems nv (j :: rest) = (if nv then [(false, j)] else []) ++ (true, j) :: roundItems nv rest := by
  simp [roundItems]

theorem voteIds_roundItems (nv : Bool) (ord : List Nat) : voteIds (roundItems nv ord) = ord := by
  induction ord with
  | nil => rfl
  | cons j rest ih =>
    rw [roundItems_cons]
    cases nv
    · rw [if_neg Bool.false_ne_true, List.nil_append, voteIds_cons_true, ih]
    · rw [if_pos rfl, List.singleton_append, voteIds_cons_false, voteIds_cons_true, ih]

theorem roundItems_false_votes (ord : List Nat) : ∀ p ∈ roundItems false ord, p.1 = true := by
  intro p hp
  simp only [roundItems, Bool.false_eq_true, if_false, List.nil_append, List.mem_flatMap, List.mem_singleton] at hp
  obtain ⟨j, _, rfl⟩ := hp
  rfl

theorem roundItems_map (C : SysCfg) (L : Nat) (B : Block) (bt : Nat → Nat) (nv : Bool) (ord : List Nat) :
    (roundItems nv ord).map (abMsg C L B bt) =
      ord.flatMap fun j => (if nv then [nvMsg L B.qc j] else []) ++ [voteMsg C L B.hash bt j] := by
  unfold roundItems
  rw [List.map_flatMap]
  cases nv <;> rfl

/-- **one view of the chain with ALL messages delivered**: the messages `msgs` (votes and new-view messages) reach the
leader, then the proposals in flight reach the replicas `ordP` -/
def chainViewAll (k : Keys) (C : SysCfg) (msgs : Msgs) (ordP : List Nat) (x : SysState × Msgs) : SysState × Msgs :=
  deliverAll k C ((deliverAll k C (x.1, []) msgs).1, []) (propsIn (deliverAll k C (x.1, []) msgs).2 ordP)

theorem chain_view_all (k : Keys) (C : SysCfg) (L w N : Nat) (hC : HappyLive C L) (B P : Block) (bt : Nat → Nat)
    (x : SysState × Msgs) (hN : N + 12 ≤ 99999) (hA : PhaseA C L w N B P bt x.1)
    (nv : Bool) (ordPrev : List Nat) (hprev : OthersOrder C L ordPrev)
    (hpool : x.2 = (roundItems nv ordPrev).map (abMsg C L B bt)) (hnvok : nv = true → NVok k C L w B x.1)
    (items : List (Bool × Nat)) (hperm : items.Perm (roundItems nv ordPrev)) (ordP : List Nat) (hP : OthersOrder C L ordP) :
    (items.map (abMsg C L B bt)).Perm x.2 ∧
    ∃ (B' : Block) (bt' : Nat → Nat),
      PhaseA C L (w + 1) (N + 3) B' B bt' (chainViewAll k C (items.map (abMsg C L B bt)) ordP x).1 ∧
      (chainViewAll k C (items.map (abMsg C L B bt)) ordP x).2 = (roundItems true ordP).map (abMsg C L B' bt') ∧
      NVok k C L (w + 1) B' (chainViewAll k C (items.map (abMsg C L B bt)) ordP x).1 ∧ Link B' B ∧
      ∀ j ∈ C.honest, ∃ s0 s, x.1.reps.lookup j = some s0 ∧
        (chainViewAll k C (items.map (abMsg C L B bt)) ordP x).1.reps.lookup j = some s ∧ CommitStep w B P s0 s := by
  refine ⟨by rw [hpool]; exact hperm.map _, ?_⟩
  have hvp : (voteIds items).Perm ordPrev := by
    have := (hperm.filter (·.1)).map (·.2)
    rw [show ((roundItems nv ordPrev).filter (·.1)).map (·.2) = ordPrev from voteIds_roundItems nv ordPrev] at this
    exact this
  have hnvq : (∃ p ∈ items, p.1 = false) → NVok k C L w B x.1 := by
    intro ⟨p, hp, hf⟩
    cases nv with
    | true => exact hnvok rfl
    | false =>
      have := roundItems_false_votes ordPrev p (hperm.mem_iff.mp hp)
      rw [hf] at this; cases this
  obtain ⟨B', a1, a2, a3, a4, sL0, sL, a5, a6, a7⟩ := chain_round_AB_all k C L w N hC B P bt x.1 hN hA items
    (hvp.nodup_iff.mpr hprev.nodup) (fun j hj => hprev.mem j (hvp.mem_iff.mp hj))
    (by rw [hvp.length_eq]; exact hprev.quorum_rot hC.toRot) hnvq
  obtain ⟨bt', b1, b2, b3, b4, b5⟩ := chain_round_BA_fixed k C L w N hC B' B P _ hN a1 ordP hP.nodup hP.mem hP.full
  have hpi := propsIn_eq C L B' ordP hP.mem
  have hcv : chainViewAll k C (items.map (abMsg C L B bt)) ordP x =
      deliverAll k C ((deliverAll k C (x.1, []) (items.map (abMsg C L B bt))).1, []) (ordP.map (propMsg L B')) := by
    unfold chainViewAll
    rw [a2, hpi]
  rw [hcv]
  obtain ⟨sgq, g1, g2, g3⟩ := a1.qc
  obtain ⟨sLx, _, _, hSLx⟩ := hA.leader
  obtain ⟨sL', sgL', hl', hSL'⟩ := b1.leader
  refine ⟨B', bt', b1, by rw [b2]; exact (roundItems_map C L B' bt' true ordP).symm, ?_,
    ⟨a1.blk.2.1, by rw [g1], by rw [a1.blk.2.2, hSLx.core.bview], by rw [hSLx.core.bhash]; exact pname_ne_empty _⟩, ?_⟩
  · refine ⟨sL', hl', ?_, by rw [g1]; show B.view < w + 1; rw [hSLx.core.bview]; omega⟩
    have hlk : sL'.chain.blocks.lookup B.hash = some B := by
      have := hSL'.core.hasP
      rw [g1] at this; exact this
    rw [g1]
    exact verifyQC_of_votes k (C.rcfg L) _ B.hash B sgq hlk rfl
      (by rw [hSLx.core.bhash]; exact pname_ne_genesis _)
      (verify_mono _ _ _ _ _ (fun b a hb => b4 b a hb) g2) g3
  · intro j hj
    by_cases hjL : j = L
    · subst hjL
      exact ⟨sL0, sL, a5, by rw [b3]; exact a6, a7⟩
    · obtain ⟨s0, s, c1, c2, c3⟩ := b5 j hj hjL
      exact ⟨s0, s, by rw [← a3 j hjL]; exact c1, c2, c3⟩



theorem synced_commits_all (k : Keys) (C : SysCfg) (L w N : Nat) (hC : HappyLive C L) (B P : Block) (bt : Nat → Nat)
    (x : SysState × Msgs) (hN : N + 18 ≤ 99999) (hA : PhaseA C L w N B P bt x.1)
    (nv : Bool) (ordPrev : List Nat) (hprev : OthersOrder C L ordPrev)
    (hpool : x.2 = (roundItems nv ordPrev).map (abMsg C L B bt)) (hnvok : nv = true → NVok k C L w B x.1)
    (hwalk : ∀ j ∈ C.honest, ∃ s, x.1.reps.lookup j = some s ∧ WalkZ B s)
    (i1 : List (Bool × Nat)) (p1 : List Nat) (h1 : i1.Perm (roundItems nv ordPrev)) (hp1 : OthersOrder C L p1) :
    ∃ (B1 : Block) (bt1 : Nat → Nat), Link B1 B ∧
      ∀ (i2 : List (Bool × Nat)) (p2 : List Nat), i2.Perm (roundItems true p1) → OthersOrder C L p2 →
      ∃ (B2 : Block) (bt2 : Nat → Nat), Link B2 B1 ∧
        ∀ (i3 : List (Bool × Nat)) (p3 : List Nat), i3.Perm (roundItems true p2) → OthersOrder C L p3 →
        ∃ (B3 : Block) (bt3 : Nat → Nat), Link B3 B2 ∧
          PhaseA C L (w + 3) (N + 9) B3 B2 bt3
            (chainViewAll k C (i3.map (abMsg C L B2 bt2)) p3 (chainViewAll k C (i2.map (abMsg C L B1 bt1)) p2
              (chainViewAll k C (i1.map (abMsg C L B bt)) p1 x))).1 ∧
          ∀ j ∈ C.honest, ∃ s0 s, x.1.reps.lookup j = some s0 ∧
            (chainViewAll k C (i3.map (abMsg C L B2 bt2)) p3 (chainViewAll k C (i2.map (abMsg C L B1 bt1)) p2
              (chainViewAll k C (i1.map (abMsg C L B bt)) p1 x))).1.reps.lookup j = some s ∧
            s.committed = B ∧ s0.committed.view < s.committed.view := by
  obtain ⟨_, B1, bt1, a1, a2, a3, a4, a5⟩ := chain_view_all k C L w N hC B P bt x (by omega) hA nv ordPrev hprev hpool hnvok
    i1 h1 p1 hp1
  refine ⟨B1, bt1, a4, ?_⟩
  intro i2 p2 h2 hp2
  obtain ⟨_, B2, bt2, b1, b2, b3, b4, b5⟩ := chain_view_all k C L (w + 1) (N + 3) hC B1 B bt1 _ (by omega) a1 true p1 hp1 a2
    (fun _ => a3) i2 h2 p2 hp2
  refine ⟨B2, bt2, b4, ?_⟩
  intro i3 p3 h3 hp3
  obtain ⟨_, B3, bt3, c1, c2, c3, c4, c5⟩ := chain_view_all k C L (w + 1 + 1) (N + 3 + 3) hC B2 B1 bt2 _ (by omega) b1 true p2 hp2 b2
    (fun _ => b3) i3 h3 p3 hp3
  exact ⟨B3, bt3, c4, c1, three_views_commit a5 b5 c5 a4 b4 (hA.toColl hC).hasB hwalk⟩


theorem commit_after_recovery_all_core (k : Keys) (C : SysCfg) (L : Nat) (hC : HappyLive C L) (D : RecData) (s0 : Nat → RState)
    (σ0 : SysState) (blk : Hash → Block) (hk : KeysOK k) (hr : Reach k C σ0) (hca : CA' σ0 blk)
    (hP : RecPreLive k C D s0 L σ0.truth) (h0 : RecStart C s0 σ0.truth σ0)
    (msgs : List (Nat × Nat)) (hm : FullOrder C msgs) (N : Nat) (hY : SyncPre C D s0 N)
    (ordP : List Nat) (hordP : OthersOrder C L ordP)
    (i1 : List (Bool × Nat)) (p1 : List Nat) (h1 : i1.Perm (roundItems false ordP)) (hp1 : OthersOrder C L p1) :
    ∃ (i : Nat) (b' : Block) (bt : Nat → Nat), i ∈ C.honest ∧ Top C D i ∧ b'.view = D.v + 1 ∧ b'.qc = D.hq i ∧ b'.proposer = L ∧
      (i1.map (abMsg C L b' bt)).Perm (proposalRound k C ordP (recoveryRound k C D σ0 msgs)).2 ∧
      ∃ (B1 : Block) (bt1 : Nat → Nat),
      ∀ (i2 : List (Bool × Nat)) (p2 : List Nat), i2.Perm (roundItems true p1) → OthersOrder C L p2 →
      ∃ (B2 : Block) (bt2 : Nat → Nat),
        ∀ (i3 : List (Bool × Nat)) (p3 : List Nat), i3.Perm (roundItems true p2) → OthersOrder C L p3 →
        ∀ j ∈ C.honest, ∃ s,
          (chainViewAll k C (i3.map (abMsg C L B2 bt2)) p3 (chainViewAll k C (i2.map (abMsg C L B1 bt1)) p2
            (chainViewAll k C (i1.map (abMsg C L b' bt)) p1
              (proposalRound k C ordP (recoveryRound k C D σ0 msgs))))).1.reps.lookup j = some s ∧
          s.committed = b' ∧ s.committed.view = D.v + 1 ∧ (s0 j).committed.view < s.committed.view := by
  obtain ⟨i, b', bt, g1, g2, g3, g4, g5, q1, q2, q3⟩ := recovery_reaches_phaseA k C L hC D s0 σ0 blk hk hr hca hP h0 msgs hm N hY ordP hordP
  have hpool : (proposalRound k C ordP (recoveryRound k C D σ0 msgs)).2 = (roundItems false ordP).map (abMsg C L b' bt) := by
    rw [q2, roundItems_map]; exact List.map_eq_flatMap
  refine ⟨i, b', bt, g1, g2, g3, g4, g5, by rw [hpool]; exact h1.map _, ?_⟩
  obtain ⟨B1, bt1, _, c2⟩ := synced_commits_all k C L (D.v + 1) (N + 2) hC b' (D.hb i) bt _ (by have := hY.bound; omega) q1
    false ordP hordP hpool (fun h => by cases h) q3 i1 p1 h1 hp1
  refine ⟨B1, bt1, ?_⟩
  intro i2 p2 h2 hp2
  obtain ⟨B2, bt2, _, c4⟩ := c2 i2 p2 h2 hp2
  refine ⟨B2, bt2, ?_⟩
  intro i3 p3 h3 hp3
  obtain ⟨B3, bt3, _, _, c6⟩ := c4 i3 p3 h3 hp3
  exact committed_after_recovery c6 g3 hY.committed

end HsVerif.Model
