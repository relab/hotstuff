import HsVerif.Proofs.ReplicaRoute
/-!
ONE REPLICA of the fault-free run (C05, replica level): what a step does to a replica that is exactly at block `j` of
the happy path.  The blocks of the happy path are `hb w sg m` (`w`: who proposes, `sg`: the combined signatures of the
certificates); `Base w sg j s` fixes view, high QC, last vote, lock, committed block, store and the empty queues of a replica
at block `j`; votes held, `lastProposed`, command counter and signature table are asked for where a step reads them (`LD`,
`Coll`, `QCok`).  No replica can fetch, so the committer is the one over the local store, and outputs are given as routed
messages (both Proofs/ReplicaRoute.lean).
-/
namespace HsVerif.Model

/-- hash of the `m`-th block of the happy path (`0`: genesis) -/
def hname : Nat → Hash
  | 0 => genesisHash
  | m + 1 => pname (m + 1)

/-- the certificate for the `m`-th block, made of the combined signature `sg m` -/
def hqc (sg : Nat → Sig) : Nat → QC
  | 0 => genesisQC
  | m + 1 => ⟨some (sg (m + 1)), m + 1, pname (m + 1)⟩

/-- who proposes the block of view `v` (`cfg v`: the proposer's configuration) and which of its
commands goes into it (`cnt v`: the proposer's command counter at that time) -/
structure Who where
  cfg : Nat → RCfg
  cnt : Nat → Nat

/-- one replica `c` proposes every block; its command counter is the view -/
def fixedWho (c : RCfg) : Who := ⟨fun _ => c, fun m => m⟩

/-- the `m`-th block of the happy path: proposed by `(c.cfg m).id` in view `m` on the certificate for block `m - 1` -/
def hb (c : Who) (sg : Nat → Sig) : Nat → Block
  | 0 => genesisBlock
  | m + 1 => mkBlock (c.cfg (m + 1)) (m + 1) (c.cnt (m + 1)) (hqc sg m)

/-- the block store after the first `j` blocks -/
def chainOf (c : Who) (sg : Nat → Sig) : Nat → List (Hash × Block)
  | 0 => [(genesisHash, genesisBlock)]
  | j + 1 => (pname (j + 1), hb c sg (j + 1)) :: chainOf c sg j

theorem hname_inj {a b : Nat} (h : hname a = hname b) : a = b := by
  cases a <;> cases b
  · rfl
  · exact absurd h.symm (pname_ne_genesis _)
  · exact absurd h (pname_ne_genesis _)
  · exact pname_inj h

theorem hname_ne_empty (a : Nat) : hname a ≠ "" := by
  cases a
  · unfold hname genesisHash; decide
  · exact pname_ne_empty _

theorem hb_hash (c : Who) (sg : Nat → Sig) (m : Nat) : (hb c sg m).hash = hname m := by
  cases m <;> rfl
theorem hb_view (c : Who) (sg : Nat → Sig) (m : Nat) : (hb c sg m).view = m := by
  cases m <;> rfl
theorem hqc_hash (sg : Nat → Sig) (m : Nat) : (hqc sg m).hash = hname m := by
  cases m <;> rfl
theorem hqc_view (sg : Nat → Sig) (m : Nat) : (hqc sg m).view = m := by
  cases m <;> rfl
theorem hb_qc (c : Who) (sg : Nat → Sig) (m : Nat) : (hb c sg (m + 1)).qc = hqc sg m := rfl
theorem hb_parent (c : Who) (sg : Nat → Sig) (m : Nat) : (hb c sg (m + 1)).parent = hname m := by
  show (hqc sg m).hash = _; exact hqc_hash sg m
theorem hb_zero_qc (c : Who) (sg : Nat → Sig) : (hb c sg 0).qc.hash = "" := rfl

theorem lookup_chainOf (c : Who) (sg : Nat → Sig) (j m : Nat) :
    (chainOf c sg j).lookup (hname m) = if m ≤ j then some (hb c sg m) else none := by
  induction j with
  | zero =>
    cases m with
    | zero => simp [chainOf, hname, hb]
    | succ m =>
      have : (hname (m + 1) == genesisHash) = false := by
        simp [hname]; exact pname_ne_genesis _
      simp [chainOf, List.lookup, this]
  | succ j ih =>
    unfold chainOf
    rw [List.lookup_cons]
    by_cases hm : m = j + 1
    · subst hm
      simp [hname]
    · have : (hname m == pname (j + 1)) = false := by
        rw [beq_eq_false_iff_ne]
        intro e
        exact hm (hname_inj (b := j + 1) e)
      rw [this, ih]
      by_cases h1 : m ≤ j
      · simp [h1, Nat.le_succ_of_le h1]
      · have : ¬ m ≤ j + 1 := by omega
        simp [h1, this]

theorem lookup_chainOf_empty (c : Who) (sg : Nat → Sig) (j : Nat) : (chainOf c sg j).lookup "" = none := by
  induction j with
  | zero => simp [chainOf, List.lookup, genesisHash]
  | succ j ih =>
    unfold chainOf
    rw [List.lookup_cons]
    have : (("" : Hash) == pname (j + 1)) = false := by
      rw [beq_eq_false_iff_ne]; exact (pname_ne_empty _).symm
    rw [this, ih]

theorem chainOf_length (c : Who) (sg : Nat → Sig) (j : Nat) : (chainOf c sg j).length = j + 1 := by
  induction j with
  | zero => rfl
  | succ j ih => simp [chainOf, ih]

theorem hqc_congr (sg sg' : Nat → Sig) (m : Nat) (h : ∀ i, i ≤ m → sg i = sg' i) : hqc sg m = hqc sg' m := by
  cases m with
  | zero => rfl
  | succ m => simp [hqc, h (m + 1) (Nat.le_refl _)]

theorem hb_congr (c : Who) (sg sg' : Nat → Sig) (m : Nat) (h : ∀ i, i < m → sg i = sg' i) : hb c sg m = hb c sg' m := by
  cases m with
  | zero => rfl
  | succ m => simp [hb, hqc_congr sg sg' m (fun i hi => h i (by omega))]

theorem chainOf_congr (c : Who) (sg sg' : Nat → Sig) (j : Nat) (h : ∀ i, i < j → sg i = sg' i) :
    chainOf c sg j = chainOf c sg' j := by
  induction j with
  | zero => rfl
  | succ j ih =>
    simp [chainOf, hb_congr c sg sg' (j + 1) h, ih (fun i hi => h i (by omega))]

theorem qcRefL_chain (c : Who) (sg : Nat → Sig) (J m : Nat) (h : m ≤ J) :
    qcRefL (chainOf c sg J) (hqc sg m) = some (hb c sg m) := by
  unfold qcRefL
  rw [hqc_hash]
  have : (hname m == "") = false := by rw [beq_eq_false_iff_ne]; exact hname_ne_empty m
  rw [this, lookup_chainOf]
  simp [h]

theorem lookup_hqc (c : Who) (sg : Nat → Sig) (J m : Nat) (h : m ≤ J) :
    (chainOf c sg J).lookup (hqc sg m).hash = some (hb c sg m) := by
  rw [hqc_hash, lookup_chainOf]; simp [h]

theorem store_happy (cL : Who) (sg : Nat → Sig) (j : Nat) (ch : RChain) (hb' : ch.blocks = chainOf cL sg j) :
    (ch.store (hb cL sg (j + 1))).blocks = chainOf cL sg (j + 1) ∧
    (ch.store (hb cL sg (j + 1))).fetchable = ch.fetchable ∧
    (ch.store (hb cL sg (j + 1))).pruneHeight = ch.pruneHeight := by
  have hl : ch.blocks.lookup (hb cL sg (j + 1)).hash = none := by
    rw [hb', hb_hash, lookup_chainOf]; simp
  unfold RChain.store
  rw [hl]
  refine ⟨?_, rfl, rfl⟩
  show (_ :: ch.blocks) = _
  rw [hb']; rfl

theorem commitRuleL_happy (cL : Who) (sg : Nat → Sig) (r : Rules) (hr : r = .chained ∨ r = .simple) (j : Nat) :
    commitRuleL r (chainOf cL sg (j + 1)) (hb cL sg (j - 2)) (hb cL sg (j + 1)) =
      (hb cL sg (j - 1), if 2 ≤ j then some (hb cL sg (j - 2)) else none) := by
  rcases hr with rfl | rfl
  · -- chained
    unfold commitRuleL
    simp only [hb_qc]
    rw [qcRefL_chain cL sg (j + 1) j (by omega)]
    simp only
    match j with
    | 0 => simp [hb, qcRefL, genesisBlock]
    | 1 =>
      simp only [hb_qc]
      rw [qcRefL_chain cL sg 2 0 (by omega)]
      simp [hb, qcRefL, genesisBlock]
    | k + 2 =>
      simp only [hb_qc]
      rw [qcRefL_chain cL sg (k + 3) (k + 1) (by omega)]
      simp only [hb_qc]
      rw [qcRefL_chain cL sg (k + 3) k (by omega)]
      simp [hb_view, hb_parent, hb_hash]
  · -- simple
    unfold commitRuleL
    simp only [hb_qc]
    rw [lookup_hqc cL sg (j + 1) j (by omega)]
    simp only
    match j with
    | 0 => simp [hb, genesisBlock, lookup_chainOf_empty]
    | 1 =>
      simp only [hb_qc]
      rw [lookup_hqc cL sg 2 0 (by omega)]
      simp [hb, genesisBlock, lookup_chainOf_empty]
    | k + 2 =>
      simp only [hb_qc]
      rw [lookup_hqc cL sg (k + 3) (k + 1) (by omega)]
      simp only [hb_qc]
      rw [lookup_hqc cL sg (k + 3) k (by omega)]
      simp [hb_view]

theorem commitInnerL_happy (cL : Who) (sg : Nat → Sig) (J k fuel : Nat) (hk : k ≤ J) (hfuel : 2 ≤ fuel) :
    commitInnerL fuel (chainOf cL sg J) (hb cL sg (k - 1)) (hb cL sg k) =
      (true, hb cL sg k, if 1 ≤ k then [.commit (hb cL sg k), .exec (hb cL sg k)] else []) := by
  obtain ⟨f, rfl⟩ : ∃ f, fuel = f + 2 := ⟨fuel - 2, by omega⟩
  match k with
  | 0 => simp [commitInnerL, hb_view]
  | i + 1 =>
    have h1 : ¬ (hb cL sg i).view ≥ (hb cL sg (i + 1)).view := by simp [hb_view]
    have h2 : (chainOf cL sg J).lookup (hb cL sg (i + 1)).parent = some (hb cL sg i) := by
      rw [hb_parent, lookup_chainOf]; simp; omega
    have h3 : commitInnerL (f + 1) (chainOf cL sg J) (hb cL sg i) (hb cL sg i) = (true, hb cL sg i, []) := by
      simp [commitInnerL]
    show commitInnerL (f + 1 + 1) (chainOf cL sg J) (hb cL sg i) (hb cL sg (i + 1)) = _
    rw [commitInnerL]
    simp only [h1, h2, h3]
    simp

theorem tcS_happy (c : RCfg) (cL : Who) (sg : Nat → Sig) (hr : c.rules = .chained ∨ c.rules = .simple) (j : Nat) (s : RState)
    (hbl : s.chain.blocks = chainOf cL sg j) (hf : s.chain.fetchable = [])
    (hlock : s.lock = hb cL sg (j - 2)) (hcm : s.committed = hb cL sg (j - 3)) (hph : s.chain.pruneHeight = j - 3) :
    ∃ (ch' : RChain) (evs : List Ev),
      tcS c (hb cL sg (j + 1)) s =
        { s with chain := ch', lock := hb cL sg (j - 1), committed := hb cL sg (j - 2), queue := s.queue ++ evs } ∧
      ch'.blocks = chainOf cL sg (j + 1) ∧ ch'.fetchable = [] ∧ ch'.pruneHeight = j - 2 ∧
      (∀ e ∈ evs, e.passive = true) ∧ evs.length ≤ 3 := by
  obtain ⟨hs1, hs2, hs3⟩ := store_happy cL sg j s.chain hbl
  have hcr := commitRuleL_happy cL sg c.rules hr j
  rw [tcS_eq_tcL c (ne_fast_of hr) _ s hf]
  unfold tcL
  simp only [hs1, hlock, hcr]
  by_cases h2 : 2 ≤ j
  · simp only [h2, if_true]
    have hci := commitInnerL_happy cL sg (j + 1) (j - 2) ((s.chain.store (hb cL sg (j + 1))).fuel + 1) (by omega)
      (by unfold RChain.fuel; omega)
    rw [show j - 2 - 1 = j - 3 by omega] at hci
    rw [hcm, hci]
    simp only [Bool.not_true, Bool.false_eq_true, if_false]
    obtain ⟨p1, p2, p3, p4⟩ := pruneToHeight_facts (s.chain.store (hb cL sg (j + 1))) (hb cL sg (j - 2)) (hb cL sg (j - 2)).view
    refine ⟨_, (if 1 ≤ j - 2 then [Ev.commit (hb cL sg (j - 2)), Ev.exec (hb cL sg (j - 2))] else []) ++
        List.map Ev.abort
          ((s.chain.store (hb cL sg (j + 1))).pruneToHeight (hb cL sg (j - 2)) (hb cL sg (j - 2)).view).2,
      by rw [List.append_assoc], by rw [p1, hs1], by rw [p2, hs2, hf], by rw [p3, hb_view], ?_, ?_⟩
    · intro e he
      simp only [List.mem_append, List.mem_map] at he
      rcases he with he | ⟨b, _, rfl⟩
      · split at he
        · simp at he; rcases he with rfl | rfl <;> rfl
        · simp at he
      · rfl
    · have : ((s.chain.store (hb cL sg (j + 1))).pruneToHeight (hb cL sg (j - 2)) (hb cL sg (j - 2)).view).2.length ≤ 1 := by
        refine Nat.le_trans p4 ?_
        rw [hb_view, hs3, hph]; omega
      simp only [List.length_append, List.length_map]
      split <;> simp <;> omega
  · simp only [h2, if_false]
    have hj : j - 1 = 0 ∧ j - 2 = 0 ∧ j - 3 = 0 := by omega
    refine ⟨s.chain.store (hb cL sg (j + 1)), [], ?_, hs1, by rw [hs2, hf], by rw [hs3, hph]; omega, by simp, by simp⟩
    rw [hcm, hj.1, hj.2.1, hj.2.2]
    simp

/-- what every replica of the happy path looks like after block `j` (`j = 0`: initially): view,
high QC, last vote, lock, committed block, the stored chain `0 … j`, nothing queued or waiting -/
structure Base (cL : Who) (sg : Nat → Sig) (j : Nat) (s : RState) : Prop where
  view : s.view = max j 1
  highQC : s.highQC = hqc sg (j - 1)
  lastVoted : s.lastVoted = j
  lock : s.lock = hb cL sg (j - 2)
  committed : s.committed = hb cL sg (j - 3)
  blocks : s.chain.blocks = chainOf cL sg j
  fetchable : s.chain.fetchable = []
  prune : s.chain.pruneHeight = j - 3
  queue : s.queue = []
  wprop : s.waitingProp = []
  wvc : s.waitingVC = []

/-- the certificate for block `m` is valid against table `T`: genesis, or a verifying quorum signature -/
def QCok (T : Truth) (cfg : Cfg) (sg : Nat → Sig) (m : Nat) : Prop :=
  m = 0 ∨ (verify T cfg (sg m) (blkMsg (pname m)) = true ∧ cfg.quorum ≤ (sg m).len)

theorem QCok.mono {T T' : Truth} {cfg : Cfg} {sg : Nat → Sig} {m : Nat} (h : QCok T cfg sg m) (hT : TruthLe T T') :
    QCok T' cfg sg m := by
  rcases h with h | ⟨h1, h2⟩
  · exact Or.inl h
  · exact Or.inr ⟨verify_mono T T' cfg _ _ hT h1, h2⟩

theorem verifyQC_happy (k : Keys) (c : RCfg) (cL : Who) (sg : Nat → Sig) (s : RState) (J m : Nat) (hm : m ≤ J)
    (hbl : s.chain.blocks = chainOf cL sg J) (hok : QCok (fun b => s.truth.lookup b) c.cfg sg m) :
    verifyQC (env k c s) (hqc sg m) = true := by
  cases m with
  | zero => simp [hqc, verifyQC, genesisQC]
  | succ m =>
    rcases hok with h | ⟨h1, h2⟩
    · omega
    · have hl : s.chain.blocks.lookup (pname (m + 1)) = some (hb cL sg (m + 1)) := by
        rw [hbl]; have := lookup_chainOf cL sg J (m + 1); simp [hname, hm] at this; exact this
      exact verifyQC_of_votes k c s (pname (m + 1)) (hb cL sg (m + 1)) (sg (m + 1)) hl rfl (pname_ne_genesis _) h1 h2

theorem voteRule_happy (c : RCfg) (w : Who) (sg : Nat → Sig) (j view : Nat) (s : RState)
    (hr : c.rules = .chained ∨ c.rules = .simple) (hv : view ≤ j + 1)
    (hbl : s.chain.blocks = chainOf w sg j) (hlock : s.lock = hb w sg (j - 2)) :
    (voteRule c view (hb w sg (j + 1)) none).run s = pure (true, s) := by
  have hl1 : s.chain.blocks.lookup (hb w sg (j + 1)).qc.hash = some (hb w sg j) := by
    rw [hbl]; exact lookup_hqc w sg j j (Nat.le_refl _)
  have h2 : (hb w sg j).qc.hash = "" ∨ ∃ gb, s.chain.blocks.lookup (hb w sg j).qc.hash = some gb := by
    cases j with
    | zero => exact Or.inl rfl
    | succ i => exact Or.inr ⟨hb w sg i, by rw [hbl]; exact lookup_hqc w sg (i + 1) i (by omega)⟩
  have hlkv : s.lock.view = j - 2 := by rw [hlock, hb_view]
  rcases hr with hr | hr
  · by_cases hj : 1 ≤ j
    · exact voteRule_chained_above c hr s _ (hb w sg j) _ hl1 h2 (by rw [hlkv, hb_view]; omega)
    · have hj0 : j = 0 := by omega
      subst hj0
      refine voteRule_chained_extends c hr s _ (hb w sg 0) _ hl1 h2 rfl (by rw [hlkv]; show 0 < 1; omega) ?_
      have hfuel : s.chain.fuel - 1 = s.chain.blocks.length + s.chain.fetchable.length + 0 + 1 := by
        unfold RChain.fuel; omega
      rw [hfuel, hlock]
      simp [extWalk]
  · exact voteRule_simple_ok c hr s _ (hb w sg j) _ (by rw [hb_view]; exact hv) hl1 h2 (by rw [hlkv, hb_view]; omega)

/-- the state of a non-leader after `advanceView` on the certificate of block `j` -/
def nlAdvS (s : RState) (sg : Nat → Sig) (j L : Nat) (lt : Option TimeoutMsg) (g : List GRec) : RState :=
  { s with view := j + 1, highQC := hqc sg j, lastTimeout := lt, ghost := g,
           out := s.out ++ (if 1 ≤ j then [.sendNewView L { qc := some (hqc sg j) }] else []),
           queue := if 1 ≤ j then [.viewChange (j + 1) false] else [] }

theorem nl_advance (k : Keys) (c : RCfg) (cL : Who) (sg : Nat → Sig) (j L : Nat) (s : RState)
    (ha : c.agg = false) (hlead : c.leader (j + 1) = L) (hne : c.id ≠ L)
    (hbase : Base cL sg j s) (hver : verifyQC (env k c s) (hqc sg j) = true) :
    ∃ lt g, (advanceView k c { qc := some (hqc sg j) }).run s = pure ((), nlAdvS s sg j L lt g) := by
  unfold nlAdvS
  have hl : s.chain.blocks.lookup (hqc sg j).hash = some (hb cL sg j) := by
    rw [hbase.blocks]; exact lookup_hqc cL sg j j (Nat.le_refl _)
  cases j with
  | zero =>
    refine ⟨s.lastTimeout, s.ghost, ?_⟩
    rw [advanceView_stay k c s _ _ ha hver hl (by rw [hbase.view, hqc_view]; simp)]
    have h1 : s.view = 1 := by rw [hbase.view]; rfl
    have h2 : s.highQC = hqc sg 0 := hbase.highQC
    have h3 : s.queue = [] := hbase.queue
    simp [updHighQC, hb_view, h1, h2, h3]
  | succ j =>
    refine ⟨none, s.ghost ++ [.adv s.view (hqc sg (j + 1)).view false], ?_⟩
    have hv : s.view = j + 1 := by rw [hbase.view]; omega
    rw [advanceView_move_nl k c s _ _ ha hver hl (by rw [hv, hqc_view]) (by rw [hb_view, hbase.highQC, hqc_view]; omega)
      (by rw [hv, hlead]; exact fun e => hne e.symm), hbase.queue, hv, hlead]
    rfl

/-- up to the point where the replica hands its vote to `aggregateVote` (state `V`): whatever `aggregateVote` makes of `votes`
and `out`, the rest of the step only drains the queue; the replica reports to the proposer from the second proposal on -/
theorem nl_propose_core (k : Keys) (c : RCfg) (cL : Who) (sg : Nat → Sig) (j L : Nat) (s : RState)
    (hs : c.scheme ≠ .bls12) (ha : c.agg = false) (hr : c.rules = .chained ∨ c.rules = .simple)
    (hlead : c.leader (j + 1) = L) (hne : c.id ≠ L)
    (hbase : Base cL sg j s) (hf : FreshS s)
    (hok : QCok (fun b => s.truth.lookup b) c.cfg sg j) :
    ∃ (bytes : Nat) (V : RState),
      (∀ vts, Base cL sg (j + 1) { V with votes := vts, waitingProp := [], queue := [], out := [] }) ∧
      V.votes = s.votes ∧ V.lastProposed = s.lastProposed ∧ V.nextCmd = s.nextCmd ∧
      V.truth.lookup bytes = some ⟨c.id, blkMsg (pname (j + 1))⟩ ∧
      V.out = (if 1 ≤ j then [Out.sendNewView L { qc := some (hqc sg j) }] else []) ++ [Out.sign (blkMsg (pname (j + 1)))] ∧
      ∀ (Vt : List (Hash × List (Nat × Sig))) (O' : List Out),
        (aggregateVote k c (hb cL sg (j + 1)) (.multi c.scheme [⟨c.id, bytes⟩])).run V = pure ((), { V with votes := Vt, out := O' }) →
        (step k c s (.propose L (hb cL sg (j + 1)) none)).1 = { V with votes := Vt, waitingProp := [], queue := [], out := [] } ∧
        ∀ C : SysCfg, route C c.id (step k c s (.propose L (hb cL sg (j + 1)) none)).2 = route C c.id O' := by
  have hver : verifyQC (env k c s) (hqc sg j) = true := verifyQC_happy k c cL sg s j j (Nat.le_refl _) hbase.blocks hok
  obtain ⟨lt, g, hadv⟩ := nl_advance k c cL sg j L { s with out := [], queue := [] } ha hlead hne
    ⟨hbase.view, hbase.highQC, hbase.lastVoted, hbase.lock, hbase.committed, hbase.blocks, hbase.fetchable, hbase.prune, rfl,
      hbase.wprop, hbase.wvc⟩ hver
  let Q : List Ev := if 1 ≤ j then [Ev.viewChange (j + 1) false] else []
  let O : List Out := [] ++ if 1 ≤ j then [Out.sendNewView L { qc := some (hqc sg j) }] else []
  have hQ : ∀ e ∈ Q, e.quiet = true := by intro e he; dsimp only [Q] at he; split at he <;> simp at he; subst he; rfl
  obtain ⟨evs, T, n, bytes, hXq, hpass, hlook, hstep⟩ := step_propose_voted k c L (hb cL sg (j + 1)) s (hqc sg j) lt g Q O
    hs hbase.queue hbase.wprop hadv hQ (Or.inl hbase.wvc)
    (by show s.lastVoted < j + 1; rw [hbase.lastVoted]; omega) hlead.symm rfl (by show (hqc sg j).view < j + 1; rw [hqc_view]; omega)
    hver (fun s' hc hl => voteRule_happy c cL sg j _ s' hr (Nat.le_refl _) (by rw [hc]; exact hbase.blocks) (by rw [hl]; exact hbase.lock))
  -- what the committer does with the block
  obtain ⟨ch', evs', htl, hch1, hch2, hch3, _, hevl⟩ := tcS_happy c cL sg hr j
    { s with highQC := hqc sg j, view := (hb cL sg (j + 1)).view, lastTimeout := lt, ghost := g, queue := Q, out := O } hbase.blocks
    hbase.fetchable hbase.lock hbase.committed hbase.prune
  rw [htl] at hXq hstep
  obtain rfl : evs = evs' := List.append_cancel_left hXq.symm
  have hle : (Q ++ evs).length ≤ 99999 := by rw [List.length_append]; dsimp only [Q]; split <;> simp <;> omega
  let V : RState :=
    { s with highQC := hqc sg j, view := j + 1, lastTimeout := lt, ghost := g ++ [.vote (hb cL sg (j + 1)) L], chain := ch',
             lock := hb cL sg (j - 1), committed := hb cL sg (j - 2), queue := Q ++ evs,
             out := O ++ [.sign (blkMsg (pname (j + 1)))], truth := T, nextBytes := n, lastVoted := j + 1 }
  refine ⟨bytes, V, ?_, rfl, rfl, rfl, hlook hf, ?_, fun Vt O' hA => ?_⟩
  · exact fun vts => ⟨by show j + 1 = max (j + 1) 1; omega, rfl, rfl, rfl, rfl, hch1, hch2,
      by show ch'.pruneHeight = _; rw [hch3]; omega, rfl, rfl, hbase.wvc⟩
  · show ([] ++ _) ++ _ = _
    rw [List.nil_append]
  · rw [hstep Vt O' hA, List.drop_eq_nil_of_le hle, List.take_of_length_le hle]
    exact ⟨rfl, fun C => route_drain C c.id O' _ (quiet_append hQ hpass)⟩

/-- **A non-leader receives the next proposal of the happy path**: from `Base j` to `Base (j+1)` -/
theorem nl_propose_step (k : Keys) (c : RCfg) (cL : Who) (sg : Nat → Sig) (j L L2 : Nat) (s : RState)
    (hs : c.scheme ≠ .bls12) (ha : c.agg = false) (hr : c.rules = .chained ∨ c.rules = .simple)
    (hlead : c.leader (j + 1) = L) (hlead2 : c.leader (j + 2) = L2) (hne : c.id ≠ L) (hne2 : c.id ≠ L2)
    (hbase : Base cL sg j s) (hf : FreshS s)
    (hok : QCok (fun b => s.truth.lookup b) c.cfg sg j) :
    let r := step k c s (.propose L (hb cL sg (j + 1)) none)
    Base cL sg (j + 1) r.1 ∧
    ∃ bytes, r.1.truth.lookup bytes = some ⟨c.id, blkMsg (pname (j + 1))⟩ ∧
      (∀ C : SysCfg, route C c.id r.2 =
        (if 1 ≤ j then [(L, Ev.newview c.id { qc := some (hqc sg j) })] else []) ++
        [(L2, Ev.vote c.id (some (.multi c.scheme [⟨c.id, bytes⟩])) (pname (j + 1)) false)]) ∧
      r.1.votes = s.votes ∧
      r.1.lastProposed = s.lastProposed ∧
      r.1.nextCmd = s.nextCmd := by
  dsimp only
  obtain ⟨bytes, V, hB, hvotes, hlp, hnc, htab, hout, hstep⟩ := nl_propose_core k c cL sg j L s hs ha hr hlead hne hbase hf hok
  obtain ⟨h1, h2⟩ := hstep V.votes (V.out ++ [.sendVote L2 (.multi c.scheme [⟨c.id, bytes⟩]) (pname (j + 1))])
    (aggregateVote_send_to k c _ _ V L2 hlead2 (fun e => hne2 e.symm))
  rw [h1]
  refine ⟨hB _, bytes, htab, fun C => ?_, hvotes, hlp, hnc⟩
  rw [h2 C, route_append, hout]
  by_cases hj : 1 ≤ j
  · simp [hj, route]
  · simp [hj, route]

theorem cleanVotes_keep (s : RState) (h : Hash) (b : Block) (vs : List (Nat × Sig))
    (hl : s.chain.blocks.lookup h = some b) (hv : s.highQC.view < b.view) : cleanVotes s [(h, vs)] = [(h, vs)] := by
  have hlg : s.chain.localGet h = some b := hl
  have hnv : ¬ b.view ≤ s.highQC.view := by omega
  simp [cleanVotes, hlg, hnv]

theorem own_vote_kept (k : Keys) (c : RCfg) (w : Who) (sg : Nat → Sig) (j bytes : Nat) (s : RState)
    (hs : c.scheme ≠ .bls12) (hid : c.cfg.has c.id = true) (hq2 : 2 ≤ c.cfg.quorum) (hl : c.leader (j + 2) = c.id)
    (hbl : s.chain.blocks = chainOf w sg (j + 1)) (hhq : s.highQC = hqc sg j) (hvotes : s.votes = [])
    (htable : s.truth.lookup bytes = some ⟨c.id, blkMsg (pname (j + 1))⟩) :
    (aggregateVote k c (hb w sg (j + 1)) (.multi c.scheme [⟨c.id, bytes⟩])).run s =
      pure ((), { s with votes := [(pname (j + 1), [(c.id, .multi c.scheme [⟨c.id, bytes⟩])])] }) := by
  have hlk : s.chain.blocks.lookup (hb w sg (j + 1)).hash = some (hb w sg (j + 1)) := by
    rw [hbl, hb_hash, lookup_chainOf, if_pos (Nat.le_refl _)]
  have hhv : s.highQC.view < (hb w sg (j + 1)).view := by rw [hhq, hqc_view, hb_view]; omega
  rw [aggregateVote_self k c _ _ _ (by rw [hb_view]; exact hl),
    collectVote_add_run k c s c.id c.id bytes _ (hb w sg (j + 1)) false hlk rfl hhv
      (verify_single _ c.cfg c.id _ _ hs hid htable) (by rw [hvotes]; simp) (by rw [hvotes]; simp; omega)]
  simp only [addVoteS, hvotes, List.lookup, Option.getD, List.filter, List.nil_append]
  rw [cleanVotes_keep s _ _ _ hlk hhv]
  rfl

theorem markWalk_chain (w : Who) (sg : Nat → Sig) (J lp : Nat) : ∀ (m fuel : Nat), m ≤ J → m + 1 ≤ fuel →
    markWalk fuel (chainOf w sg J) lp (hb w sg m) = true := by
  intro m
  induction m with
  | zero =>
    intro fuel _ hf
    cases fuel with
    | zero => omega
    | succ f => simp [markWalk, hb_view]
  | succ m ih =>
    intro fuel hm hf
    cases fuel with
    | zero => omega
    | succ f =>
      unfold markWalk
      by_cases hv : (hb w sg (m + 1)).view > lp
      · rw [if_pos hv, hb_qc, lookup_hqc w sg J m (by omega)]
        exact ih f (by omega) (by omega)
      · rw [if_neg hv]

/-- the proposer's state right after `createAndPropose` for block `j + 1`, before `aggregateVote` -/
structure ProposedCore (c : RCfg) (w : Who) (sg : Nat → Sig) (j : Nat) (m F : RState) (bytes : Nat) (evs : List Ev) : Prop where
  view : F.view = j + 1
  highQC : F.highQC = hqc sg j
  lastVoted : F.lastVoted = j + 1
  lastProposed : F.lastProposed = j + 1
  nextCmd : F.nextCmd = w.cnt (j + 1) + 1
  lock : F.lock = hb w sg (j - 1)
  committed : F.committed = hb w sg (j - 2)
  blocks : F.chain.blocks = chainOf w sg (j + 1)
  fetchable : F.chain.fetchable = []
  prune : F.chain.pruneHeight = j - 2
  votes : F.votes = m.votes
  table : F.truth.lookup bytes = some ⟨c.id, blkMsg (pname (j + 1))⟩
  queue : F.queue = m.queue ++ evs
  passive : ∀ e ∈ evs, e.passive = true
  short : evs.length ≤ 3
  out : F.out = m.out ++ [.sign (blkMsg (pname (j + 1))), .sendPropose (hb w sg (j + 1)) none]
  wprop : F.waitingProp = m.waitingProp
  wvc : F.waitingVC = m.waitingVC
  fresh : FreshS F
  ext : Ext m F

/-- up to the point where the proposer hands its own vote to `aggregateVote`; any `lastProposed`: the walk that marks ancestors
as proposed runs down the stored chain -/
theorem propose_core (k : Keys) (c : RCfg) (w : Who) (sg : Nat → Sig) (j : Nat) (m : RState) (tc : Option TC)
    (hw : w.cfg (j + 1) = c)
    (hs : c.scheme ≠ .bls12) (hr : c.rules = .chained ∨ c.rules = .simple)
    (hlead : c.id = c.leader (j + 1))
    (hview : m.view = j + 1) (hhq : m.highQC = hqc sg j) (hlv : m.lastVoted ≤ j)
    (hnc : m.nextCmd = w.cnt (j + 1))
    (hlock : m.lock = hb w sg (j - 2)) (hcm : m.committed = hb w sg (j - 3))
    (hbl : m.chain.blocks = chainOf w sg j) (hfe : m.chain.fetchable = []) (hph : m.chain.pruneHeight = j - 3)
    (hf : FreshS m)
    (hok : QCok (fun b => m.truth.lookup b) c.cfg sg j) :
    ∃ bytes evs F, (createAndPropose k c { qc := some (hqc sg j), tc := tc }).run m =
        (aggregateVote k c (hb w sg (j + 1)) (.multi c.scheme [⟨c.id, bytes⟩])).run F ∧
      ProposedCore c w sg j m F bytes evs := by
  have hbeq : newBlock c m (hqc sg j) = hb w sg (j + 1) := by
    unfold newBlock; rw [hview, hnc, ← hw]; rfl
  have hlk : m.chain.blocks.lookup (hqc sg j).hash = some (hb w sg j) := by
    rw [hbl]; exact lookup_hqc w sg j j (Nat.le_refl _)
  have hver : verifyQC (env k c m) (hqc sg j) = true := verifyQC_happy k c w sg m j j (Nat.le_refl _) hbl hok
  have hmark : (markProposed (m.chain.fuel + 1) (hb w sg j)).run m = pure (true, m) :=
    markProposed_walk _ _ m (by
      rw [hbl]
      exact markWalk_chain w sg j m.lastProposed j _ (Nat.le_refl _) (by unfold RChain.fuel; rw [hbl, chainOf_length]; omega))
  have hrule : ∀ s' : RState, s'.chain = m.chain → s'.lock = m.lock →
      (voteRule c m.view (newBlock c m (hqc sg j)) none).run s' = pure (true, s') := by
    intro s' hc hl
    rw [hbeq]
    exact voteRule_happy c w sg j _ s' hr (Nat.le_of_eq hview) (by rw [hc]; exact hbl) (by rw [hl]; exact hlock)
  have hrun := createAndPropose_run k c m (hqc sg j) (hb w sg j) tc hs (ne_fast_of hr)
    (by rw [hhq]; exact hlk) hmark (by rw [hview]; omega) hrule hver (by rw [hqc_view, hview]; omega)
    (by rw [hview]; exact hlead)
  obtain ⟨hfr6, hext6, hout6, _, _⟩ := proposedS_facts c m (hqc sg j) hs hf
  unfold proposedS at hrun hfr6 hext6 hout6
  rw [hbeq] at hrun hfr6 hext6 hout6
  obtain ⟨_, hl3, _, _⟩ := voteS_facts c (hb w sg (j + 1)) c.id (propS m) hf
  obtain ⟨T, n, hv3⟩ := voteS_eq c (hb w sg (j + 1)) c.id (propS m)
  obtain ⟨ch', evs, htl, hch1, hch2, hch3, hevp, hevl⟩ := tcS_happy c w sg hr j (voteS c (hb w sg (j + 1)) c.id (propS m))
    (by rw [hv3]; exact hbl) (by rw [hv3]; exact hfe) (by rw [hv3]; exact hlock) (by rw [hv3]; exact hcm) (by rw [hv3]; exact hph)
  rw [htl, hv3] at hrun hfr6 hext6 hout6
  rw [hv3] at hl3
  exact ⟨_, evs, _, hrun, hview, hhq, rfl, hview, congrArg (· + 1) hnc, rfl, rfl, hch1, hch2, hch3, rfl, hl3, rfl, hevp, hevl,
    hout6, rfl, rfl, hfr6, hext6⟩

/-- what the leader's state looks like right after `createAndPropose` for block `j + 1` -/
structure Proposed (c : RCfg) (w : Who) (sg : Nat → Sig) (j : Nat) (m F : RState) (bytes : Nat) (evs : List Ev) : Prop where
  view : F.view = j + 1
  highQC : F.highQC = hqc sg j
  lastVoted : F.lastVoted = j + 1
  lastProposed : F.lastProposed = j + 1
  nextCmd : F.nextCmd = w.cnt (j + 1) + 1
  lock : F.lock = hb w sg (j - 1)
  committed : F.committed = hb w sg (j - 2)
  blocks : F.chain.blocks = chainOf w sg (j + 1)
  fetchable : F.chain.fetchable = []
  prune : F.chain.pruneHeight = j - 2
  votes : F.votes = [(pname (j + 1), [(c.id, .multi c.scheme [⟨c.id, bytes⟩])])]
  table : F.truth.lookup bytes = some ⟨c.id, blkMsg (pname (j + 1))⟩
  queue : F.queue = m.queue ++ evs
  passive : ∀ e ∈ evs, e.passive = true
  short : evs.length ≤ 3
  out : F.out = m.out ++ [.sign (blkMsg (pname (j + 1))), .sendPropose (hb w sg (j + 1)) none]
  wprop : F.waitingProp = m.waitingProp
  wvc : F.waitingVC = m.waitingVC
  fresh : FreshS F
  ext : Ext m F

theorem base_of_proposed (w : Who) (sg : Nat → Sig) (j : Nat) (F : RState)
    (view : F.view = j + 1) (highQC : F.highQC = hqc sg j) (lastVoted : F.lastVoted = j + 1)
    (lock : F.lock = hb w sg (j - 1)) (committed : F.committed = hb w sg (j - 2))
    (blocks : F.chain.blocks = chainOf w sg (j + 1)) (fetchable : F.chain.fetchable = [])
    (prune : F.chain.pruneHeight = j - 2) (wprop : F.waitingProp = []) (wvc : F.waitingVC = []) :
    Base w sg (j + 1) { F with queue := [], out := [] } :=
  ⟨by show F.view = _; rw [view]; omega, highQC, lastVoted, lock, committed, blocks, fetchable, prune, rfl, wprop, wvc⟩

/-- the leader after proposing block `j ≥ 1`, holding the votes `vs` for it -/
structure LD (w : Who) (sg : Nat → Sig) (j : Nat) (vs : List (Nat × Sig)) (s : RState) : Prop where
  base : Base w sg j s
  lastProposed : s.lastProposed = j
  nextCmd : s.nextCmd = w.cnt j + 1
  votes : s.votes = [(pname j, vs)]

structure VotesOK (T : Truth) (cfg : Cfg) (j : Nat) (vs : List (Nat × Sig)) : Prop where
  valid : ∀ v ∈ vs, cfg.has v.1 = true ∧ HonestSig T cfg v.1 (blkMsg (pname j)) v.2
  nodup : (vs.map (·.1)).Nodup

theorem VotesOK.add {T : Truth} {cfg : Cfg} {j : Nat} {vs : List (Nat × Sig)} (h : VotesOK T cfg j vs) (i : Nat) (sg : Sig)
    (hv : cfg.has i = true ∧ HonestSig T cfg i (blkMsg (pname j)) sg) (hnew : ∀ v ∈ vs, v.1 ≠ i) :
    VotesOK T cfg j (vs ++ [(i, sg)]) := by
  refine ⟨?_, ?_⟩
  · intro v hv'
    simp only [List.mem_append, List.mem_singleton] at hv'
    rcases hv' with hv' | rfl
    · exact h.valid v hv'
    · exact hv
  · exact nodup_snoc_map h.nodup hnew

theorem start_run_eq (k : Keys) (c : RCfg) (s : RState) :
    start k c s =
      ({ ((do let s ← get
              if s.view == 1 && c.leader 1 == c.id then
                createAndPropose k c { qc := some s.highQC, tc := some s.highTC }
              runLoop k c 100000 : M Unit).run { s with out := [] }).2 with out := [] },
       ((do let s ← get
            if s.view == 1 && c.leader 1 == c.id then
              createAndPropose k c { qc := some s.highQC, tc := some s.highTC }
            runLoop k c 100000 : M Unit).run { s with out := [] }).2.out) := rfl

theorem start_nonleader (k : Keys) (c : RCfg) (s : RState) (hq : s.queue = []) (hl : c.leader 1 ≠ c.id) :
    start k c s = ({ s with out := [] }, []) := by
  rw [start_run_eq]
  have hidle := runLoop_idle k c 99999 (s := { s with out := [] }) hq
  have : (do let s ← get
             if s.view == 1 && c.leader 1 == c.id then
               createAndPropose k c { qc := some s.highQC, tc := some s.highTC }
             runLoop k c 100000 : M Unit).run { s with out := [] } = pure ((), { s with out := [] }) := by
    simp [hl]
    exact hidle
  rw [this]
  rfl

theorem start_leader_run (k : Keys) (c : RCfg) (s F : RState) (hv : s.view = 1) (hl : c.leader 1 = c.id)
    (h : (createAndPropose k c { qc := some s.highQC, tc := some s.highTC }).run { s with out := [] } = pure ((), F)) :
    start k c s = ({ ((runLoop k c 100000).run F).2 with out := [] }, ((runLoop k c 100000).run F).2.out) := by
  rw [start_run_eq]
  have : (do let s ← get
             if s.view == 1 && c.leader 1 == c.id then
               createAndPropose k c { qc := some s.highQC, tc := some s.highTC }
             runLoop k c 100000 : M Unit).run { s with out := [] } = (runLoop k c 100000).run F := by
    have hc : (s.view == 1 && c.leader 1 == c.id) = true := by simp [hv, hl]
    simp only [StateT.run_bind, StateT.run_get, pure_bind]
    rw [show (({ s with out := [] } : RState).view == 1 && c.leader 1 == c.id) = true from hc]
    simp [h]
  rw [this]

/-- **`Start` at the leader of view 1**, up to its own vote for block 1 (state `F0`); whatever `aggregateVote`
makes of the vote (`F`), the rest only drains the queue -/
theorem start_core (k : Keys) (c : RCfg) (w : Who) (sg : Nat → Sig) (s : RState) (hw : w.cfg 1 = c)
    (hs : c.scheme ≠ .bls12) (hr : c.rules = .chained ∨ c.rules = .simple) (hlead : c.leader 1 = c.id)
    (hbase : Base w sg 0 s) (hnc : s.nextCmd = w.cnt 1) (hf : FreshS s) :
    ∃ (bytes : Nat) (evs : List Ev) (F0 : RState),
      ProposedCore c w sg 0 { s with out := [] } F0 bytes evs ∧
      ∀ F : RState, (aggregateVote k c (hb w sg 1) (.multi c.scheme [⟨c.id, bytes⟩])).run F0 = pure ((), F) →
        F.queue = F0.queue → F.waitingVC = F0.waitingVC →
        (start k c s).1 = { F with queue := [], out := [] } ∧ ∀ C : SysCfg, route C c.id (start k c s).2 = route C c.id F.out := by
  obtain ⟨bytes, evs, F0, hrun, hP⟩ := propose_core k c w sg 0 { s with out := [] } (some s.highTC) hw hs hr hlead.symm
    (by show s.view = 1; rw [hbase.view]; rfl) hbase.highQC (by show s.lastVoted ≤ 0; rw [hbase.lastVoted]; exact Nat.le_refl _)
    hnc hbase.lock hbase.committed hbase.blocks hbase.fetchable hbase.prune hf (Or.inl rfl)
  refine ⟨bytes, evs, F0, hP, ?_⟩
  intro F hF hFq hFw
  have hhq : s.highQC = hqc sg 0 := hbase.highQC
  rw [← hhq] at hrun
  have hst := start_leader_run k c s F (by rw [hbase.view]; rfl) hlead (hrun.trans hF)
  have hFq' : F.queue = evs := by rw [hFq, hP.queue]; show s.queue ++ evs = evs; rw [hbase.queue]; rfl
  have hquiet : ∀ e ∈ F.queue, e.quiet = true := by rw [hFq']; exact fun e he => quiet_of_passive e (hP.passive e he)
  rw [hst, runLoop_drain k c 100000 F hquiet (by rw [hFw, hP.wvc]; exact hbase.wvc) (by rw [hFq']; have := hP.short; omega)]
  exact ⟨rfl, fun C => route_drain C c.id F.out _ hquiet⟩

/-- **`Start` at the leader**: it proposes block 1 and keeps its own vote for it -/
theorem leader_start (k : Keys) (c : RCfg) (w : Who) (sg : Nat → Sig) (s : RState) (hw : w.cfg 1 = c)
    (hs : c.scheme ≠ .bls12) (hr : c.rules = .chained ∨ c.rules = .simple)
    (hid : c.cfg.has c.id = true) (hlead : ∀ v, c.leader v = c.id) (hq2 : 2 ≤ c.cfg.quorum)
    (hbase : Base w sg 0 s) (hnc : s.nextCmd = w.cnt 1) (hvotes : s.votes = []) (hf : FreshS s) :
    ∃ bytes, LD w sg 1 [(c.id, .multi c.scheme [⟨c.id, bytes⟩])] (start k c s).1 ∧
      (start k c s).1.truth.lookup bytes = some ⟨c.id, blkMsg (pname 1)⟩ ∧
      ∀ C : SysCfg, route C c.id (start k c s).2 =
        (C.honest.filter (· != c.id)).map (fun i => (i, Ev.propose c.id (hb w sg 1) none)) := by
  obtain ⟨bytes, evs, F0, hP, hstart⟩ := start_core k c w sg s hw hs hr (hlead 1) hbase hnc hf
  let F : RState := { F0 with votes := [(pname 1, [(c.id, .multi c.scheme [⟨c.id, bytes⟩])])] }
  obtain ⟨h1, h2⟩ := hstart F
    (own_vote_kept k c w sg 0 bytes F0 hs hid hq2 (hlead _) hP.blocks hP.highQC (hP.votes.trans hvotes) hP.table) rfl rfl
  rw [h1]
  refine ⟨bytes, ⟨base_of_proposed w sg _ F hP.view hP.highQC hP.lastVoted hP.lock hP.committed hP.blocks hP.fetchable hP.prune
    (hP.wprop.trans hbase.wprop) (hP.wvc.trans hbase.wvc), hP.lastProposed, hP.nextCmd, rfl⟩, hP.table, fun C => ?_⟩
  rw [h2 C]
  show route C c.id F0.out = _
  rw [hP.out]
  simp [route]

theorem Base.newview_noop (k : Keys) (c : RCfg) (cL : Who) (sg : Nat → Sig) (J m i : Nat) (s : RState) (ha : c.agg = false)
    (hbase : Base cL sg J s) (hm : m ≤ J - 1)
    (hok : QCok (fun b => s.truth.lookup b) c.cfg sg m) :
    step k c s (.newview i { qc := some (hqc sg m) }) = ({ s with out := [] }, []) :=
  newview_old_noop k c s i (hqc sg m) (hb cL sg m) ha hbase.queue
    (verifyQC_happy k c cL sg s J m (by omega) hbase.blocks hok) (by rw [hbase.blocks]; exact lookup_hqc cL sg J m (by omega))
    (by rw [hqc_view, hbase.view]; omega) (by rw [hb_view, hbase.highQC, hqc_view]; exact hm)

theorem Base.late_vote_noop (k : Keys) (c : RCfg) (cL : Who) (sg : Nat → Sig) (J m i id bytes : Nat) (s : RState)
    (hbase : Base cL sg J s) (hm : m ≤ J - 1) :
    step k c s (.vote id (some (.multi c.scheme [⟨i, bytes⟩])) (hname m) false) = ({ s with out := [] }, []) :=
  vote_late_noop k c s id i bytes (hname m) (hb cL sg m) hbase.queue
    (by rw [hbase.blocks, lookup_chainOf, if_pos (by omega)]) (by rw [hb_view, hbase.highQC, hqc_view]; exact hm)

/-- a replica at block `j` that collects the votes `vs` for it -/
structure Coll (w : Who) (sg : Nat → Sig) (j : Nat) (vs : List (Nat × Sig)) (s : RState) : Prop where
  base : Base w sg j s
  votes : s.votes = [(pname j, vs)]

theorem Coll.facts {w : Who} {sg : Nat → Sig} {j : Nat} {vs : List (Nat × Sig)} {s : RState} (h : Coll w sg (j + 1) vs s) :
    s.chain.blocks.lookup (pname (j + 1)) = some (hb w sg (j + 1)) ∧
    (s.votes.lookup (pname (j + 1))).getD [] = vs ∧
    s.votes.filter (fun p => p.1 != pname (j + 1)) = [] ∧
    s.highQC.view < (hb w sg (j + 1)).view := by
  refine ⟨?_, ?_, ?_, ?_⟩
  · show s.chain.blocks.lookup (hname (j + 1)) = _
    rw [h.base.blocks, lookup_chainOf, if_pos (Nat.le_refl _)]
  · rw [h.votes]; simp [List.lookup]
  · rw [h.votes]; simp
  · rw [h.base.highQC, hqc_view, hb_view]; omega

theorem collector_vote_add (k : Keys) (c : RCfg) (w : Who) (sg : Nat → Sig) (j i id bytes : Nat) (vs : List (Nat × Sig)) (s : RState)
    (hs : c.scheme ≠ .bls12)
    (hld : Coll w sg (j + 1) vs s) (hi : c.cfg.has i = true)
    (hbytes : s.truth.lookup bytes = some ⟨i, blkMsg (pname (j + 1))⟩)
    (hnew : ∀ v ∈ vs, v.1 ≠ i) (hlen : vs.length + 1 < c.cfg.quorum) :
    let r := step k c s (.vote id (some (.multi c.scheme [⟨i, bytes⟩])) (pname (j + 1)) false)
    r.2 = [] ∧
    Coll w sg (j + 1) (vs ++ [(i, .multi c.scheme [⟨i, bytes⟩])])
      r.1 ∧
    r.1.truth = s.truth ∧
    r.1.nextBytes = s.nextBytes ∧
    r.1.lastProposed = s.lastProposed ∧
    r.1.nextCmd = s.nextCmd := by
  let sA : RState := { s with out := [], queue := [] }
  have hbase := hld.base
  obtain ⟨hl, hvl, hfil, hhi⟩ := hld.facts
  have hcv := collectVote_add_run k c sA id i bytes (pname (j + 1)) (hb w sg (j + 1)) false hl rfl hhi
    (verify_single _ c.cfg i bytes _ hs hi hbytes) (by rw [hvl]; exact hnew) (by rw [hvl]; exact hlen)
  have hstep : step k c s (.vote id (some (.multi c.scheme [⟨i, bytes⟩])) (pname (j + 1)) false) =
      ({ addVoteS sA (pname (j + 1)) i (.multi c.scheme [⟨i, bytes⟩]) with out := [] }, []) :=
    step_tick_idle k c s _ _ hbase.queue (tick_vote k c rfl hcv) rfl
  rw [hstep]
  refine ⟨rfl, ⟨⟨hbase.view, hbase.highQC, hbase.lastVoted, hbase.lock, hbase.committed, hbase.blocks, hbase.fetchable,
    hbase.prune, rfl, hbase.wprop, hbase.wvc⟩, ?_⟩, rfl, rfl, rfl, rfl⟩
  show cleanVotes sA _ = _
  rw [hvl, hfil]
  exact cleanVotes_keep sA _ _ _ hl hhi

theorem leader_vote_add (k : Keys) (c : RCfg) (w : Who) (sg : Nat → Sig) (j i id bytes : Nat) (vs : List (Nat × Sig)) (s : RState)
    (hs : c.scheme ≠ .bls12)
    (hld : LD w sg (j + 1) vs s) (hi : c.cfg.has i = true)
    (hbytes : s.truth.lookup bytes = some ⟨i, blkMsg (pname (j + 1))⟩)
    (hnew : ∀ v ∈ vs, v.1 ≠ i) (hlen : vs.length + 1 < c.cfg.quorum) :
    (step k c s (.vote id (some (.multi c.scheme [⟨i, bytes⟩])) (pname (j + 1)) false)).2 = [] ∧
    LD w sg (j + 1) (vs ++ [(i, .multi c.scheme [⟨i, bytes⟩])])
      (step k c s (.vote id (some (.multi c.scheme [⟨i, bytes⟩])) (pname (j + 1)) false)).1 ∧
    (step k c s (.vote id (some (.multi c.scheme [⟨i, bytes⟩])) (pname (j + 1)) false)).1.truth = s.truth ∧
    (step k c s (.vote id (some (.multi c.scheme [⟨i, bytes⟩])) (pname (j + 1)) false)).1.nextBytes = s.nextBytes := by
  obtain ⟨h1, h2, h3, h4, h5, h6⟩ := collector_vote_add k c w sg j i id bytes vs s hs ⟨hld.base, hld.votes⟩ hi hbytes hnew hlen
  exact ⟨h1, ⟨h2.base, h5.trans hld.lastProposed, h6.trans hld.nextCmd, h2.votes⟩, h3, h4⟩

theorem base_congr (w : Who) (sg sg' : Nat → Sig) (j : Nat) (s : RState) (h : ∀ i, i < j → sg i = sg' i)
    (hb' : Base w sg j s) : Base w sg' j s := by
  have h1 : hqc sg (j - 1) = hqc sg' (j - 1) := by
    cases j with
    | zero => rfl
    | succ j => exact hqc_congr sg sg' j (fun i hi => h i (by omega))
  have h2 : hb w sg (j - 2) = hb w sg' (j - 2) := hb_congr w sg sg' _ (fun i hi => h i (by omega))
  have h3 : hb w sg (j - 3) = hb w sg' (j - 3) := hb_congr w sg sg' _ (fun i hi => h i (by omega))
  have h4 : chainOf w sg j = chainOf w sg' j := chainOf_congr w sg sg' j h
  exact ⟨hb'.view, h1 ▸ hb'.highQC, hb'.lastVoted, h2 ▸ hb'.lock, h3 ▸ hb'.committed, h4 ▸ hb'.blocks, hb'.fetchable,
    hb'.prune, hb'.queue, hb'.wprop, hb'.wvc⟩

/-- up to the leader's own vote for the block it proposes: `sgq` becomes `sg' (j + 1)`, `m` is the state in which it enters
view `j + 2`, `F0` the one after proposing; whatever `aggregateVote` then makes of its vote (`F`), the rest of the step only
drains the queue -/
theorem vote_quorum_core (k : Keys) (c : RCfg) (w : Who) (sg : Nat → Sig) (j i id bytes : Nat) (vs : List (Nat × Sig)) (s : RState)
    (hw : w.cfg (j + 2) = c) (hnc : s.nextCmd = w.cnt (j + 2))
    (hs : c.scheme ≠ .bls12) (ha : c.agg = false) (hr : c.rules = .chained ∨ c.rules = .simple)
    (hq2 : 2 ≤ c.cfg.quorum) (hlead : c.leader (j + 2) = c.id)
    (hld : Coll w sg (j + 1) vs s) (hvok : VotesOK (fun b => s.truth.lookup b) c.cfg (j + 1) vs)
    (hi : c.cfg.has i = true) (hbytes : s.truth.lookup bytes = some ⟨i, blkMsg (pname (j + 1))⟩)
    (hnew : ∀ v ∈ vs, v.1 ≠ i) (hlen : c.cfg.quorum ≤ vs.length + 1) (hf : FreshS s) :
    ∃ (sgq : Sig) (bytes' : Nat) (evs : List Ev) (m F0 : RState),
      QCok (fun b => s.truth.lookup b) c.cfg (fun x => if x = j + 1 then sgq else sg x) (j + 1) ∧
      ProposedCore c w (fun x => if x = j + 1 then sgq else sg x) (j + 1) m F0 bytes' evs ∧
      m.votes = [] ∧ m.out = [] ∧ m.waitingProp = [] ∧ m.waitingVC = [] ∧
      ∀ F : RState,
        (aggregateVote k c (hb w (fun x => if x = j + 1 then sgq else sg x) (j + 2)) (.multi c.scheme [⟨c.id, bytes'⟩])).run F0 =
          pure ((), F) →
        F.queue = F0.queue → F.waitingVC = F0.waitingVC →
        (step k c s (.vote id (some (.multi c.scheme [⟨i, bytes⟩])) (pname (j + 1)) false)).1 = { F with queue := [], out := [] } ∧
        ∀ C : SysCfg, route C c.id (step k c s (.vote id (some (.multi c.scheme [⟨i, bytes⟩])) (pname (j + 1)) false)).2 =
          route C c.id F.out := by
  have hbase := hld.base
  obtain ⟨hblk, hvl, hfil, hhi⟩ := hld.facts
  have hsv : s.view = j + 1 := by rw [hbase.view]; omega
  obtain ⟨sgq, hverq, hlenq, hstep⟩ := step_vote_quorum k c s id i bytes (pname (j + 1)) (hb w sg (j + 1)) hs ha hbase.queue hblk
    (hb_hash w sg (j + 1)) (pname_ne_genesis _) (by rw [hb_view, hsv]) hhi (by rw [hsv]; exact hlead) hi hbytes
    (by rw [hvl]; exact hvok.valid) (by rw [hvl]; exact hvok.nodup) (by rw [hvl]; exact hnew) (by rw [hvl]; exact hlen)
    (by rw [hvl]; omega)
  let sg' : Nat → Sig := fun m => if m = j + 1 then sgq else sg m
  have hsg' : ∀ m, m < j + 1 → sg m = sg' m := by
    intro m hm; show sg m = if m = j + 1 then sgq else sg m; rw [if_neg (by omega)]
  have hsg1 : sg' (j + 1) = sgq := if_pos rfl
  have hqceq : (⟨some sgq, (hb w sg (j + 1)).view, pname (j + 1)⟩ : QC) = hqc sg' (j + 1) := by
    show _ = (⟨some (sg' (j + 1)), j + 1, pname (j + 1)⟩ : QC)
    rw [hb_view, hsg1]
  rw [hqceq] at hstep
  have hqcok : QCok (fun b => s.truth.lookup b) c.cfg sg' (j + 1) :=
    Or.inr ⟨by rw [hsg1]; exact hverq, by rw [hsg1]; exact hlenq⟩
  have hbase' : Base w sg' (j + 1) s := base_congr w sg sg' (j + 1) s hsg' hbase
  -- the state in which it enters view `j + 2` on the certificate
  let m : RState :=
    { s with highQC := hqc sg' (j + 1), view := s.view + 1, lastTimeout := none,
             ghost := s.ghost ++ [.adv s.view (hb w sg (j + 1)).view false],
             votes := cleanVotes s (s.votes.filter (fun p => p.1 != pname (j + 1))),
             queue := [.viewChange (s.view + 1) false], out := [] }
  obtain ⟨bytes', evs, F0, hrun, hP⟩ := propose_core k c w sg' (j + 1) m none hw hs hr hlead.symm
    (by show s.view + 1 = _; rw [hsv]) rfl (by show s.lastVoted ≤ _; rw [hbase.lastVoted]; exact Nat.le_refl _)
    hnc hbase'.lock hbase'.committed hbase'.blocks hbase'.fetchable hbase'.prune hf hqcok
  refine ⟨sgq, bytes', evs, m, F0, hqcok, hP, by show cleanVotes s _ = []; rw [hfil]; rfl, rfl, hbase.wprop, hbase.wvc, ?_⟩
  intro F hF hFq hFw
  have hFq' : F.queue = [Ev.viewChange (j + 2) false] ++ evs := by
    rw [hFq, hP.queue]; show [Ev.viewChange (s.view + 1) false] ++ evs = _
    rw [hsv]
  have hquiet : ∀ e ∈ F.queue, e.quiet = true := by
    rw [hFq']
    exact quiet_append (by intro e he; rw [List.mem_singleton.mp he]; rfl) hP.passive
  rw [hstep F (hrun.trans hF), runLoop_drain k c 99998 F hquiet (by rw [hFw, hP.wvc]; exact hbase.wvc)
      (by rw [hFq']; simp only [List.length_append, List.length_singleton]; have := hP.short; omega)]
  exact ⟨rfl, fun C => route_drain C c.id F.out _ hquiet⟩

/-- **the vote that completes the quorum** at a fixed leader: the combined signature becomes `sg' (j + 1)` -/
theorem leader_vote_quorum (k : Keys) (c : RCfg) (w : Who) (sg : Nat → Sig) (j i id bytes : Nat) (vs : List (Nat × Sig)) (s : RState)
    (hw : w.cfg (j + 2) = c) (hcnt : w.cnt (j + 2) = w.cnt (j + 1) + 1)
    (hs : c.scheme ≠ .bls12) (ha : c.agg = false) (hr : c.rules = .chained ∨ c.rules = .simple)
    (hid : c.cfg.has c.id = true) (hlead : ∀ v, c.leader v = c.id) (hq2 : 2 ≤ c.cfg.quorum)
    (hld : LD w sg (j + 1) vs s) (hvok : VotesOK (fun b => s.truth.lookup b) c.cfg (j + 1) vs)
    (hi : c.cfg.has i = true) (hbytes : s.truth.lookup bytes = some ⟨i, blkMsg (pname (j + 1))⟩)
    (hnew : ∀ v ∈ vs, v.1 ≠ i) (hlen : c.cfg.quorum ≤ vs.length + 1) (hf : FreshS s) :
    let r := step k c s (.vote id (some (.multi c.scheme [⟨i, bytes⟩])) (pname (j + 1)) false)
    ∃ (sgq : Sig) (bytes' : Nat),
      LD w (fun m => if m = j + 1 then sgq else sg m) (j + 2) [(c.id, .multi c.scheme [⟨c.id, bytes'⟩])]
        r.1 ∧
      QCok (fun b => r.1.truth.lookup b)
        c.cfg (fun m => if m = j + 1 then sgq else sg m) (j + 1) ∧
      r.1.truth.lookup bytes' =
        some ⟨c.id, blkMsg (pname (j + 2))⟩ ∧
      ∀ C : SysCfg, route C c.id r.2 =
        (C.honest.filter (· != c.id)).map
          (fun x => (x, Ev.propose c.id (hb w (fun m => if m = j + 1 then sgq else sg m) (j + 2)) none)) := by
  have hex := step_ext k c s (.vote id (some (.multi c.scheme [⟨i, bytes⟩])) (pname (j + 1)) false) hf.2
  obtain ⟨sgq, bytes', evs, m, F0, hqcok, hP, hmv, hmo, hmwp, hmwv, hstep⟩ :=
    vote_quorum_core k c w sg j i id bytes vs s hw (by rw [hld.nextCmd]; exact hcnt.symm) hs ha hr hq2 (hlead _)
      ⟨hld.base, hld.votes⟩ hvok hi hbytes hnew hlen hf
  refine ⟨sgq, bytes', ?_⟩
  let sg' : Nat → Sig := fun m => if m = j + 1 then sgq else sg m
  let F : RState := { F0 with votes := [(pname (j + 2), [(c.id, .multi c.scheme [⟨c.id, bytes'⟩])])] }
  obtain ⟨h1, h2⟩ := hstep F
    (own_vote_kept k c w sg' (j + 1) bytes' F0 hs hid hq2 (hlead _) hP.blocks hP.highQC (hP.votes.trans hmv) hP.table) rfl rfl
  rw [h1] at hex ⊢
  refine ⟨⟨base_of_proposed w sg' _ F hP.view hP.highQC hP.lastVoted hP.lock hP.committed hP.blocks hP.fetchable hP.prune
    (hP.wprop.trans hmwp) (hP.wvc.trans hmwv), hP.lastProposed, hP.nextCmd, rfl⟩, QCok.mono hqcok hex.truth, hP.table, ?_⟩
  intro C
  rw [h2 C]
  show route C c.id F0.out = _
  rw [hP.out, hmo]
  simp [route]

theorem base_with_table (c : Who) (sg : Nat → Sig) (j : Nat) (s : RState) (T : List (Nat × Atom)) (nb : Nat)
    (h : Base c sg j s) : Base c sg j { s with truth := T, nextBytes := nb } :=
  ⟨h.view, h.highQC, h.lastVoted, h.lock, h.committed, h.blocks, h.fetchable, h.prune, h.queue, h.wprop, h.wvc⟩

theorem base_of_with_table (c : Who) (sg : Nat → Sig) (j : Nat) (s : RState) (T : List (Nat × Atom)) (nb : Nat)
    (h : Base c sg j { s with truth := T, nextBytes := nb }) : Base c sg j s :=
  ⟨h.view, h.highQC, h.lastVoted, h.lock, h.committed, h.blocks, h.fetchable, h.prune, h.queue, h.wprop, h.wvc⟩

theorem ld_with_table (c : Who) (sg : Nat → Sig) (j : Nat) (vs : List (Nat × Sig)) (s : RState) (T : List (Nat × Atom)) (nb : Nat)
    (h : LD c sg j vs s) : LD c sg j vs { s with truth := T, nextBytes := nb } :=
  ⟨base_with_table c sg j s T nb h.base, h.lastProposed, h.nextCmd, h.votes⟩

theorem base_noop (c : Who) (sg : Nat → Sig) (j : Nat) (s : RState) (T : List (Nat × Atom)) (nb : Nat)
    (h : Base c sg j s) : Base c sg j { ({ s with truth := T, nextBytes := nb } : RState) with out := [] } :=
  ⟨h.view, h.highQC, h.lastVoted, h.lock, h.committed, h.blocks, h.fetchable, h.prune, h.queue, h.wprop, h.wvc⟩

theorem base_values {c : Who} {sg : Nat → Sig} {j : Nat} {s : RState} (h : Base c sg j s) :
    s.view = max j 1 ∧ s.highQC.view = j - 1 ∧ s.lock.view = j - 2 ∧ s.committed.view = j - 3 ∧ s.lastVoted = j ∧
    s.queue = [] :=
  ⟨h.view, by rw [h.highQC, hqc_view], by rw [h.lock, hb_view], by rw [h.committed, hb_view], h.lastVoted, h.queue⟩

theorem qcok_agree (T : Truth) (cfg : Cfg) (sg sg' : Nat → Sig) (m : Nat) (h : sg' m = sg m) (hq : QCok T cfg sg m) :
    QCok T cfg sg' m := by
  unfold QCok at *
  rw [h]; exact hq

/-- `Start` at the leader of view 1 when another replica leads view 2: it proposes block 1 and sends its vote -/
theorem proposer_start (k : Keys) (c : RCfg) (w : Who) (sg : Nat → Sig) (L2 : Nat) (s : RState) (hw : w.cfg 1 = c)
    (hs : c.scheme ≠ .bls12) (hr : c.rules = .chained ∨ c.rules = .simple)
    (hlead : c.leader 1 = c.id) (hlead2 : c.leader 2 = L2) (hne2 : L2 ≠ c.id)
    (hbase : Base w sg 0 s) (hnc : s.nextCmd = w.cnt 1) (hf : FreshS s) :
    ∃ bytes, Base w sg 1 (start k c s).1 ∧ (start k c s).1.votes = s.votes ∧
      (start k c s).1.lastProposed = 1 ∧ (start k c s).1.nextCmd = w.cnt 1 + 1 ∧
      (start k c s).1.truth.lookup bytes = some ⟨c.id, blkMsg (pname 1)⟩ ∧
      ∀ C : SysCfg, route C c.id (start k c s).2 =
        (C.honest.filter (· != c.id)).map (fun i => (i, Ev.propose c.id (hb w sg 1) none)) ++
        [(L2, Ev.vote c.id (some (.multi c.scheme [⟨c.id, bytes⟩])) (pname 1) false)] := by
  obtain ⟨bytes, evs, F0, hP, hstart⟩ := start_core k c w sg s hw hs hr hlead hbase hnc hf
  let F : RState := { F0 with out := F0.out ++ [.sendVote L2 (.multi c.scheme [⟨c.id, bytes⟩]) (pname 1)] }
  obtain ⟨h1, h2⟩ := hstart F (aggregateVote_send_to k c _ _ F0 L2 hlead2 hne2) rfl rfl
  rw [h1]
  refine ⟨bytes, base_of_proposed w sg _ F0 hP.view hP.highQC hP.lastVoted hP.lock hP.committed hP.blocks hP.fetchable hP.prune
    (hP.wprop.trans hbase.wprop) (hP.wvc.trans hbase.wvc), hP.votes, hP.lastProposed, hP.nextCmd, hP.table, fun C => ?_⟩
  rw [h2 C]
  show route C c.id (F0.out ++ _) = _
  rw [route_append, hP.out]
  simp [route]

/-- **The next collector receives the proposal of block `j + 1`** (it leads view `j + 2`) and keeps its own vote -/
theorem nl_propose_collect (k : Keys) (c : RCfg) (cL : Who) (sg : Nat → Sig) (j L : Nat) (s : RState)
    (hs : c.scheme ≠ .bls12) (ha : c.agg = false) (hr : c.rules = .chained ∨ c.rules = .simple)
    (hid : c.cfg.has c.id = true) (hq2 : 2 ≤ c.cfg.quorum)
    (hlead : c.leader (j + 1) = L) (hlead2 : c.leader (j + 2) = c.id) (hne : c.id ≠ L)
    (hbase : Base cL sg j s) (hvotes : s.votes = []) (hf : FreshS s)
    (hok : QCok (fun b => s.truth.lookup b) c.cfg sg j) :
    let r := step k c s (.propose L (hb cL sg (j + 1)) none)
    ∃ bytes,
      Base cL sg (j + 1) r.1 ∧
      r.1.votes = [(pname (j + 1), [(c.id, .multi c.scheme [⟨c.id, bytes⟩])])] ∧
      r.1.lastProposed = s.lastProposed ∧
      r.1.nextCmd = s.nextCmd ∧
      r.1.truth.lookup bytes = some ⟨c.id, blkMsg (pname (j + 1))⟩ ∧
      ∀ C : SysCfg, route C c.id r.2 =
        (if 1 ≤ j then [(L, Ev.newview c.id { qc := some (hqc sg j) })] else []) := by
  dsimp only
  obtain ⟨bytes, V, hB, hvts, hlp, hnc, htab, hout, hstep⟩ := nl_propose_core k c cL sg j L s hs ha hr hlead hne hbase hf hok
  have hBV := hB V.votes
  obtain ⟨h1, h2⟩ := hstep _ V.out
    (own_vote_kept k c cL sg j bytes V hs hid hq2 hlead2 hBV.blocks hBV.highQC (hvts.trans hvotes) htab)
  rw [h1]
  refine ⟨bytes, hB _, rfl, hlp, hnc, htab, fun C => ?_⟩
  rw [h2 C, hout]
  by_cases hj : 1 ≤ j
  · simp [hj, route]
  · simp [hj, route]

/-- **the vote that completes the quorum** at a rotating collector, which sends its vote to the next leader `L3` -/
theorem collector_vote_quorum (k : Keys) (c : RCfg) (w : Who) (sg : Nat → Sig) (j i id bytes L3 : Nat) (vs : List (Nat × Sig)) (s : RState)
    (hw : w.cfg (j + 2) = c) (hnc : s.nextCmd = w.cnt (j + 2))
    (hs : c.scheme ≠ .bls12) (ha : c.agg = false) (hr : c.rules = .chained ∨ c.rules = .simple)
    (hq2 : 2 ≤ c.cfg.quorum)
    (hlead : c.leader (j + 2) = c.id) (hlead3 : c.leader (j + 3) = L3) (hne3 : L3 ≠ c.id)
    (hld : Coll w sg (j + 1) vs s) (hvok : VotesOK (fun b => s.truth.lookup b) c.cfg (j + 1) vs)
    (hi : c.cfg.has i = true) (hbytes : s.truth.lookup bytes = some ⟨i, blkMsg (pname (j + 1))⟩)
    (hnew : ∀ v ∈ vs, v.1 ≠ i) (hlen : c.cfg.quorum ≤ vs.length + 1) (hf : FreshS s) :
    let r := step k c s (.vote id (some (.multi c.scheme [⟨i, bytes⟩])) (pname (j + 1)) false)
    ∃ (sgq : Sig) (bytes' : Nat),
      Base w (fun m => if m = j + 1 then sgq else sg m) (j + 2)
        r.1 ∧
      r.1.votes = [] ∧
      r.1.lastProposed = j + 2 ∧
      r.1.nextCmd = w.cnt (j + 2) + 1 ∧
      QCok (fun b => r.1.truth.lookup b)
        c.cfg (fun m => if m = j + 1 then sgq else sg m) (j + 1) ∧
      r.1.truth.lookup bytes' =
        some ⟨c.id, blkMsg (pname (j + 2))⟩ ∧
      ∀ C : SysCfg, route C c.id r.2 =
        (C.honest.filter (· != c.id)).map
          (fun x => (x, Ev.propose c.id (hb w (fun m => if m = j + 1 then sgq else sg m) (j + 2)) none)) ++
        [(L3, Ev.vote c.id (some (.multi c.scheme [⟨c.id, bytes'⟩])) (pname (j + 2)) false)] := by
  have hex := step_ext k c s (.vote id (some (.multi c.scheme [⟨i, bytes⟩])) (pname (j + 1)) false) hf.2
  obtain ⟨sgq, bytes', evs, m, F0, hqcok, hP, hmv, hmo, hmwp, hmwv, hstep⟩ :=
    vote_quorum_core k c w sg j i id bytes vs s hw hnc hs ha hr hq2 hlead hld hvok hi hbytes hnew hlen hf
  refine ⟨sgq, bytes', ?_⟩
  let sg' : Nat → Sig := fun m => if m = j + 1 then sgq else sg m
  let F : RState := { F0 with out := F0.out ++ [.sendVote L3 (.multi c.scheme [⟨c.id, bytes'⟩]) (pname (j + 2))] }
  obtain ⟨h1, h2⟩ := hstep F (aggregateVote_send_to k c _ _ F0 L3 hlead3 hne3) rfl rfl
  rw [h1] at hex ⊢
  refine ⟨base_of_proposed w sg' _ F0 hP.view hP.highQC hP.lastVoted hP.lock hP.committed hP.blocks hP.fetchable hP.prune
    (hP.wprop.trans hmwp) (hP.wvc.trans hmwv), hP.votes.trans hmv, hP.lastProposed, hP.nextCmd, hqcok.mono hex.truth, hP.table, ?_⟩
  intro C
  rw [h2 C]
  show route C c.id (F0.out ++ _) = _
  rw [route_append, hP.out, hmo]
  simp [route]

end HsVerif.Model
