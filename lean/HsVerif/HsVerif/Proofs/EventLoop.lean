import HsVerif.Proofs.Queue
import HsVerif.Model.EventLoop
/-! Helper lemmas for C14 (event loop): well-formedness of the handler table, flow equations for
the queue and the waiting lists, shape of the logs. -/
namespace HsVerif.Model
open Obs

namespace Obs

@[simp] theorem pushedOf_nil : pushedOf [] = [] := rfl
@[simp] theorem leftOf_nil : leftOf [] = [] := rfl
@[simp] theorem poppedOf_nil : poppedOf [] = [] := rfl
@[simp] theorem droppedOf_nil : droppedOf [] = [] := rfl
@[simp] theorem deferredOf_nil (t : Nat) : deferredOf t [] = [] := rfl
@[simp] theorem readdOf_nil (t : Nat) : readdOf t [] = [] := rfl
@[simp] theorem invsOf_nil (m : Bool) : invsOf m [] = [] := rfl

@[simp] theorem pushedOf_append (a b : List Obs) : pushedOf (a ++ b) = pushedOf a ++ pushedOf b :=
  List.filterMap_append
@[simp] theorem leftOf_append (a b : List Obs) : leftOf (a ++ b) = leftOf a ++ leftOf b :=
  List.filterMap_append
@[simp] theorem poppedOf_append (a b : List Obs) : poppedOf (a ++ b) = poppedOf a ++ poppedOf b :=
  List.filterMap_append
@[simp] theorem droppedOf_append (a b : List Obs) : droppedOf (a ++ b) = droppedOf a ++ droppedOf b :=
  List.filterMap_append
@[simp] theorem deferredOf_append (t : Nat) (a b : List Obs) : deferredOf t (a ++ b) = deferredOf t a ++ deferredOf t b :=
  List.filterMap_append
@[simp] theorem readdOf_append (t : Nat) (a b : List Obs) : readdOf t (a ++ b) = readdOf t a ++ readdOf t b :=
  List.filterMap_append
@[simp] theorem invsOf_append (m : Bool) (a b : List Obs) : invsOf m (a ++ b) = invsOf m a ++ invsOf m b :=
  List.filterMap_append

end Obs

namespace EL
variable {β : Type}

@[simp] theorem upd_same (f : Nat → β) (t : Nat) (v : β) : upd f t v t = v := if_pos rfl
theorem upd_other (f : Nat → β) (t t' : Nat) (v : β) (h : t' ≠ t) : upd f t v t' = f t' := if_neg h

theorem upd_getElem? {f : Nat → List β} {t i : Nat} {l' : List β} {v : Option β}
    (hget : ∀ j, l'[j]? = if j = i then v else (f t)[j]?) (t' j : Nat) :
    (upd f t l' t')[j]? = if t' = t ∧ j = i then v else (f t')[j]? := by
  by_cases ht : t' = t
  · subst ht; rw [upd_same, hget]; simp
  · rw [upd_other _ _ _ _ ht]; simp [ht]

theorem getElem?_concat_ite (l : List β) (x : β) (j : Nat) :
    (l ++ [x])[j]? = if j = l.length then some x else l[j]? := by
  split
  · rename_i h; rw [h, List.getElem?_concat_length]
  · rcases Nat.lt_or_gt_of_ne ‹_› with h | h
    · exact List.getElem?_append_left h
    · rw [List.getElem?_eq_none (by simp; omega), List.getElem?_eq_none (by omega)]

theorem getElem?_set_ite {l : List β} {i : Nat} (hi : i < l.length) (x : β) (j : Nat) :
    (l.set i x)[j]? = if j = i then some x else l[j]? := by
  rw [List.getElem?_set]
  by_cases hj : i = j
  · subst hj; simp [hi]
  · simp [hj, Ne.symm hj]

theorem getElem?_concat_eq_some {l : List β} {x y : β} {r : Nat} :
    (l ++ [x])[r]? = some y ↔ l[r]? = some y ∨ (r = l.length ∧ x = y) := by
  rw [getElem?_concat_ite]
  split
  · rename_i h; simp [h]
  · rename_i h; simp [h]

theorem findFree_some {l : List (Option Handler)} {i : Nat} (h : findFree l = some i) : l[i]? = some none := by
  induction l generalizing i with
  | nil => simp [findFree] at h
  | cons a t ih =>
    cases a with
    | none => simp [findFree] at h; subst h; simp
    | some x =>
      simp only [findFree, Option.map_eq_some_iff] at h
      obtain ⟨j, hj, rfl⟩ := h
      simpa using ih hj

/-- The handler table and the registry of closures agree: a closure that has not been called still
owns its slot, which holds the handler it installed; every occupied slot is owned by exactly such a
closure.  (This is the invariant that fails for the closure of the unchanged tree.) -/
structure WF (c : Nat) (s : EL) : Prop where
  q : ∃ l, Queue.Rel c s.q l
  slotLive : ∀ (r : Nat) (rec : RegRec), s.regs[r]? = some rec →
    rec.slot < (s.handlers rec.ty).length ∧ rec.h.reg = r ∧
    (r ∉ s.unregd → (s.handlers rec.ty)[rec.slot]? = some (some rec.h))
  slotBack : ∀ (t i : Nat) (h : Handler), (s.handlers t)[i]? = some (some h) →
    ∃ rec : RegRec, s.regs[h.reg]? = some rec ∧ rec.ty = t ∧ rec.slot = i ∧ rec.h = h ∧ h.reg ∉ s.unregd
  unregdLt : ∀ r : Nat, r ∈ s.unregd → r < s.regs.length

variable {c : Nat} {s : EL} {addFn : EL → LEv → EL × List Obs}

theorem register_eq (s : EL) (t : Nat) (o : HOpts) (acts : List Act) (quiet : Bool) :
    ∃ (i : Nat) (l' : List (Option Handler)),
      s.register t o acts quiet = { s with handlers := upd s.handlers t l',
                                           regs := s.regs ++ [⟨t, i, ⟨s.regs.length, o, acts, quiet⟩⟩] } ∧
      (s.handlers t).length ≤ l'.length ∧ i < l'.length ∧
      (∀ j, l'[j]? = if j = i then some (some ⟨s.regs.length, o, acts, quiet⟩) else (s.handlers t)[j]?) ∧
      ∀ h', (s.handlers t)[i]? ≠ some (some h') := by
  unfold register
  dsimp only
  split
  · exact ⟨_, _, rfl, by simp, by simp, getElem?_concat_ite _ _, by simp⟩
  · rename_i i hfree
    have hslot := findFree_some hfree
    have hilt := (List.getElem?_eq_some_iff.mp hslot).1
    exact ⟨i, _, rfl, by simp, by simpa using hilt, getElem?_set_ite hilt _, by simp [hslot]⟩

theorem wf_register (hwf : WF c s) (t : Nat) (o : HOpts) (acts : List Act) (quiet : Bool) :
    WF c (s.register t o acts quiet) := by
  obtain ⟨i, l', e, hlen, hi, hget, hfree⟩ := register_eq s t o acts quiet
  rw [e]
  refine ⟨hwf.q, fun r rec hr => ?_, fun t' j h' hh => ?_, fun r hr => ?_⟩
  · rcases getElem?_concat_eq_some.mp hr with hr | ⟨rfl, rfl⟩
    · obtain ⟨h1, h2, h3⟩ := hwf.slotLive r rec hr
      refine ⟨?_, h2, fun hn => ?_⟩
      · by_cases hty : rec.ty = t
        · simp only [hty, upd_same]; exact Nat.lt_of_lt_of_le (hty ▸ h1) hlen
        · simp only [upd_other _ _ _ _ hty]; exact h1
      · -- the slot of a live closure is occupied, so it is not the one just filled
        simp only [upd_getElem? hget]
        rw [if_neg fun ⟨hty, hsl⟩ => hfree _ (hsl ▸ hty ▸ h3 hn)]
        exact h3 hn
    · refine ⟨?_, rfl, fun _ => ?_⟩
      · show i < (upd s.handlers t l' t).length
        rw [upd_same]; exact hi
      · show (upd s.handlers t l' t)[i]? = _
        rw [upd_same, hget, if_pos rfl]
  · simp only [upd_getElem? hget] at hh
    split at hh
    · rename_i hnew
      cases hh
      exact ⟨_, List.getElem?_concat_length, hnew.1.symm, hnew.2.symm, rfl,
        fun hm => Nat.lt_irrefl _ (hwf.unregdLt _ hm)⟩
    · obtain ⟨rec, h1, h2⟩ := hwf.slotBack t' j h' hh
      exact ⟨rec, getElem?_concat_eq_some.mpr (Or.inl h1), h2⟩
  · rw [List.length_append]
    exact Nat.lt_succ_of_lt (hwf.unregdLt r hr)

theorem unregister_eq (s : EL) (r : Nat) :
    (s.unregister r = s ∧ (s.regs[r]? = none ∨ r ∈ s.unregd)) ∨
    ∃ rec, s.regs[r]? = some rec ∧ r ∉ s.unregd ∧
      s.unregister r = { s with unregd := r :: s.unregd,
                                handlers := upd s.handlers rec.ty ((s.handlers rec.ty).set rec.slot none) } := by
  unfold unregister
  split
  · rename_i hn; exact Or.inl ⟨rfl, Or.inl hn⟩
  · rename_i rec hrec
    split
    · rename_i hc; exact Or.inl ⟨rfl, Or.inr (by simpa using hc)⟩
    · rename_i hc; exact Or.inr ⟨rec, hrec, by simpa using hc, rfl⟩

theorem wf_unregister (hwf : WF c s) (r : Nat) : WF c (s.unregister r) := by
  rcases unregister_eq s r with ⟨e, _⟩ | ⟨rec, hrec, hnm, e⟩
  · rw [e]; exact hwf
  rw [e]
  obtain ⟨g1, g2, g3⟩ := hwf.slotLive r rec hrec
  have hget := getElem?_set_ite g1 none
  refine ⟨hwf.q, fun r' rec' hr' => ?_, fun t j h' hh => ?_, fun r' hr' => ?_⟩
  · obtain ⟨h1, h2, h3⟩ := hwf.slotLive r' rec' hr'
    refine ⟨?_, h2, fun hn => ?_⟩
    · by_cases hty : rec'.ty = rec.ty
      · simp only [hty, upd_same, List.length_set]; exact hty ▸ h1
      · simp only [upd_other _ _ _ _ hty]; exact h1
    · -- another live closure owns another slot: the handler in a slot identifies its closure
      simp only [List.mem_cons, not_or] at hn
      simp only [upd_getElem? hget]
      rw [if_neg]
      · exact h3 hn.2
      · rintro ⟨hty, hsl⟩
        have := h3 hn.2
        rw [hty, hsl, g3 hnm] at this
        have : rec.h = rec'.h := by simpa using this
        exact hn.1 (by rw [← h2, ← g2, this])
  · simp only [upd_getElem? hget] at hh
    split at hh
    · cases hh
    · rename_i hold
      obtain ⟨rec', h1, h2, h3, h4, h5⟩ := hwf.slotBack t j h' hh
      refine ⟨rec', h1, h2, h3, h4, ?_⟩
      simp only [List.mem_cons, not_or]
      refine ⟨fun he => ?_, h5⟩
      rw [he, hrec] at h1
      cases h1
      exact hold ⟨h2.symm, h3.symm⟩
  · simp only [List.mem_cons] at hr'
    rcases hr' with rfl | hr'
    · exact (List.getElem?_eq_some_iff.mp hrec).1
    · exact hwf.unregdLt r' hr'

theorem wf_new (c : Nat) (progs : List (List Act)) : WF c (EL.new c progs) :=
  ⟨⟨[], Queue.rel_new c⟩, by simp [EL.new], by simp [EL.new], by simp [EL.new]⟩

/-- `a` plus what came in (`p`) is what went out (`l`) plus `b`; such balances compose. -/
theorem flow_trans {a b d p₁ p₂ l₁ l₂ : List β} (h₁ : a ++ p₁ = l₁ ++ b) (h₂ : b ++ p₂ = l₂ ++ d) :
    a ++ (p₁ ++ p₂) = (l₁ ++ l₂) ++ d := by
  rw [← List.append_assoc, h₁, List.append_assoc, h₂, List.append_assoc]

/-- `s --log--> s'` keeps the table well-formed and balances the books: what was pending plus what was
pushed = what left at the head (handled or dropped, in that order) plus what is pending now; what was
waiting for `t` plus what was deferred until `t` = what was re-added for `t` plus what still waits. -/
structure Good (c : Nat) (s : EL) (log : List Obs) (s' : EL) : Prop where
  wf : WF c s'
  qf : s.q.abs ++ pushedOf log = leftOf log ++ s'.q.abs
  wl : ∀ t, s.waiting t ++ deferredOf t log = readdOf t log ++ s'.waiting t

theorem good_refl (hwf : WF c s) : Good c s [] s :=
  ⟨hwf, List.append_nil _, fun _ => List.append_nil _⟩

theorem good_trans {s s1 s2 : EL} {l1 l2 : List Obs} (h1 : Good c s l1 s1) (h2 : Good c s1 l2 s2) :
    Good c s (l1 ++ l2) s2 :=
  ⟨h2.wf, by rw [pushedOf_append, leftOf_append]; exact flow_trans h1.qf h2.qf,
    fun t => by rw [deferredOf_append, readdOf_append]; exact flow_trans (h1.wl t) (h2.wl t)⟩

theorem good_same {s s' : EL} (hwf : WF c s') (hq : s'.q = s.q) (hw : s'.waiting = s.waiting) :
    Good c s [] s' := ⟨hwf, by simp [hq], by simp [hw]⟩

theorem good_register (hwf : WF c s) (t : Nat) (o : HOpts) (a : List Act) (qt : Bool) :
    Good c s [] (s.register t o a qt) := by
  have hwf' := wf_register hwf t o a qt
  obtain ⟨_, _, e, _⟩ := register_eq s t o a qt
  rw [e] at hwf' ⊢
  exact good_same hwf' rfl rfl

theorem good_unregister (hwf : WF c s) (r : Nat) : Good c s [] (s.unregister r) := by
  have hwf' := wf_unregister hwf r
  rcases unregister_eq s r with ⟨e, _⟩ | ⟨_, _, _, e⟩ <;> rw [e] at hwf' ⊢
  · exact good_refl hwf
  · exact good_same hwf' rfl rfl

theorem good_cancel (hwf : WF c s) (x : Nat) : Good c s [] (s.cancelCtx x) := by
  unfold cancelCtx
  split
  · exact good_refl hwf
  · exact good_same { hwf with } rfl rfl

theorem good_delay (hwf : WF c s) (t : Nat) (e : LEv) :
    Good c s [.deferred t e] (s.delayUntil t e) := by
  refine ⟨{ hwf with }, List.append_nil _, fun t' => ?_⟩
  by_cases h : t = t'
  · subst h; simp [deferredOf, readdOf, delayUntil]
  · simp [deferredOf, readdOf, delayUntil, h, upd_other _ _ _ _ (Ne.symm h)]

/-- The push inside AddEvent on the pending list `l`: with room it appends; on a full queue it drops
the head as well, and logs that. -/
theorem pushEv_spec {l : List LEv} (hc : 1 ≤ c) (hl : Queue.Rel c s.q l) (e : LEv) :
    (l.length < c ∧ (s.pushEv e).2 = [.pushed e] ∧ (s.pushEv e).1.q.abs = l ++ [e]) ∨
    ∃ d t, l = d :: t ∧ l.length = c ∧ (s.pushEv e).2 = [.pushed e, .dropped d] ∧
      (s.pushEv e).1.q.abs = t ++ [e] := by
  rcases Nat.lt_or_eq_of_le hl.hle with hlt | heq
  · have ⟨h1, h2⟩ := Queue.push_abs_of_lt hc hl e hlt
    exact .inl ⟨hlt, by simp only [pushEv, h1], h2⟩
  · have ⟨h1, h2⟩ := Queue.push_abs_of_eq hc hl e heq
    cases l with
    | nil => cases heq; exact absurd hc (Nat.not_succ_le_zero 0)
    | cons a t => exact .inr ⟨a, t, rfl, heq, by simp only [pushEv, h1]; rfl, h2⟩

theorem good_pushEv (hc : 1 ≤ c) (hwf : WF c s) (e : LEv) :
    Good c s (s.pushEv e).2 (s.pushEv e).1 := by
  obtain ⟨l, hl⟩ := hwf.q
  refine ⟨{ hwf with q := ⟨_, (Queue.rel_push hc hl e).1⟩ }, ?_, fun t => ?_⟩
  · rw [Queue.rel_abs hl]
    rcases pushEv_spec hc hl e with ⟨_, h1, h2⟩ | ⟨d, t, rfl, _, h1, h2⟩ <;> rw [h1, h2] <;> rfl
  · simp only [pushEv]; split <;> exact List.append_nil _

/-- `addFn` is a legitimate meaning for a handler's `add` action -/
def GoodFn (c : Nat) (addFn : EL → LEv → EL × List Obs) : Prop :=
  ∀ s x, WF c s → Good c s (addFn s x).2 (addFn s x).1

theorem goodFn_noAdd (c : Nat) : GoodFn c noAdd := fun _ _ hwf => good_refl hwf

theorem good_execAct (haf : GoodFn c addFn) (hwf : WF c s)
    (e : LEv) (a : Act) : Good c s (execAct addFn s e a).2 (execAct addFn s e a).1 := by
  cases a with
  | unreg r => simp only [execAct]; split; exact good_unregister hwf r; exact good_refl hwf
  | ctxUnreg r => exact good_unregister hwf r
  | add x => exact haf s x hwf
  | delay t x => exact good_delay hwf t x
  | reg t o p => simp only [execAct]; split; exact good_register hwf _ _ _ _; exact good_refl hwf
  | cancel x => exact good_cancel hwf x
  | cancelGe x v => simp only [execAct]; split; exact good_cancel hwf x; exact good_refl hwf

theorem good_execActs (haf : GoodFn c addFn) (e : LEv) (as : List Act) (hwf : WF c s) :
    Good c s (execActs addFn s e as).2 (execActs addFn s e as).1 := by
  induction as generalizing s with
  | nil => exact good_refl hwf
  | cons a as ih =>
    have h1 := good_execAct haf hwf e a
    exact good_trans h1 (ih h1.wf)

theorem good_invokeAll (haf : GoodFn c addFn) (m : Bool) (e : LEv) (hs : List Handler) (hwf : WF c s) :
    Good c s (invokeAll addFn m s e hs).2 (invokeAll addFn m s e hs).1 := by
  induction hs generalizing s with
  | nil => exact good_refl hwf
  | cons h hs ih =>
    -- the `inv` entry shows in none of the projections `Good` speaks of
    have h0 : Good c s [.inv h.reg e m h.quiet] s := ⟨hwf, List.append_nil _, fun _ => List.append_nil _⟩
    have h1 := good_execActs haf e h.acts hwf
    show Good c s ([.inv h.reg e m h.quiet] ++ (_ ++ _)) _
    exact good_trans h0 (good_trans h1 (ih h1.wf))

theorem good_processEvent (haf : GoodFn c addFn) (m : Bool)
    (hwf : WF c s) (e : LEv) : Good c s (processEvent addFn m s e).2 (processEvent addFn m s e).1 :=
  good_invokeAll haf m e _ hwf

theorem good_addEvent (hc : 1 ≤ c) : GoodFn c addEvent := by
  intro s x hwf
  have h1 := good_processEvent (goodFn_noAdd c) true hwf x
  have h2 := good_pushEv hc h1.wf x
  exact good_trans h1 h2


/-! ### shape of the logs (generic in the projection `f`) -/

theorem execActs_proj (f : Obs → Option β) (hdef : ∀ t x, f (.deferred t x) = none)
    (hadd : ∀ s x, (addFn s x).2.filterMap f = []) (e : LEv) (as : List Act) :
    ∀ s, (execActs addFn s e as).2.filterMap f = [] := by
  induction as with
  | nil => intro s; rfl
  | cons a as ih =>
    intro s
    simp only [execActs, List.filterMap_append, ih, List.append_nil]
    cases a <;> simp [execAct, hdef, hadd]

theorem invokeAll_proj (f : Obs → Option β) (hdef : ∀ t x, f (.deferred t x) = none)
    (hadd : ∀ s x, (addFn s x).2.filterMap f = []) (m : Bool) (e : LEv)
    (hs : List Handler) :
    ∀ s, (invokeAll addFn m s e hs).2.filterMap f = hs.filterMap (fun h => f (.inv h.reg e m h.quiet)) := by
  induction hs with
  | nil => intro s; rfl
  | cons h hs ih =>
    intro s
    simp only [invokeAll, List.filterMap_cons, List.filterMap_append, ih, execActs_proj f hdef hadd]
    cases f (Obs.inv h.reg e m h.quiet) <;> rfl

theorem processEvent_proj (f : Obs → Option β) (hdef : ∀ t x, f (.deferred t x) = none)
    (hadd : ∀ s x, (addFn s x).2.filterMap f = []) (m : Bool) (s : EL) (e : LEv) :
    (processEvent addFn m s e).2.filterMap f =
      ((snapshot (s.handlers e.ty) m).1 ++ (snapshot (s.handlers e.ty) m).2).filterMap
        (fun h => f (.inv h.reg e m h.quiet)) :=
  invokeAll_proj f hdef hadd m e _ s

theorem addEvent_proj (f : Obs → Option β) (hdef : ∀ t x, f (.deferred t x) = none)
    (hpush : ∀ x, f (.pushed x) = none) (hdrop : ∀ x, f (.dropped x) = none) (s : EL) (e : LEv) :
    (addEvent s e).2.filterMap f =
      ((snapshot (s.handlers e.ty) true).1 ++ (snapshot (s.handlers e.ty) true).2).filterMap
        (fun h => f (.inv h.reg e true h.quiet)) := by
  simp only [addEvent, List.filterMap_append, processEvent_proj (addFn := noAdd) f hdef (fun _ _ => rfl), pushEv]
  split <;> simp [hpush, hdrop]

/-- projections that ignore everything AddEvent can log -/
structure AddBlind {β : Type} (f : Obs → Option β) : Prop where
  hdef : ∀ t x, f (.deferred t x) = none
  hpush : ∀ x, f (.pushed x) = none
  hdrop : ∀ x, f (.dropped x) = none
  hinv : ∀ r e q, f (.inv r e true q) = none

theorem addEvent_blind {f : Obs → Option β} (hf : AddBlind f) (s : EL) (e : LEv) :
    (addEvent s e).2.filterMap f = [] := by
  rw [addEvent_proj f hf.hdef hf.hpush hf.hdrop]
  simp [hf.hinv]

theorem readdAll_blind {f : Obs → Option β} (hf : AddBlind f) (hre : ∀ t x, f (.readd t x) = none)
    (t : Nat) (xs : List LEv) : ∀ s, (readdAll t s xs).2.filterMap f = [] := by
  induction xs with
  | nil => intro s; rfl
  | cons x xs ih =>
    intro s
    simp only [readdAll, List.filterMap_cons, hre, List.filterMap_append, addEvent_blind hf, ih, List.append_nil]

theorem blind_invsFalse : AddBlind (fun o => match o with | Obs.inv r e m _ => if m = false then some (r, e) else none | _ => none) :=
  ⟨fun _ _ => rfl, fun _ => rfl, fun _ => rfl, fun _ _ _ => rfl⟩
theorem blind_popped : AddBlind (fun o => match o with | Obs.popped e => some e | _ => none) :=
  ⟨fun _ _ => rfl, fun _ => rfl, fun _ => rfl, fun _ _ _ => rfl⟩
theorem blind_readd (t : Nat) : AddBlind (fun o => match o with | Obs.readd t' e => if t' = t then some e else none | _ => none) :=
  ⟨fun _ _ => rfl, fun _ => rfl, fun _ => rfl, fun _ _ _ => rfl⟩

theorem addEvent_invsFalse (s : EL) (e : LEv) : invsOf false (addEvent s e).2 = [] := addEvent_blind blind_invsFalse s e
theorem addEvent_popped (s : EL) (e : LEv) : poppedOf (addEvent s e).2 = [] := addEvent_blind blind_popped s e
theorem addEvent_readd (t : Nat) (s : EL) (e : LEv) : readdOf t (addEvent s e).2 = [] := addEvent_blind (blind_readd t) s e

theorem readdAll_invsFalse (t : Nat) (xs : List LEv) (s : EL) : invsOf false (readdAll t s xs).2 = [] :=
  readdAll_blind blind_invsFalse (fun _ _ => rfl) t xs s
theorem readdAll_popped (t : Nat) (xs : List LEv) (s : EL) : poppedOf (readdAll t s xs).2 = [] :=
  readdAll_blind blind_popped (fun _ _ => rfl) t xs s

theorem readdAll_readd (t t' : Nat) (xs : List LEv) :
    ∀ s, readdOf t' (readdAll t s xs).2 = if t = t' then xs else [] := by
  induction xs with
  | nil => intro s; exact (ite_self _).symm
  | cons x xs ih =>
    intro s
    have hcons : ∀ L, readdOf t' (.readd t x :: L) = if t = t' then x :: readdOf t' L else readdOf t' L := by
      intro L; unfold readdOf; rw [List.filterMap_cons]; split <;> simp_all
    simp only [readdAll, hcons, readdOf_append, addEvent_readd, ih]
    split <;> rfl

theorem dispatchDelayed_invsFalse (s : EL) (t : Nat) : invsOf false (dispatchDelayed s t).2 = [] :=
  readdAll_invsFalse ..

theorem dispatchDelayed_readd (s : EL) (t t' : Nat) :
    readdOf t' (dispatchDelayed s t).2 = if t = t' then s.waiting t else [] :=
  readdAll_readd ..

theorem processLoop_readd (t : Nat) (s : EL) (e : LEv) : readdOf t (processEvent addEvent false s e).2 = [] :=
  (processEvent_proj _ (fun _ _ => rfl) (addEvent_readd t) false s e).trans (by simp)

theorem processLoop_popped (s : EL) (e : LEv) : poppedOf (processEvent addEvent false s e).2 = [] :=
  (processEvent_proj _ (fun _ _ => rfl) addEvent_popped false s e).trans (by simp)

theorem processLoop_invs (s : EL) (e : LEv) :
    invsOf false (processEvent addEvent false s e).2 =
      ((snapshot (s.handlers e.ty) false).1.map (·.reg) ++ (snapshot (s.handlers e.ty) false).2.map (·.reg)).map
        (fun r => (r, e)) :=
  (processEvent_proj _ (fun _ _ => rfl) addEvent_invsFalse false s e).trans (by simp [Function.comp_def])

theorem addEvent_invs (s : EL) (e : LEv) :
    invsOf true (addEvent s e).2 =
      ((snapshot (s.handlers e.ty) true).1.map (·.reg) ++ (snapshot (s.handlers e.ty) true).2.map (·.reg)).map
        (fun r => (r, e)) :=
  (addEvent_proj _ (fun _ _ => rfl) (fun _ => rfl) (fun _ => rfl) s e).trans (by simp [Function.comp_def])

/-- `readdAll` keeps the table well-formed and balances the queue as in `Good`; it takes nothing from
the waiting lists (`dispatchDelayed` has emptied the one for `t` beforehand), so `Good.wl` holds
without the `readdOf` term. -/
theorem readdAll_flow (hc : 1 ≤ c) (t : Nat) (xs : List LEv) (hwf : WF c s) :
    WF c (readdAll t s xs).1 ∧
    s.q.abs ++ pushedOf (readdAll t s xs).2 = leftOf (readdAll t s xs).2 ++ (readdAll t s xs).1.q.abs ∧
    ∀ t', s.waiting t' ++ deferredOf t' (readdAll t s xs).2 = (readdAll t s xs).1.waiting t' := by
  induction xs generalizing s with
  | nil => exact ⟨hwf, List.append_nil _, fun _ => List.append_nil _⟩
  | cons x xs ih =>
    have h1 := good_addEvent hc s x hwf
    obtain ⟨i1, i2, i3⟩ := ih h1.wf
    -- the `readd` marker in front of the log is invisible to these projections
    have e1 : ∀ L, pushedOf (Obs.readd t x :: L) = pushedOf L := fun _ => rfl
    have e2 : ∀ L, leftOf (Obs.readd t x :: L) = leftOf L := fun _ => rfl
    have e3 : ∀ t' L, deferredOf t' (Obs.readd t x :: L) = deferredOf t' L := fun _ _ => rfl
    simp only [readdAll, e1, e2, e3, pushedOf_append, leftOf_append, deferredOf_append]
    refine ⟨i1, flow_trans h1.qf i2, fun t' => ?_⟩
    have hw := h1.wl t'
    rw [addEvent_readd] at hw
    rw [← List.append_assoc, hw]
    exact i3 t'

theorem good_dispatchDelayed (hc : 1 ≤ c) (hwf : WF c s) (t : Nat) :
    Good c s (dispatchDelayed s t).2 (dispatchDelayed s t).1 := by
  unfold dispatchDelayed
  obtain ⟨i1, i2, i3⟩ := readdAll_flow hc t (s.waiting t) (s := { s with waiting := upd s.waiting t [] })
    { hwf with }
  refine ⟨i1, i2, fun t' => ?_⟩
  -- the list taken from `waitingEvents[t]` is exactly what is re-added for `t`
  have i3' : upd s.waiting t [] t' ++ _ = _ := i3 t'
  rw [readdAll_readd, ← i3']
  by_cases h : t = t'
  · subst h; rw [if_pos rfl, upd_same]; rfl
  · rw [if_neg h, upd_other _ _ _ _ (Ne.symm h)]; rfl

theorem tick_cases (hwf : WF c s) :
    (s.q.abs = [] ∧ tick s = (s, none)) ∨
    (∃ e rest, s.q.abs = e :: rest ∧ ({ s with q := s.q.pop.1 } : EL).q.abs = rest ∧ WF c { s with q := s.q.pop.1 } ∧
      tick s =
        ((dispatchDelayed (processEvent addEvent false { s with q := s.q.pop.1 } e).1 e.ty).1,
         some (Obs.popped e :: (processEvent addEvent false { s with q := s.q.pop.1 } e).2 ++
           (dispatchDelayed (processEvent addEvent false { s with q := s.q.pop.1 } e).1 e.ty).2))) := by
  obtain ⟨l, hl⟩ := hwf.q
  obtain ⟨hr, hd⟩ := Queue.rel_pop hl
  unfold tick
  dsimp only
  rw [Queue.rel_abs hl, hd]
  cases l with
  | nil => exact Or.inl ⟨rfl, rfl⟩
  | cons a t => exact Or.inr ⟨a, t, rfl, Queue.rel_abs hr, { hwf with q := ⟨_, hr⟩ }, rfl⟩

theorem good_tick (hc : 1 ≤ c) (hwf : WF c s) :
    Good c s ((tick s).2.getD []) (tick s).1 := by
  rcases tick_cases hwf with ⟨_, h2⟩ | ⟨e, rest, h1, h1', hwf1, h2⟩ <;> rw [h2]
  · exact good_refl hwf
  · have hpop : Good c s [Obs.popped e] { s with q := s.q.pop.1 } :=
      ⟨hwf1, by rw [h1, h1']; exact List.append_nil _, fun _ => List.append_nil _⟩
    have h1 := good_processEvent (good_addEvent hc) false hwf1 e
    show Good c s ([Obs.popped e] ++ (_ ++ _)) _
    exact good_trans hpop (good_trans h1 (good_dispatchDelayed hc h1.wf e.ty))

theorem good_step (hc : 1 ≤ c) (hwf : WF c s) (o : Op) : Good c s (step s o).2 (step s o).1 := by
  cases o with
  | add e => exact good_addEvent hc s e hwf
  | delay t e => exact good_delay hwf t e
  | reg t o a qt => exact good_register hwf t o a qt
  | unreg r => exact good_unregister hwf r
  | cancel x => exact good_cancel hwf x
  | tick => exact good_tick hc hwf

theorem good_run (hc : 1 ≤ c) (ops : List Op) (hwf : WF c s) : Good c s (run s ops).2 (run s ops).1 := by
  induction ops generalizing s with
  | nil => exact good_refl hwf
  | cons o os ih =>
    have h1 := good_step hc hwf o
    exact good_trans h1 (ih h1.wf)


/-! ### the snapshot taken by processEvent = the handlers registered and not unregistered -/

def Registered (s : EL) (r t : Nat) (m : Bool) : Prop :=
  ∃ rec : RegRec, s.regs[r]? = some rec ∧ rec.ty = t ∧ r ∉ s.unregd ∧ rec.h.opts.inAdd = m

def IsPrio (s : EL) (r : Nat) : Prop := ∃ rec : RegRec, s.regs[r]? = some rec ∧ rec.h.opts.prio = true

theorem live_nodup (hwf : WF c s) (t : Nat) : (((s.handlers t).filterMap id).map (·.reg)).Nodup := by
  rw [List.Nodup, List.pairwise_map, List.pairwise_filterMap, List.pairwise_iff_getElem]
  intro i j hi hj hij h hh h' hh' heq
  obtain ⟨rec, a1, _, a3, _⟩ := hwf.slotBack t i h (by rw [List.getElem?_eq_getElem hi]; exact congrArg some hh)
  obtain ⟨rec', b1, _, b3, _⟩ := hwf.slotBack t j h' (by rw [List.getElem?_eq_getElem hj]; exact congrArg some hh')
  rw [heq, b1] at a1
  cases a1
  omega

theorem mem_live (hwf : WF c s) (t : Nat) (h : Handler) :
    h ∈ (s.handlers t).filterMap id ↔
      ∃ rec : RegRec, s.regs[h.reg]? = some rec ∧ rec.ty = t ∧ rec.h = h ∧ h.reg ∉ s.unregd := by
  simp only [List.mem_filterMap, id]
  constructor
  · rintro ⟨x, hx, rfl⟩
    obtain ⟨i, hi⟩ := List.mem_iff_getElem?.mp hx
    obtain ⟨rec, a1, a2, _, a4, a5⟩ := hwf.slotBack t i h hi
    exact ⟨rec, a1, a2, a4, a5⟩
  · rintro ⟨rec, a1, a2, a3, a4⟩
    obtain ⟨_, _, b3⟩ := hwf.slotLive h.reg rec a1
    have := b3 a4
    rw [a2, a3] at this
    exact ⟨some h, List.mem_iff_getElem?.mpr ⟨_, this⟩, rfl⟩

theorem live_prio (hwf : WF c s) {t : Nat} {h : Handler} (hl : h ∈ (s.handlers t).filterMap id) :
    IsPrio s h.reg ↔ h.opts.prio = true := by
  obtain ⟨rec, a1, _, a3, _⟩ := (mem_live hwf t h).mp hl
  constructor
  · rintro ⟨rec', b1, b2⟩
    rw [a1] at b1
    cases b1
    exact a3 ▸ b2
  · exact fun hp => ⟨rec, a1, a3 ▸ hp⟩

/-- The two lists built by `processEvent` under the lock. -/
theorem snapshot_spec (hwf : WF c s) (t : Nat) (m : Bool) :
    let ps := (snapshot (s.handlers t) m).1.map (·.reg)
    let os := (snapshot (s.handlers t) m).2.map (·.reg)
    (ps ++ os).Nodup ∧ (∀ r, r ∈ ps ++ os ↔ Registered s r t m) ∧
    (∀ r ∈ ps, IsPrio s r) ∧ (∀ r ∈ os, ¬ IsPrio s r) := by
  intro ps os
  -- splitting by priority only rearranges the live handlers of mode `m`
  have hperm : (ps ++ os).Perm ((((s.handlers t).filterMap id).filter (·.opts.inAdd == m)).map (·.reg)) := by
    rw [← List.map_append]
    exact (List.filter_append_perm _ _).map _
  refine ⟨hperm.nodup_iff.mpr ((live_nodup hwf t).sublist (List.filter_sublist.map _)), fun r => ?_,
    fun r hr => ?_, fun r hr => ?_⟩
  · simp only [hperm.mem_iff, List.mem_map, List.mem_filter, mem_live hwf, beq_iff_eq]
    constructor
    · rintro ⟨h, ⟨⟨rec, a1, a2, a3, a4⟩, hm⟩, rfl⟩
      exact ⟨rec, a1, a2, a4, a3 ▸ hm⟩
    · rintro ⟨rec, a1, a2, a3, a4⟩
      obtain ⟨_, b2, _⟩ := hwf.slotLive r rec a1
      exact ⟨rec.h, ⟨⟨rec, b2 ▸ a1, a2, rfl, b2 ▸ a3⟩, a4⟩, b2⟩
  · simp only [ps, snapshot, List.mem_map, List.mem_filter] at hr
    obtain ⟨h, ⟨⟨hl, _⟩, hp⟩, rfl⟩ := hr
    exact (live_prio hwf hl).mpr hp
  · simp only [os, snapshot, List.mem_map, List.mem_filter] at hr
    obtain ⟨h, ⟨⟨hl, _⟩, hp⟩, rfl⟩ := hr
    exact fun hpr => by simp [(live_prio hwf hl).mp hpr] at hp

end EL

namespace Obs

theorem popped_sublist_left (log : List Obs) : (poppedOf log).Sublist (leftOf log) := by
  induction log with
  | nil => exact .slnil
  | cons o t ih =>
    cases o with
    | popped e => exact ih.cons_cons e
    | dropped e => exact ih.cons e
    | _ => exact ih

theorem left_eq_popped_of_no_drop (log : List Obs) (h : droppedOf log = []) : leftOf log = poppedOf log := by
  induction log with
  | nil => rfl
  | cons o t ih =>
    cases o with
    | dropped e => exact absurd h (List.cons_ne_nil e _)
    | popped e => exact congrArg (e :: ·) (ih h)
    | _ => exact ih h

end Obs
end HsVerif.Model
