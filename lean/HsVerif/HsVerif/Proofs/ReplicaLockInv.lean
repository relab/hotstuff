import HsVerif.Proofs.ReplicaCommit
import HsVerif.Proofs.ReplicaEvidence
/-!
The replica-level lock invariant `LInv` (C01 layer B): what a vote obliges the lock to cover, and where the
lock comes from.

`voteRule`, like `commitRule`, only looks blocks up: `Get` and `Extends` only let the store grow, and what was neither
stored nor fetchable stays so, so its answer is analysed with `Settles` (Proofs/ReplicaCommit) in every store that can
still come about.  A positive `voteRule` answer leaves the case that the QC block was neither stored nor fetchable,
which `verifyAnyM` excludes afterwards.  What `tryCommit` does to the lock is read off `Commit` (`tryCommit_lock`).
-/
open Std.Do
namespace HsVerif.Model
open HsVerif.Proofs

theorem chainAbsent_extendsAux (h : Hash) : ∀ (fuel : Nat) (c : RChain) (b t : Block), ChainAbsent h c →
    ChainAbsent h (RChain.extendsAux fuel c b t).1 := by
  intro fuel
  induction fuel with
  | zero => intro c b t hg; exact hg
  | succ n ih =>
    intro c b t hg
    unfold RChain.extendsAux
    split
    · have hget := chainAbsent_get h b.parent c hg
      split
      · rename_i c' p heq
        have : c' = (c.get b.parent).1 := by rw [heq]
        exact ih c' p t (this ▸ hget)
      · rename_i c' heq
        have : c' = (c.get b.parent).1 := by rw [heq]
        exact this ▸ hget
    · exact hg

theorem chainAbsent_extends (h : Hash) (c : RChain) (b t : Block) (hg : ChainAbsent h c) :
    ChainAbsent h (c.extends b t).1 := chainAbsent_extendsAux h _ c b t hg

def Walk2st (st : List (Hash × Block)) (b : Block) : Prop :=
  ∃ p, st.lookup b.qc.hash = some p ∧ (p.qc.hash = "" ∨ ∃ g, st.lookup p.qc.hash = some g)

def Walk2 (s : RState) (b : Block) : Prop := Walk2st s.chain.blocks b
theorem walk2st_mono (st st' : List (Hash × Block)) (b : Block)
    (hm : ∀ k x, st.lookup k = some x → st'.lookup k = some x) (h : Walk2st st b) : Walk2st st' b := by
  obtain ⟨p, hp, h2⟩ := h
  refine ⟨p, hm _ _ hp, ?_⟩
  rcases h2 with h2 | ⟨g, hg⟩
  · exact Or.inl h2
  · exact Or.inr ⟨g, hm _ _ hg⟩

theorem storeExt_grows (s s' : RState) (b t : Block) (hg : Grows s.chain.blocks s')
    (h : StoreExt s b t) : StoreExt s' b t := by
  induction h with
  | here w l h1 h2 => exact .here w l h1 h2
  | up w p l h1 h2 _ ih => exact .up w p l h1 (hg _ _ h2) ih

theorem extendsAux_sound : ∀ (fuel : Nat) (c : RChain) (b t : Block) (s' : RState),
    (RChain.extendsAux fuel c b t).2 = true → ChainGrows (RChain.extendsAux fuel c b t).1.blocks s'.chain →
    StoreExt s' b t := by
  intro fuel
  induction fuel with
  | zero => intro c b t s' h; simp [RChain.extendsAux] at h
  | succ n ih =>
    intro c b t s' h hg
    unfold RChain.extendsAux at h hg
    split at h
    · rename_i hv
      rw [if_pos hv] at hg
      generalize hget : c.get b.parent = r at h hg
      obtain ⟨c', o⟩ := r
      cases o with
      | none => simp at h
      | some p =>
        simp only at h hg
        have hl : c'.blocks.lookup b.parent = some p := by
          have := get_snd_some c b.parent p (by rw [hget])
          rw [hget] at this; exact this
        have hgr : ChainGrows c'.blocks (RChain.extendsAux n c' p t).1 :=
          chainGrows_extendsAux _ n c' p t (ChainGrows.refl c')
        exact .up b p t hv (hg _ _ (hgr _ _ hl)) (ih c' p t s' h hg)
    · rename_i hv
      rw [if_neg hv] at hg
      simp only [beq_iff_eq] at h
      exact .here b t hv h

theorem extends_sound_chain (c : RChain) (b t : Block) (s' : RState)
    (h : (c.extends b t).2 = true) (hg : ChainGrows (c.extends b t).1.blocks s'.chain) : StoreExt s' b t :=
  extendsAux_sound _ c b t s' h hg

theorem rh_chained_qc (c : RCfg) (s : RState) (b L p : Block) (hr : c.rules = .chained)
    (hl : sget s b.qc.hash = some p) (hv : p.view > L.view) : RuleHolds c s b L := by
  simp only [RuleHolds, hr]; exact Or.inl ⟨p, hl, hv⟩
theorem rh_chained_ext (c : RCfg) (s : RState) (b L : Block) (hr : c.rules = .chained)
    (h : StoreExt s b L) : RuleHolds c s b L := by
  simp only [RuleHolds, hr]; exact Or.inr h
theorem rh_simple (c : RCfg) (s : RState) (b L p : Block) (hr : c.rules = .simple)
    (hl : sget s b.qc.hash = some p) (hv : L.view ≤ p.view) : RuleHolds c s b L := by
  simp only [RuleHolds, hr]; exact ⟨p, hl, hv⟩
theorem rh_fast (c : RCfg) (s : RState) (b L : Block) (hr : c.rules = .fast) : RuleHolds c s b L := by
  simp only [RuleHolds, hr]

/-- where nothing can be fetched `Extends` leaves the store as it is -/
theorem extends_nofetch (c : RChain) (b t : Block) (hf : c.fetchable = []) : (c.extends b t).1 = c := by
  unfold RChain.extends
  generalize c.fuel = fuel
  induction fuel generalizing b with
  | zero => rfl
  | succ n ih =>
    unfold RChain.extendsAux
    split
    · rw [get_nofetch c _ hf]
      cases c.blocks.lookup b.parent with
      | some p => exact ih p
      | none => rfl
    · rfl

theorem after_extends (c : RChain) (b t : Block) : After c (c.extends b t).1 :=
  ⟨chainGrows_extends _ c b t (.refl c), fun x hx => chainAbsent_extends x c b t hx, extends_nofetch c b t⟩

theorem Settles.extendsM {s : RState} {b t : Block} {Q : Bool → RState → Prop}
    (h : ∀ r s', s'.lock = s.lock → (r = true → StoreExt s' b t) → Q r s') :
    Settles s ((extendsM b t).run s) Q :=
  ⟨after_extends _ _ _, fun s' hl ha => h _ s' hl fun hr => extends_sound_chain s.chain b t s' hr ha.1⟩

theorem voteRule_settles (c : RCfg) (v : Nat) (b : Block) (agg : Option AggQC) (hc : c.rules ≠ .fast) (s : RState) :
    Settles s ((voteRule c v b agg).run s) fun r s' =>
      r = true → RuleHolds c s' b s.lock ∧ (Walk2 s' b ∨ Absent b.qc.hash s') := by
  unfold voteRule
  cases hr : c.rules <;> simp only []
  · refine Settles.getBlock_absent fun r1 c1 => Settles.get ?_
    cases r1 with
    | none =>
      exact Settles.extendsM fun r s' _ hx _ ha ht => ⟨rh_chained_ext c s' b _ hr (hx ht), Or.inr (ha rfl)⟩
    | some q =>
      simp only []
      split
      · refine Settles.getBlock fun r2 c2 => ?_
        cases r2 with
        | none => exact Settles.pure fun _ _ _ _ _ h => by cases h
        | some g =>
          refine Settles.get ?_
          simp only []
          split
          · exact Settles.pure fun s' _ e2 e1 _ _ =>
              ⟨rh_chained_qc c s' b _ q hr e1 ‹_›, Or.inl ⟨q, e1, Or.inr ⟨g, e2⟩⟩⟩
          · exact Settles.extendsM fun r s' _ hx e2 e1 _ ht =>
              ⟨rh_chained_ext c s' b _ hr (hx ht), Or.inl ⟨q, e1, Or.inr ⟨g, e2⟩⟩⟩
      · rename_i hq
        have hq : q.qc.hash = "" := by simpa using hq
        refine Settles.get ?_
        split
        · exact Settles.pure fun s' _ e1 _ _ => ⟨rh_chained_qc c s' b _ q hr e1 ‹_›, Or.inl ⟨q, e1, Or.inl hq⟩⟩
        · exact Settles.extendsM fun r s' _ hx e1 _ ht =>
            ⟨rh_chained_ext c s' b _ hr (hx ht), Or.inl ⟨q, e1, Or.inl hq⟩⟩
  · split
    · exact Settles.pure fun _ _ h => by cases h
    refine Settles.getBlock fun r1 c1 => ?_
    cases r1 with
    | none => exact Settles.pure fun _ _ _ h => by cases h
    | some p =>
      simp only []
      split
      · refine Settles.getBlock fun r2 c2 => ?_
        cases r2 with
        | none => exact Settles.pure fun _ _ _ _ h => by cases h
        | some g =>
          simp only []
          exact Settles.get (Settles.pure fun s' _ e2 e1 ht =>
            ⟨rh_simple c s' b _ p hr e1 (by simpa using ht), Or.inl ⟨p, e1, Or.inr ⟨g, e2⟩⟩⟩)
      · rename_i hq
        have hq : p.qc.hash = "" := by simpa using hq
        exact Settles.get (Settles.pure fun s' _ e1 ht =>
          ⟨rh_simple c s' b _ p hr e1 (by simpa using ht), Or.inl ⟨p, e1, Or.inl hq⟩⟩)
  · exact absurd hr hc

theorem qcRef_le (q : QC) (x : Block) :
    ⦃fun s => ⌜s.lock = x⌝⦄ qcRef q ⦃⇓ _ s => ⌜s.lock = x⌝⦄ :=
  (qcRef_steps q).frame Upd.lock_eq x

theorem voteFor_le (c : RCfg) (b : Block) (id : Nat) (x : Block) :
    ⦃fun s => ⌜s.lock = x⌝⦄ voteFor c b id ⦃⇓ _ s => ⌜s.lock = x⌝⦄ :=
  (voteFor_steps c b id).frame Upd.lock_eq x

section AbsentFrames
theorem getBlock_ab (h : Hash) (x : Hash) :
    ⦃fun s => ⌜Absent x s⌝⦄ getBlock h ⦃⇓ _ s => ⌜Absent x s⌝⦄ :=
  triple_of_run _ _ _ fun s ha => chainAbsent_get x h s.chain ha

theorem verifyQCM_ab (k : Keys) (c : RCfg) (q : QC) (x : Hash) :
    ⦃fun s => ⌜Absent x s⌝⦄ verifyQCM k c q ⦃⇓ _ s => ⌜Absent x s⌝⦄ :=
  triple_of_run _ _ _ fun s h => by
    rw [verifyQCM_run]
    show Absent x (fetchedS c q s)
    rcases fetchedS_cases c q s with ⟨e, _⟩ | ⟨_, _, _, _, e⟩ <;> rw [e]
    · exact h
    · exact chainAbsent_get _ _ _ h

theorem verifyAggM_ab (k : Keys) (c : RCfg) (a : AggQC) (x : Hash) :
    ⦃fun s => ⌜Absent x s⌝⦄ verifyAggM k c a ⦃⇓ _ s => ⌜Absent x s⌝⦄ :=
  triple_conseq (verifyAggM_rule k c a (B := fun _ _ => True) fun q => triple_resTrue (verifyQCM_ab k c q x))
    (fun _ h => h) fun _ _ h => h.1

theorem verifyAnyM_ab (k : Keys) (c : RCfg) (q : QC) (agg : Option AggQC) (x : Hash) :
    ⦃fun s => ⌜Absent x s⌝⦄ verifyAnyM k c q agg ⦃⇓ _ s => ⌜Absent x s⌝⦄ :=
  triple_conseq (verifyAnyM_rule k c q agg (B := fun _ => True) (fun a => verifyAggM_ab k c a x)
    (triple_resTrue (verifyQCM_ab k c q x))) (fun _ h => h) fun _ _ h => h.1
end AbsentFrames

/-- both certificate links from `x` are stored, and `LockCovers` — except that chained HotStuff's
commit rule follows no certificate with the empty hash (`qcRef`): a vote for such a block obliges
nothing -/
def LockCoversW (c : RCfg) (s : RState) (x : Block) : Prop :=
  Walk2 s x ∧ ((c.rules = .chained ∧ x.qc.hash = "") ∨ LockCovers s x)

def GP (c : RCfg) (s : RState) (b : Block) : Prop := GPst c s.chain.blocks s.lock b

def VotesCovered (c : RCfg) (s : RState) : Prop := ∀ x id, GRec.vote x id ∈ s.ghost → LockCoversW c s x

/-- `LockFrom`, with the empty-hash side conditions exactly where `commitRule` has them -/
def LockFromW (c : RCfg) (s : RState) : Prop :=
  s.lock = genesisBlock ∨ ∃ x id, GRec.vote x id ∈ s.ghost ∧ GP c s x

def LInv (c : RCfg) (s : RState) : Prop := Grows G0 s ∧ VotesCovered c s ∧ LockFromW c s

/-- `s'` differs from `s` by a grown store only, as far as the lock invariant can see -/
structure Same (s s' : RState) : Prop where
  store : Grows s.chain.blocks s'
  lock : s'.lock = s.lock
  ghost : s'.ghost = s.ghost

theorem grows_trans {x : List (Hash × Block)} {s s' : RState} (h1 : Grows x s) (h2 : Grows s.chain.blocks s') :
    Grows x s' := fun k b hx => h2 k b (h1 k b hx)

/-- `x` is covered by a lock of view `lv`: as the second half of `LockCoversW`, with the lock's view as a parameter -/
def CoveredBy (c : RCfg) (s : RState) (x : Block) (lv : Nat) : Prop :=
  (c.rules = .chained ∧ x.qc.hash = "") ∨
  ∃ p, sget s x.qc.hash = some p ∧ (p.qc.hash = "" ∨ ∃ g, sget s p.qc.hash = some g ∧ g.view ≤ lv)

theorem coveredBy_mono {s s' : RState} (hg : Grows s.chain.blocks s') {lv lv' : Nat} (hl : lv ≤ lv') (c : RCfg) (x : Block)
    (h : CoveredBy c s x lv) : CoveredBy c s' x lv' :=
  h.imp id fun ⟨p, hp, h2⟩ => ⟨p, hg _ _ hp, h2.imp id fun ⟨g, hg', hv⟩ => ⟨g, hg _ _ hg', Nat.le_trans hv hl⟩⟩

theorem walk2_grows {s s' : RState} (hg : Grows s.chain.blocks s') (b : Block) (h : Walk2 s b) : Walk2 s' b :=
  walk2st_mono _ _ b hg h

theorem lockCoversW_step {s s' : RState} (hg : Grows s.chain.blocks s') (hl : s.lock.view ≤ s'.lock.view)
    (c : RCfg) (x : Block) (h : LockCoversW c s x) : LockCoversW c s' x :=
  ⟨walk2_grows hg x h.1, coveredBy_mono hg hl c x h.2⟩

theorem gp_same {s s' : RState} (hg : Grows s.chain.blocks s') (hl : s'.lock = s.lock)
    (c : RCfg) (x : Block) (h : GP c s x) : GP c s' x := by
  unfold GP; rw [hl]; exact gpst_mono hg h

theorem votesCovered_step {s s' : RState} (hg : Grows s.chain.blocks s') (hl : s.lock.view ≤ s'.lock.view)
    (hgh : s'.ghost = s.ghost) (c : RCfg) (h : VotesCovered c s) : VotesCovered c s' :=
  fun x id hm => lockCoversW_step hg hl c x (h x id (hgh ▸ hm))

theorem lockFromW_step {s s' : RState} (hg : Grows s.chain.blocks s') (hl : s'.lock = s.lock)
    (hgh : ∀ r ∈ s.ghost, r ∈ s'.ghost) (c : RCfg) (hf : LockFromW c s) : LockFromW c s' := by
  rcases hf with hf | ⟨x, id, hm, hgp⟩
  · exact Or.inl (hl.trans hf)
  · exact Or.inr ⟨x, id, hgh _ hm, gp_same hg hl c x hgp⟩

theorem lockFromW_same {s s' : RState} (h : Same s s') (c : RCfg) (hf : LockFromW c s) : LockFromW c s' :=
  lockFromW_step h.store h.lock (fun _ hm => h.ghost ▸ hm) c hf

theorem linv_same {s s' : RState} (h : Same s s') (c : RCfg) (hi : LInv c s) : LInv c s' :=
  ⟨grows_trans hi.1 h.store, votesCovered_step h.store (by rw [h.lock]; exact Nat.le_refl _) h.ghost c hi.2.1,
    lockFromW_same h c hi.2.2⟩

theorem Same.trans {s s' s'' : RState} (h : Same s s') (h' : Same s' s'') : Same s s'' :=
  ⟨grows_trans h.store h'.store, h'.lock.trans h.lock, h'.ghost.trans h.ghost⟩

theorem same_of_eq (s s' : RState) (hb : s'.chain.blocks = s.chain.blocks) (hl : s'.lock = s.lock)
    (hg : s'.ghost = s.ghost) : Same s s' :=
  ⟨fun k b h => by show s'.chain.blocks.lookup k = some b; rw [hb]; exact h, hl, hg⟩

theorem Upd.same {t : Tag} {s s' : RState} (h : Upd t s s') (ht : t ∉ [Tag.lock, .voted, .timedOut, .adv]) :
    Same s s' := by
  cases h <;> first
    | exact absurd (by decide) ht
    | exact ⟨‹ChainGrows _ _›, rfl, rfl⟩
    | exact same_of_eq _ _ rfl rfl rfl

theorem StepsOf.same {α} {L : List Tag} {f : M α} (h : StepsOf L f) (s : RState)
    (hL : ∀ t ∈ L, t ∉ [Tag.lock, .voted, .timedOut, .adv] := by decide) : Same s (f.run s).2 :=
  (h s).preserves (P := Same s) (fun t ht _ _ hu hs => hs.trans (hu.same (hL t ht))) (same_of_eq s s rfl rfl rfl)

theorem StepsOf.stable {α} {L : List Tag} {f : M α} (h : StepsOf L f) {P : RState → Prop}
    (hP : ∀ s s', Same s s' → P s → P s') (hL : ∀ t ∈ L, t ∉ [Tag.lock, .voted, .timedOut, .adv] := by decide) :
    ⦃fun s => ⌜P s⌝⦄ f ⦃⇓ _ s => ⌜P s⌝⦄ :=
  triple_of_run _ _ _ fun s hs => hP s _ (h.same s hL) hs

theorem voteRule_wg (c : RCfg) (v : Nat) (b : Block) (agg : Option AggQC) (hc : c.rules ≠ .fast) :
    ⦃fun s => ⌜Grows G0 s⌝⦄ voteRule c v b agg
    ⦃⇓ r s => ⌜r = true → Grows G0 s ∧ (Walk2 s b ∨ Absent b.qc.hash s)⌝⦄ :=
  triple_of_run _ _ _ fun s hs hr =>
    ⟨(voteRule_steps c v b agg s).grows hs, ((voteRule_settles c v b agg hc s).2 _ rfl (.refl _) hr).2⟩

theorem verifyAnyM_wg (k : Keys) (c : RCfg) (b : Block) (agg : Option AggQC) :
    ⦃fun s => ⌜Grows G0 s ∧ (Walk2 s b ∨ Absent b.qc.hash s)⌝⦄ verifyAnyM k c b.qc agg
    ⦃⇓ r s => ⌜r = .ok () → Walk2 s b⌝⦄ := by
  apply triple_of_run
  intro s ⟨hg0, hw⟩ hr
  have hgr : Grows s.chain.blocks _ := (verifyAnyM_steps k c b.qc agg s).chainGrows
  rcases hw with hw | ha
  · exact walk2_grows hgr b hw
  · exfalso
    have ha' := run_res_of_triple _ _ _ (verifyAnyM_ab k c b.qc agg b.qc.hash) s ha
    have hbv := verifyQC_blockView k c _ _ ((run_res_of_triple _ _ _ (verifyAnyM_vs k c b.qc agg (VS s)) s rfl).2 hr)
    have hg0' : Grows G0 ((verifyAnyM k c b.qc agg).run s).2 := grows_trans hg0 hgr
    rcases hbv with ⟨hh, _⟩ | ⟨blk, hblk, _⟩
    · have := hg0' genesisHash genesisBlock (by simp [G0])
      rw [hh] at ha'
      rw [ha'.1] at this; cases this
    · rw [ha'.1] at hblk; cases hblk

theorem voterVerify_walk (k : Keys) (c : RCfg) (id : Nat) (b : Block) (agg : Option AggQC) (hc : c.rules ≠ .fast) :
    ⦃fun s => ⌜Grows G0 s⌝⦄ voterVerify k c id b agg ⦃⇓ r s => ⌜r = .ok () → Walk2 s b⌝⦄ :=
  voterVerify_rule_ok k c id b agg (voteRule_wg c b.view b agg hc) (verifyAnyM_wg k c b agg)

theorem lockCoversW_of_commitLock (c : RCfg) (hc : c.rules ≠ .fast) (b L : Block) (s : RState)
    (hl : s.lock = commitLock c b (sget s) L) (hw : Walk2 s b) : LockCoversW c s b := by
  refine ⟨hw, ?_⟩
  obtain ⟨p, hp1, hp2⟩ := hw
  by_cases hb : c.rules = .chained ∧ b.qc.hash = ""
  · exact Or.inl hb
  · right
    refine ⟨p, hp1, ?_⟩
    rcases hp2 with hp2 | ⟨g, hg⟩
    · exact Or.inl hp2
    · by_cases hpe : p.qc.hash = ""
      · exact Or.inl hpe
      · refine Or.inr ⟨g, hg, ?_⟩
        rw [hl]
        exact commitLock_covers c hc b L g _ ⟨p, hp1, fun hch => ⟨fun h => hb ⟨hch, h⟩, hpe⟩, hg⟩

theorem gp_of_commitLock (c : RCfg) (b L : Block) (s : RState)
    (hl : s.lock = commitLock c b (sget s) L) : s.lock = L ∨ GP c s b := by
  unfold GP
  rw [hl]
  exact (commitLock_from c b L _).imp id And.left

theorem tryCommit_lock (c : RCfg) (b : Block) (hc : c.rules ≠ .fast) (s : RState) :
    ((tryCommit c b).run s).2.ghost = s.ghost ∧ Grows s.chain.blocks ((tryCommit c b).run s).2 ∧
    s.lock.view ≤ ((tryCommit c b).run s).2.lock.view ∧
    (Walk2 s b → LockCoversW c ((tryCommit c b).run s).2 b) ∧
    (((tryCommit c b).run s).2.lock = s.lock ∨ GP c ((tryCommit c b).run s).2 b) :=
  have h := tryCommit_commit c b s
  have hg := h.steps.chainGrows
  ⟨tryCommit_ghost c b s, hg, h.steps.lock_le,
    fun hw => lockCoversW_of_commitLock c hc b s.lock _ h.lock (walk2_grows hg b hw), gp_of_commitLock c b s.lock _ h.lock⟩

/-- between `tryCommit c b` and `voteFor c b` (`onValidPropose`): the vote for `b` is not recorded
yet, but `b` is covered already and the lock may come from `b` -/
def LInvBut (c : RCfg) (b : Block) (s : RState) : Prop :=
  Grows G0 s ∧ VotesCovered c s ∧ LockCoversW c s b ∧ (LockFromW c s ∨ GP c s b)

/-- between `voteFor c b` and `tryCommit c b` (`createAndPropose`): the vote for `b` is recorded and
not covered yet; both certificate links from `b` are stored -/
def LPend (c : RCfg) (b : Block) (s : RState) : Prop :=
  Grows G0 s ∧ (∀ x id, GRec.vote x id ∈ s.ghost → x = b ∨ LockCoversW c s x) ∧ LockFromW c s ∧ Walk2 s b ∧
  ∃ id, GRec.vote b id ∈ s.ghost

theorem linvBut_same (c : RCfg) (b : Block) (s s' : RState) (h : Same s s') (hi : LInvBut c b s) : LInvBut c b s' :=
  ⟨grows_trans hi.1 h.store, votesCovered_step h.store (by rw [h.lock]; exact Nat.le_refl _) h.ghost c hi.2.1,
    lockCoversW_step h.store (by rw [h.lock]; exact Nat.le_refl _) c b hi.2.2.1, hi.2.2.2.imp (lockFromW_same h c) (gp_same h.store h.lock c b)⟩

theorem linvW_same (c : RCfg) (b : Block) (s s' : RState) (h : Same s s') (hi : LInv c s ∧ Walk2 s b) :
    LInv c s' ∧ Walk2 s' b := ⟨linv_same h c hi.1, walk2_grows h.store b hi.2⟩

theorem tryCommit_linvBut (c : RCfg) (b : Block) (hc : c.rules ≠ .fast) (s : RState) (h : LInv c s ∧ Walk2 s b) :
    LInvBut c b ((tryCommit c b).run s).2 := by
  obtain ⟨⟨h0, hv, hf⟩, hw⟩ := h
  obtain ⟨hgh, hgr, hlk, hcov, hgp⟩ := tryCommit_lock c b hc s
  refine ⟨grows_trans h0 hgr, votesCovered_step hgr hlk hgh c hv, hcov hw, ?_⟩
  rcases hgp with hgp | hgp
  · exact Or.inl (lockFromW_same ⟨hgr, hgp, hgh⟩ c hf)
  · exact Or.inr hgp

theorem tryCommit_linv (c : RCfg) (b : Block) (hc : c.rules ≠ .fast) (s : RState) (h : LPend c b s) :
    LInv c ((tryCommit c b).run s).2 := by
  obtain ⟨h0, hv, hf, hw, id, hid⟩ := h
  obtain ⟨hgh, hgr, hlk, hcov, hgp⟩ := tryCommit_lock c b hc s
  refine ⟨grows_trans h0 hgr, ?_, ?_⟩
  · intro x id' hm
    rw [hgh] at hm
    rcases hv x id' hm with rfl | hx
    · exact hcov hw
    · exact lockCoversW_step hgr hlk c x hx
  · rcases hgp with hgp | hgp
    · exact lockFromW_same ⟨hgr, hgp, hgh⟩ c hf
    · exact Or.inr ⟨b, id, hgh ▸ hid, hgp⟩

theorem linv_vote (c : RCfg) (s s' : RState) (b : Block) (id : Nat)
    (hg : s'.ghost = s.ghost ++ [.vote b id]) (hc : s'.chain = s.chain) (hl : s'.lock = s.lock)
    (h : LInvBut c b s) : LInv c s' := by
  obtain ⟨h0, hv, hb, hf⟩ := h
  have hgr : Grows s.chain.blocks s' := grows_of_blocks_eq s s' (by rw [hc])
  have hle : s.lock.view ≤ s'.lock.view := Nat.le_of_eq (by rw [hl])
  have hgh : ∀ r ∈ s.ghost, r ∈ s'.ghost := fun r hr => hg ▸ List.mem_append_left _ hr
  refine ⟨grows_trans h0 hgr, ?_, ?_⟩
  · intro x id' hm
    rw [hg] at hm
    exact votes_snoc (fun x i hm => lockCoversW_step hgr hle c x (hv x i hm))
      (fun _ _ e => by cases e; exact lockCoversW_step hgr hle c b hb) x id' hm
  · rcases hf with hf | hgp
    · exact lockFromW_step hgr hl hgh c hf
    · exact Or.inr ⟨b, id, by rw [hg]; simp, gp_same hgr hl c b hgp⟩

theorem lpend_vote (c : RCfg) (s s' : RState) (b : Block) (id : Nat)
    (hg : s'.ghost = s.ghost ++ [.vote b id]) (hc : s'.chain = s.chain) (hl : s'.lock = s.lock)
    (h : LInv c s ∧ Walk2 s b) : LPend c b s' := by
  obtain ⟨⟨h0, hv, hf⟩, hw⟩ := h
  have hgr : Grows s.chain.blocks s' := grows_of_blocks_eq s s' (by rw [hc])
  have hle : s.lock.view ≤ s'.lock.view := Nat.le_of_eq (by rw [hl])
  have hgh : ∀ r ∈ s.ghost, r ∈ s'.ghost := fun r hr => hg ▸ List.mem_append_left _ hr
  refine ⟨grows_trans h0 hgr, ?_, ?_, walk2_grows hgr b hw, id, by rw [hg]; simp⟩
  · intro x id' hm
    rw [hg] at hm
    exact votes_snoc (fun x i hm => Or.inr (lockCoversW_step hgr hle c x (hv x i hm)))
      (fun _ _ e => Or.inl (GRec.vote.inj e).1.symm) x id' hm
  · exact lockFromW_step hgr hl hgh c hf

theorem linv_append (c : RCfg) (s s' : RState) (r : GRec) (hr : ∀ b id, r ≠ .vote b id)
    (hg : s'.ghost = s.ghost ++ [r]) (hc : s'.chain = s.chain) (hl : s'.lock = s.lock) (h : LInv c s) : LInv c s' := by
  obtain ⟨h0, hv, hf⟩ := h
  have hgr : Grows s.chain.blocks s' := grows_of_blocks_eq s s' (by rw [hc])
  have hle : s.lock.view ≤ s'.lock.view := Nat.le_of_eq (by rw [hl])
  have hgh : ∀ r ∈ s.ghost, r ∈ s'.ghost := fun r hr => hg ▸ List.mem_append_left _ hr
  refine ⟨grows_trans h0 hgr, ?_, ?_⟩
  · intro x id' hm
    rw [hg] at hm
    exact votes_snoc (fun x i hm => lockCoversW_step hgr hle c x (hv x i hm)) (fun x i e => absurd e (hr x i)) x id' hm
  · exact lockFromW_step hgr hl hgh c hf

theorem linv_congr (c : RCfg) (s s' : RState) (hg : s'.ghost = s.ghost) (hc : s'.chain = s.chain)
    (hl : s'.lock = s.lock) (h : LInv c s) : LInv c s' :=
  linv_same (same_of_eq s s' (by rw [hc]) hl hg) c h

section LInvChain
variable (k : Keys) (c : RCfg)

theorem Upd.linv {t : Tag} {s s' : RState} (h : Upd t s s') (ht : t ∉ [Tag.lock, .voted]) (hi : LInv c s) :
    LInv c s' := by
  cases h with
  | lock | voted => exact absurd (by decide) ht
  | timedOut | adv => exact linv_append c _ _ _ (fun _ _ e => by cases e) rfl rfl rfl hi
  | chain s c' hg => exact linv_same (s' := { s with chain := c' }) ⟨hg, rfl, rfl⟩ c hi
  | _ => exact hi

theorem StepsOf.linv {α} {L : List Tag} {f : M α} (h : StepsOf L f) (hL : ∀ t ∈ L, t ∉ [Tag.lock, .voted] := by decide) :
    ⦃fun s => ⌜LInv c s⌝⦄ f ⦃⇓ _ s => ⌜LInv c s⌝⦄ :=
  h.preserves (upd_of_notin (Upd.linv c) L hL)

theorem voteFor_linv (b : Block) (id : Nat) (s : RState) (h : LInvBut c b s) : LInv c ((voteFor c b id).run s).2 :=
  run_res_of_triple _ _ _ (voteFor_rule c b id ((signMsg_steps c _).stable (linvBut_same c b))
    fun s h => linv_vote c s _ b id rfl rfl rfl h) s h

theorem voteFor_lpend (b : Block) (id : Nat) (s : RState) (h : LInv c s ∧ Walk2 s b) :
    LPend c b ((voteFor c b id).run s).2 :=
  run_res_of_triple _ _ _ (voteFor_rule c b id ((signMsg_steps c _).stable (linvW_same c b))
    fun s h => lpend_vote c s _ b id rfl rfl rfl h) s h

variable (hc : c.rules ≠ .fast)
include hc

theorem voterVerify_li (id : Nat) (b : Block) (agg : Option AggQC) :
    ⦃fun s => ⌜LInv c s⌝⦄ voterVerify k c id b agg ⦃⇓ r s => ⌜LInv c s ∧ (r = .ok () → Walk2 s b)⌝⦄ :=
  triple_of_run _ _ _ fun s hi => ⟨linv_same ((voterVerify_steps k c id b agg).same s) c hi,
    run_res_of_triple _ _ _ (voterVerify_walk k c id b agg hc) s hi.1⟩

theorem linv_accept : AcceptInv k c [.lock, .voted] (LInv c) (fun _ b s => Walk2 s b) where
  verify := voterVerify_li k c hc
  commitVote id b s hi hw := voteFor_linv c b id _ (tryCommit_linvBut c b hc s ⟨hi, hw⟩)
  voteCommit id b s hi hw := tryCommit_linv c b hc _ (voteFor_lpend c b id s ⟨hi, hw⟩)
  upd := Upd.linv c
  out _ h := h

end LInvChain

end HsVerif.Model
