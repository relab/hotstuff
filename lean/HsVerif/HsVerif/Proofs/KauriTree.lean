import HsVerif.Proofs.Kauri
import HsVerif.Proofs.Tree
import HsVerif.Proofs.QuorumCount
/-! Helper lemmas for the composition of the Kauri aggregation nodes along the tree (Props/C09Tree):
closed sub-trees of the tree model and the bottom-up run of the whole tree, every node being the
one-node model of Proofs/Kauri.lean (`node_run`). -/
namespace HsVerif.Model
namespace Tree

/-! ### closed sub-trees: a node with the sub-trees of its children, pairwise disjoint -/

theorem Desc.top {ch : Nat → List Nat} {r c : Nat} : Desc ch r c ↔ ∃ x ∈ ch r, x = c ∨ Desc ch x c := by
  constructor
  · intro h
    induction h with
    | child hc => exact ⟨_, hc, Or.inl rfl⟩
    | step hd hc ih =>
      obtain ⟨y, hy, h⟩ := ih
      refine ⟨y, hy, Or.inr ?_⟩
      rcases h with h | h
      · subst h; exact Desc.child hc
      · exact Desc.step h hc
  · rintro ⟨x, hx, h | h⟩
    · subst h; exact Desc.child hx
    · exact Desc.trans (Desc.child hx) h

theorem GoodCh.desc_iff {ch : Nat → List Nat} {U : List Nat} (g : GoodCh ch U) {p c : Nat} (hc : c ∈ ch p) (a : Nat) :
    Desc ch a c ↔ a = p ∨ Desc ch a p := by
  constructor
  · intro h
    cases h with
    | child h1 => exact Or.inl (g.uniq _ _ _ h1 hc)
    | step hd h1 => exact Or.inr (g.uniq _ _ _ h1 hc ▸ hd)
  · rintro (rfl | h)
    · exact Desc.child hc
    · exact Desc.step h hc

theorem Desc.chain {ch : Nat → List Nat} {U : List Nat} (g : GoodCh ch U) {a x : Nat} (h : Desc ch a x) :
    ∀ b, Desc ch b x → a = b ∨ Desc ch a b ∨ Desc ch b a := by
  induction h with
  | child hc =>
    intro b hb
    exact ((g.desc_iff hc b).mp hb).elim (fun e => Or.inl e.symm) (fun h => Or.inr (Or.inr h))
  | step hd hc ih =>
    intro b hb
    rcases (g.desc_iff hc b).mp hb with rfl | h
    · exact Or.inr (Or.inl hd)
    · exact ih b h

theorem sibling_not_desc {ch : Nat → List Nat} {U : List Nat} (g : GoodCh ch U) {r c c' : Nat}
    (hc : c ∈ ch r) (hc' : c' ∈ ch r) : ¬ Desc ch c' c := by
  intro h
  rcases (g.desc_iff hc c').mp h with rfl | h
  · exact g.acyc _ (Desc.child hc')
  · exact g.acyc _ (Desc.trans (Desc.child hc') h)

theorem closed_disjoint {ch : Nat → List Nat} {U : List Nat} (g : GoodCh ch U) {r c c' x : Nat}
    (hc : c ∈ ch r) (hc' : c' ∈ ch r) (hx : x = c ∨ Desc ch c x) (hx' : x = c' ∨ Desc ch c' x) : c = c' := by
  rcases hx with hx | hx <;> rcases hx' with hx' | hx'
  · exact hx.symm.trans hx'
  · subst hx; exact absurd hx' (sibling_not_desc g hc hc')
  · subst hx'; exact absurd hx (sibling_not_desc g hc' hc)
  · rcases hx.chain g _ hx' with h | h | h
    · exact h
    · exact absurd h (sibling_not_desc g hc' hc)
    · exact absurd h (sibling_not_desc g hc hc')

theorem cl_flatMap_nodup {b : Nat} {pos : List Nat} (hnd : pos.Nodup) (hb : 2 ≤ b) (r : Nat) {ids : List Nat}
    (hids : ids.Nodup) (hsub : ∀ x ∈ ids, x ∈ (mk' 0 b pos).childrenOf r) : (r :: ids.flatMap (cl b pos)).Nodup := by
  have g := goodCh_mk' (id := 0) hnd hb
  rw [List.nodup_cons]
  constructor
  · intro h
    obtain ⟨c, hc, hr⟩ := List.mem_flatMap.mp h
    rcases (mem_cl hnd hb c r).mp hr with e | hd
    · subst e; exact g.acyc _ (Desc.child (hsub _ hc))
    · exact g.acyc _ (Desc.trans (Desc.child (hsub _ hc)) hd)
  · exact nodup_flatMap_of_mem hids (fun x _ => cl_nodup hnd hb x) fun x hx y hy c hcx hcy =>
      closed_disjoint g (hsub x hx) (hsub y hy) ((mem_cl hnd hb x c).mp hcx) ((mem_cl hnd hb y c).mp hcy)

theorem cl_children {b : Nat} {pos : List Nat} (hnd : pos.Nodup) (hb : 2 ≤ b) (r : Nat) :
    (cl b pos r).Perm (r :: ((mk' r b pos).childrenOf r).flatMap (cl b pos)) := by
  show (cl b pos r).Perm (r :: ((mk' 0 b pos).childrenOf r).flatMap (cl b pos))
  rw [List.perm_ext_iff_of_nodup (cl_nodup hnd hb r)
    (cl_flatMap_nodup hnd hb r ((goodCh_mk' (id := 0) hnd hb).nodup r) fun _ h => h)]
  intro x
  rw [mem_cl hnd hb, List.mem_cons, Desc.top]
  simp only [List.mem_flatMap, mem_cl hnd hb, eq_comm]

end Tree
open Bitfield Tree

theorem honestSig_ok (T : Truth) (c : Cfg) (i : Nat) (m : Msg) (s : Sig) (hi : c.has i = true)
    (h : HonestSig T c i m s) : verify T c s m = true ∧ s.WF ∧ s.participants = [i] := by
  rcases h with ⟨hs, b, rfl, hT⟩ | ⟨hs, rfl⟩
  · exact ⟨(verify_multi T c _ _ m).mpr ⟨rfl, hs, by simp, by simp, by simpa using ⟨hi, hT⟩⟩, trivial, rfl⟩
  · have hids := ids_single i (Cfg.one_le_of_has hi)
    have hinv : Inv (Bitfield.empty.add i) := inv_add _ _ (Cfg.one_le_of_has hi) inv_empty
    exact ⟨(verify_bls T c _ _ _ m hinv).mpr ⟨hs, by simp [hids], by simpa [hids] using hi, rfl, by simp [hids]⟩,
      hinv, hids⟩

/-! ### the whole tree: every node's model, wired along the tree -/

/-- a position assignment of the replicas `1..n` (what `DefaultTreePos(n)` returns and `Shuffle`
preserves: `Props.C17.defaultTreePos_valid`, `shuffle_valid`) -/
def ValidPos (n : Nat) (pos : List Nat) : Prop :=
  pos.Nodup ∧ pos.length = n ∧ ∀ x, x ∈ pos ↔ 1 ≤ x ∧ x ≤ n

theorem ValidPos.nodup {n : Nat} {pos : List Nat} (h : ValidPos n pos) : pos.Nodup := h.1

theorem ValidPos.length_eq {n : Nat} {pos : List Nat} (h : ValidPos n pos) : pos.length = n := h.2.1

theorem ValidPos.mem_iff {n : Nat} {pos : List Nat} (h : ValidPos n pos) (x : Nat) : x ∈ pos ↔ 1 ≤ x ∧ x ≤ n := h.2.2 x

/-- one view of Kauri in the whole tree: the ground truth of the signatures, the configuration, the
tree (branch factor, position assignment), the view and block voted on, every replica's own vote,
every node's state before the view, and which replicas take part (`live r = false`: `r` is silent,
it never contributes) -/
structure TreeRun where
  T : Truth
  cfg : Cfg
  b : Nat
  pos : List Nat
  view : Nat
  hash : Hash
  own : Nat → Sig
  st0 : Nat → KState := fun _ => {}
  live : Nat → Bool := fun _ => true

namespace TreeRun

/-- the configuration of node `r`: its own `tree.NewSimple(r, b, pos)` (as the driver builds it) -/
def node (R : TreeRun) (r : Nat) : KCfg :=
  { cfg := R.cfg, id := r, children := (Tree.mk' r R.b R.pos).replicaChildren,
    subtree := (Tree.mk' r R.b R.pos).subTree }

def ch (R : TreeRun) (r : Nat) : List Nat := (Tree.mk' r R.b R.pos).childrenOf r

/-- the tree leader -/
def root (R : TreeRun) : Nat := R.pos.getD 0 0

/-- the operations of node `r` before its wait timer: `begin` with its own vote, then the
contributions `cs` (sender, aggregate) in this order, the block being in the store -/
def ops (R : TreeRun) (r : Nat) (cs : List (Nat × Sig)) : List KOp := nodeOps R.view R.hash (R.own r) cs

def effects (R : TreeRun) (r : Nat) (cs : List (Nat × Sig)) : List KEffect :=
  (kRun R.T (R.node r) (R.st0 r) (R.ops r cs ++ [.timerExpired R.view])).2

/-- **The bottom-up run.**  `Sends r agg`: node `r` (taking part) begins the view with its own vote,
is fed — for each of its children that take part, in ANY order — an aggregate that the child's own
bottom-up run sent to its parent, then its wait timer fires; and `agg` is an aggregate it hands to
`SendContributionToParent` during that. -/
inductive Sends (R : TreeRun) : Nat → Sig → Prop
  | node {r : Nat} {cs : List (Nat × Sig)} {agg : Sig} :
      r ∈ R.pos → R.live r = true →
      (cs.map (·.1)).Perm ((R.ch r).filter R.live) →
      (∀ p ∈ cs, Sends R p.1 p.2) →
      KEffect.sendToParent R.view (some agg) ∈ R.effects r cs →
      Sends R r agg

/-- the tree and the votes are well formed: branch factor ≥ 2, `pos` assigns the replicas `1..n`
(n ≥ 1), every replica that takes part holds the vote `Sign` returns for the block, a silent replica
is a leaf, the root takes part -/
structure Valid (R : TreeRun) : Prop where
  hb : 2 ≤ R.b
  hn : 1 ≤ R.cfg.n
  vpos : ValidPos R.cfg.n R.pos
  own : ∀ i ∈ R.pos, R.live i = true → HonestSig R.T R.cfg i (blkMsg R.hash) (R.own i)
  silent_leaf : ∀ i ∈ R.pos, R.live i = false → R.ch i = []
  root_live : R.live R.root = true

/-- every replica is honest and takes part -/
structure Honest (R : TreeRun) : Prop extends R.Valid where
  all_live : ∀ i, R.live i = true

def part (R : TreeRun) (r : Nat) : List Nat := (cl R.b R.pos r).filter R.live

end TreeRun

theorem flatMap_filter_of_nil {f : Nat → List Nat} {q : Nat → Bool} : ∀ (l : List Nat),
    (∀ x ∈ l, q x = false → f x = []) → l.flatMap f = (l.filter q).flatMap f := by
  intro l
  induction l with
  | nil => intro _; rfl
  | cons a l ih =>
    intro h
    have ih' := ih (fun x hx => h x (by simp [hx]))
    cases hq : q a with
    | true => simp [hq, ih']
    | false => simp [hq, ih', h a (by simp) hq]

theorem flatMap_perm_pointwise {α : Type} {f g : α → List Nat} : ∀ (l : List α),
    (∀ p ∈ l, (g p).Perm (f p)) → (l.flatMap g).Perm (l.flatMap f) := by
  intro l
  induction l with
  | nil => intro _; exact List.Perm.refl _
  | cons a l ih =>
    intro h
    simp only [List.flatMap_cons]
    exact (h a (by simp)).append (ih (fun p hp => h p (by simp [hp])))

/-- lists that are, up to order, the pieces of a duplicate-free concatenation are pairwise disjoint -/
theorem disj_of_nodup_flatMap {α : Type} {f g : α → List Nat} (x : Nat) (l : List α)
    (hp : ∀ p ∈ l, (g p).Perm (f p)) (hn : (x :: l.flatMap f).Nodup) : ([x] :: l.map g).Pairwise Disj := by
  rw [List.nodup_cons, List.Nodup, List.pairwise_flatMap] at hn
  rw [List.pairwise_cons, List.pairwise_map]
  refine ⟨fun b hb i hi hib => ?_, hn.2.2.imp_of_mem fun ha hb h i hi hj =>
    h i ((hp _ ha).mem_iff.mp hi) i ((hp _ hb).mem_iff.mp hj) rfl⟩
  obtain ⟨p, hpl, rfl⟩ := List.mem_map.mp hb
  rw [List.mem_singleton.mp hi] at hib
  exact hn.1 (List.mem_flatMap.mpr ⟨p, hpl, (hp p hpl).mem_iff.mp hib⟩)

namespace TreeRun

theorem own_ok (R : TreeRun) (V : R.Valid) {i : Nat} (hi : i ∈ R.pos) (hl : R.live i = true) :
    SigOK R.T (R.node i) R.hash (R.own i) ∧ (R.own i).participants = [i] := by
  have hhas : R.cfg.has i = true := by simp [Cfg.has, (V.vpos.mem_iff i).mp hi]
  obtain ⟨h1, h2, h3⟩ := honestSig_ok R.T R.cfg i _ _ hhas (V.own i hi hl)
  exact ⟨⟨h1, h2⟩, h3⟩

theorem part_children (R : TreeRun) (V : R.Valid) {r : Nat} (hl : R.live r = true) :
    (R.part r).Perm (r :: ((R.ch r).filter R.live).flatMap R.part) := by
  have h1 := (cl_children V.vpos.nodup V.hb r).filter R.live
  rw [List.filter_cons, if_pos hl, List.filter_flatMap] at h1
  refine h1.trans (List.Perm.of_eq (congrArg _ (flatMap_filter_of_nil _ fun x hx hq => ?_)))
  have hxp : x ∈ R.pos := (goodCh_mk' (id := r) V.vpos.nodup V.hb).sub _ _ hx
  simp [cl, subTree_leaf (Tree.mk' x R.b R.pos) (V.silent_leaf x hxp hq), hq]

/-- the replicas covered by `r`'s own vote and the sub-trees of the children `ids` -/
def covered (R : TreeRun) (ids : List Nat) : Nat := 1 + (ids.flatMap R.part).length

theorem part_nodup (R : TreeRun) (V : R.Valid) (r : Nat) (ids : List Nat) (hnd : ids.Nodup)
    (hsub : ∀ x ∈ ids, x ∈ R.ch r) : (r :: ids.flatMap R.part).Nodup := by
  have : ids.flatMap R.part = (ids.flatMap (cl R.b R.pos)).filter R.live := List.filter_flatMap.symm
  rw [this]
  exact (List.filter_sublist.cons_cons r).nodup (cl_flatMap_nodup V.vpos.nodup V.hb r hnd hsub)

/-- node `r` takes part and `cs` are aggregates of the sub-trees of distinct children of it, each
verifying for the block (what the children's bottom-up runs send: `sends_ok`) -/
structure Fed (R : TreeRun) (r : Nat) (cs : List (Nat × Sig)) : Prop where
  mem : r ∈ R.pos
  live : R.live r = true
  nodup : (cs.map (·.1)).Nodup
  sub : ∀ x ∈ cs.map (·.1), x ∈ R.ch r
  ok : ∀ p ∈ cs, SigOK R.T (R.node r) R.hash p.2 ∧ p.2.participants.Perm (R.part p.1)

theorem Fed.take {R : TreeRun} {r : Nat} {cs : List (Nat × Sig)} (F : R.Fed r cs) (k : Nat) : R.Fed r (cs.take k) :=
  have hsub : (cs.take k).Sublist cs := List.take_sublist _ _
  ⟨F.mem, F.live, (hsub.map _).nodup F.nodup, fun x hx => F.sub x ((hsub.map _).subset hx),
    fun p hp => F.ok p (hsub.subset hp)⟩

theorem Fed.of_perm {R : TreeRun} (V : R.Valid) {r : Nat} {cs : List (Nat × Sig)} (hr : r ∈ R.pos) (hl : R.live r = true)
    (hids : (cs.map (·.1)).Perm ((R.ch r).filter R.live))
    (hcs : ∀ p ∈ cs, SigOK R.T (R.node r) R.hash p.2 ∧ p.2.participants.Perm (R.part p.1)) : R.Fed r cs :=
  ⟨hr, hl, hids.nodup_iff.mpr (((goodCh_mk' (id := r) V.vpos.nodup V.hb).nodup r).filter _),
    fun _ hx => (List.mem_filter.mp (hids.mem_iff.mp hx)).1, hcs⟩

/-- what node `r` holds and has emitted after the contributions `cs`: the aggregate of its own vote and all of them
(`len`: as many participants as `covered`), the certificates of `qcTrace`; `sent`: in the whole view, wait timer
included, exactly this aggregate goes to the parent; `waits` / `early`: before the timer nothing goes up while a
sub-tree replica has not contributed, and the aggregate goes up when all have -/
structure NodeFacts (R : TreeRun) (r : Nat) (cs : List (Nat × Sig)) : Prop where
  held : (kRun R.T (R.node r) (R.st0 r) (R.ops r cs)).1.aggContrib = some (aggAfter R.cfg (R.own r) cs)
  ok : SigOK R.T (R.node r) R.hash (aggAfter R.cfg (R.own r) cs)
  perm : (aggAfter R.cfg (R.own r) cs).participants.Perm (r :: (cs.map (·.1)).flatMap R.part)
  len : (aggAfter R.cfg (R.own r) cs).len = R.covered (cs.map (·.1))
  qcs : (kRun R.T (R.node r) (R.st0 r) (R.ops r cs)).2.filter KEffect.isQC = qcTrace R.cfg R.view R.hash (R.own r) cs
  sent : (R.effects r cs).filter KEffect.isSend = [.sendToParent R.view (some (aggAfter R.cfg (R.own r) cs))]
  waits : (∃ g ∈ (R.node r).subtree, g ∉ cs.map (·.1)) →
    (kRun R.T (R.node r) (R.st0 r) (R.ops r cs)).2.filter KEffect.isSend = []
  early : (∀ g ∈ (R.node r).subtree, g ∈ cs.map (·.1)) →
    (kRun R.T (R.node r) (R.st0 r) (R.ops r cs)).2.filter KEffect.isSend =
      [.sendToParent R.view (some (aggAfter R.cfg (R.own r) cs))]

/-- node `r` of the tree, fed with aggregates of the sub-trees of SOME of its children (distinct ones) -/
theorem node_in_tree_part (R : TreeRun) (V : R.Valid) {r : Nat} {cs : List (Nat × Sig)} (F : R.Fed r cs) :
    R.NodeFacts r cs := by
  obtain ⟨hr, hl, hidnd, hidsub, hcs⟩ := F
  obtain ⟨hown, hownp⟩ := R.own_ok V hr hl
  have hnd1 : (r :: cs.flatMap (fun p => R.part p.1)).Nodup := by
    rw [← List.flatMap_map (fun p : Nat × Sig => p.1) R.part cs]
    exact R.part_nodup V r _ hidnd hidsub
  have hsub := fun x hx => ((subTree_spec _ (goodCh_mk' (id := r) V.vpos.nodup V.hb)).2 x).mpr (Desc.child hx)
  have hvalid : ∀ p ∈ cs, verify R.T R.cfg p.2.fromWire (blkMsg R.hash) = true := fun p hp => by
    rw [fromWire_of_WF _ (hcs p hp).1.2]; exact (hcs p hp).1.1
  have hdisj := hownp ▸ disj_of_nodup_flatMap r cs (fun p hp => (hcs p hp).2) hnd1
  have N := node_run R.T (R.node r) (R.st0 r) R.view R.hash (R.own r) cs hown
    hidnd hidsub hsub (subTree_leaf (Tree.mk' r R.b R.pos)) hvalid hdisj
  have hsent : (R.effects r cs).filter KEffect.isSend = [.sendToParent R.view (some (aggAfter R.cfg (R.own r) cs))] := by
    rw [effects, kRun_append, kRun_cons, kRun_nil, List.append_nil]
    refine timer_sends R.T (R.node r) _ _ _ _ N.view N.held ?_
    cases hcov : isSubSet (R.node r).subtree (cs.map (·.1)) with
    | false => exact Or.inl (N.waits ((isSubSet_eq_false _ _).mp hcov))
    | true => exact Or.inr (N.sent ((isSubSet_iff _ _).mp hcov))
  have hperm : (aggAfter R.cfg (R.own r) cs).participants.Perm (r :: (cs.map (·.1)).flatMap R.part) := by
    refine N.perm.trans ?_
    rw [hownp, List.flatMap_map]
    exact List.Perm.cons _ (flatMap_perm_pointwise cs (fun p hp => (hcs p hp).2))
  have hok : SigOK R.T (R.node r) R.hash (aggAfter R.cfg (R.own r) cs) := N.ok
  refine ⟨N.held, hok, hperm, ?_, N.qcs, hsent, fun hg => (N.waits hg).2, fun hc => (N.sent hc).2⟩
  rw [← (sigOK_nodup R.T (R.node r) R.hash _ hok).2, hperm.length_eq, List.length_cons, covered, Nat.add_comm]

/-- node `r` of the tree, fed with aggregates of the sub-trees of ALL its children that take part -/
theorem node_in_tree (R : TreeRun) (V : R.Valid) {r : Nat} (hr : r ∈ R.pos) (hl : R.live r = true)
    (cs : List (Nat × Sig)) (hids : (cs.map (·.1)).Perm ((R.ch r).filter R.live))
    (hcs : ∀ p ∈ cs, SigOK R.T (R.node r) R.hash p.2 ∧ p.2.participants.Perm (R.part p.1)) :
    (kRun R.T (R.node r) (R.st0 r) (R.ops r cs)).1.aggContrib = some (aggAfter R.cfg (R.own r) cs) ∧
    SigOK R.T (R.node r) R.hash (aggAfter R.cfg (R.own r) cs) ∧
    (aggAfter R.cfg (R.own r) cs).participants.Perm (R.part r) ∧
    (R.effects r cs).filter KEffect.isSend = [.sendToParent R.view (some (aggAfter R.cfg (R.own r) cs))] := by
  have N := R.node_in_tree_part V (Fed.of_perm V hr hl hids hcs)
  exact ⟨N.held, N.ok, N.perm.trans ((List.Perm.cons _ (hids.flatMap_right _)).trans (R.part_children V hl).symm), N.sent⟩

theorem sends_ok (R : TreeRun) (V : R.Valid) {r : Nat} {agg : Sig} (h : R.Sends r agg) :
    SigOK R.T (R.node r) R.hash agg ∧ agg.participants.Perm (R.part r) := by
  induction h with
  | @node r cs agg hr hl hids hcs hmem ih =>
    obtain ⟨_, h4, h5, h7⟩ := R.node_in_tree V hr hl cs hids ih
    have : KEffect.sendToParent R.view (some agg) ∈ (R.effects r cs).filter KEffect.isSend :=
      List.mem_filter.mpr ⟨hmem, rfl⟩
    rw [h7] at this
    simp only [List.mem_singleton, KEffect.sendToParent.injEq, Option.some.injEq, true_and] at this
    subst this
    exact ⟨h4, h5⟩

end TreeRun

theorem qcTrace_snoc (cfg : Cfg) (v : Nat) (h : Hash) (p : Nat × Sig) : ∀ (a : List (Nat × Sig)) (agg : Sig),
    qcTrace cfg v h agg (a ++ [p]) = qcTrace cfg v h agg a ++
      (if cfg.quorum ≤ (aggAfter cfg agg (a ++ [p])).len then [.newViewQC (aggAfter cfg agg (a ++ [p])) v h] else []) := by
  intro a
  induction a with
  | nil => intro agg; exact List.append_nil _
  | cons q a ih => intro agg; simp only [List.cons_append, qcTrace, ih, aggAfter_cons, List.append_assoc]; rfl

/-- a trace `t` that grows by `x k` at every step `k` with `P k`, where `P` holds from `k0` on and
nowhere before: empty up to `k0`, one entry at `k0`, `n - k0` entries after `n` steps -/
theorem trace_from {α : Type} (t : Nat → List α) (P : Nat → Prop) [DecidablePred P] (x : Nat → α) (n k0 : Nat)
    (h0 : t 0 = []) (hstep : ∀ k, k < n → t (k + 1) = t k ++ if P k then [x k] else [])
    (hbelow : ∀ k, k < k0 → ¬ P k) (habove : ∀ k, k0 ≤ k → P k) (hk0 : k0 < n) :
    t k0 = [] ∧ t (k0 + 1) = [x k0] ∧ (t n).length = n - k0 := by
  have hnil : ∀ k, k ≤ k0 → t k = [] := by
    intro k
    induction k with
    | zero => exact fun _ => h0
    | succ k ih => intro hk; rw [hstep k (by omega), ih (by omega), if_neg (hbelow k hk)]; rfl
  have hlen : ∀ m, k0 + m ≤ n → (t (k0 + m)).length = m := by
    intro m
    induction m with
    | zero => intro _; rw [Nat.add_zero, hnil k0 (Nat.le_refl _)]; rfl
    | succ m ih =>
      intro hm
      rw [← Nat.add_assoc, hstep (k0 + m) (by omega), if_pos (habove _ (by omega)), List.length_append, ih (by omega)]
      rfl
  refine ⟨hnil k0 (Nat.le_refl _), ?_, ?_⟩
  · rw [hstep k0 hk0, hnil k0 (Nat.le_refl _), if_pos (habove k0 (Nat.le_refl _))]; rfl
  · have := hlen (n - k0) (by omega)
    rwa [show k0 + (n - k0) = n by omega] at this

theorem exists_least_nat (P : Nat → Prop) [DecidablePred P] : ∀ (m : Nat), P m → ∃ k0, k0 ≤ m ∧ P k0 ∧ ∀ k, k < k0 → ¬ P k := by
  intro m
  induction m using Nat.strongRecOn with
  | _ m ih =>
    intro hm
    by_cases h : ∃ k, k < m ∧ P k
    · obtain ⟨k, hk, hpk⟩ := h
      obtain ⟨k0, h1, h2, h3⟩ := ih k hk hpk
      exact ⟨k0, by omega, h2, h3⟩
    · exact ⟨m, Nat.le_refl _, hm, fun k hk hp => h ⟨k, hk, hp⟩⟩

namespace TreeRun

def sentSig (fx : List KEffect) : Option Sig :=
  match fx.filter KEffect.isSend with
  | [.sendToParent _ (some a)] => some a
  | _ => none

/-- the bottom-up run as a function: node `r` is fed its children in the order `ord r`;
`fuel` bounds the height (`pos.length` suffices) -/
def aggOf (R : TreeRun) (ord : Nat → List Nat) : Nat → Nat → Sig
  | 0, r => R.own r
  | fuel + 1, r =>
    (sentSig (R.effects r ((ord r).map (fun c => (c, aggOf R ord fuel c))))).getD (R.own r)

theorem sends_aggAfter (R : TreeRun) (V : R.Valid) {r : Nat} (hr : r ∈ R.pos) (hl : R.live r = true)
    (cs : List (Nat × Sig)) (hids : (cs.map (·.1)).Perm ((R.ch r).filter R.live)) (hcs : ∀ p ∈ cs, R.Sends p.1 p.2) :
    R.Sends r (aggAfter R.cfg (R.own r) cs) ∧ sentSig (R.effects r cs) = some (aggAfter R.cfg (R.own r) cs) := by
  obtain ⟨_, _, _, h7⟩ := R.node_in_tree V hr hl cs hids (fun p hp => R.sends_ok V (hcs p hp))
  exact ⟨Sends.node hr hl hids hcs (List.mem_filter.mp (h7 ▸ List.mem_singleton_self _)).1, by rw [sentSig, h7]⟩

/-- **The bottom-up run exists**, for every choice of the order in which each node hears its
children: the function `aggOf` computes an aggregate that the run of node `r` sends. -/
theorem sends_aggOf (R : TreeRun) (V : R.Valid) (ord : Nat → List Nat)
    (hord : ∀ r ∈ R.pos, (ord r).Perm ((R.ch r).filter R.live)) :
    ∀ (fuel r : Nat), r ∈ R.pos → R.live r = true → R.pos.length - R.pos.idxOf r ≤ fuel →
      R.Sends r (aggOf R ord fuel r) := by
  intro fuel
  induction fuel with
  | zero =>
    intro r hr _ hf
    have := List.idxOf_lt_length_iff.mpr hr
    omega
  | succ fuel ih =>
    intro r hr hl hf
    obtain ⟨h1, h2⟩ := R.sends_aggAfter V hr hl ((ord r).map fun c => (c, aggOf R ord fuel c))
      (by simpa [Function.comp_def] using hord r hr) (fun p hp => by
        obtain ⟨c, hc, rfl⟩ := List.mem_map.mp hp
        have hc' := List.mem_filter.mp ((hord r hr).mem_iff.mp hc)
        obtain ⟨_, hcp, hlt⟩ := childrenOf_idx_lt V.vpos.nodup V.hb hc'.1
        exact ih c hcp hc'.2 (by omega))
    show R.Sends r ((sentSig _).getD _)
    rw [h2]
    exact h1

theorem covered_mono (R : TreeRun) (ids : List Nat) {k k' : Nat} (h : k ≤ k') :
    R.covered (ids.take k) ≤ R.covered (ids.take k') := by
  obtain ⟨t, ht⟩ := List.take_prefix_take_left (l := ids) h
  rw [covered, covered, ← ht, List.flatMap_append, List.length_append]
  omega

theorem len_take (R : TreeRun) (V : R.Valid) {r : Nat} {cs : List (Nat × Sig)} (F : R.Fed r cs) (k : Nat) :
    (aggAfter R.cfg (R.own r) (cs.take k)).len = R.covered ((cs.map (·.1)).take k) := by
  rw [(R.node_in_tree_part V (F.take k)).len, List.map_take]

theorem qcTrace_take_succ (R : TreeRun) (V : R.Valid) {r : Nat} {cs : List (Nat × Sig)} (F : R.Fed r cs)
    (k : Nat) (hk : k < cs.length) :
    qcTrace R.cfg R.view R.hash (R.own r) (cs.take (k + 1)) = qcTrace R.cfg R.view R.hash (R.own r) (cs.take k) ++
      if R.cfg.quorum ≤ R.covered ((cs.map (·.1)).take (k + 1))
      then [.newViewQC (aggAfter R.cfg (R.own r) (cs.take (k + 1))) R.view R.hash] else [] := by
  rw [← R.len_take V F (k + 1), List.take_succ_eq_append_getElem hk]
  exact qcTrace_snoc ..

/-- **When a node emits certificates.**  The `k+1`-th contribution makes the node emit a certificate
exactly when its own vote and the sub-trees of the first `k+1` contributing children cover a quorum;
it is the aggregate of exactly those. -/
theorem node_qc_step (R : TreeRun) (V : R.Valid) {r : Nat} {cs : List (Nat × Sig)} (F : R.Fed r cs)
    (k : Nat) (hk : k < cs.length) :
    (kStep R.T (R.node r) (kRun R.T (R.node r) (R.st0 r) (R.ops r (cs.take k))).1 (contribOp R.view cs[k])).2.filter KEffect.isQC =
      if R.cfg.quorum ≤ R.covered ((cs.map (·.1)).take (k + 1))
      then [.newViewQC (aggAfter R.cfg (R.own r) (cs.take (k + 1))) R.view R.hash] else [] := by
  have hq0 := (R.node_in_tree_part V (F.take k)).qcs
  have hq1 := (R.node_in_tree_part V (F.take (k + 1))).qcs
  have hrun : R.ops r (cs.take (k + 1)) = R.ops r (cs.take k) ++ [contribOp R.view cs[k]] := by
    rw [List.take_succ_eq_append_getElem hk]
    simp only [ops, nodeOps, List.map_append, List.map_cons, List.map_nil, List.cons_append]
  rw [hrun, kRun_append, kRun_cons, kRun_nil, List.append_nil, List.filter_append, hq0,
    R.qcTrace_take_succ V F k hk] at hq1
  exact List.append_cancel_left hq1

/-- **The certificates of a node whose contributions reach a quorum.**  There is a first prefix of
the contributions (length `k0+1`) that covers a quorum: nothing is emitted before it, one
certificate at it, and one more at EVERY later contribution (`cs.length - k0` in all). -/
theorem node_qcs (R : TreeRun) (V : R.Valid) {r : Nat} {cs : List (Nat × Sig)} (F : R.Fed r cs)
    (hne : cs ≠ []) (hq : R.cfg.quorum ≤ R.covered (cs.map (·.1))) :
    ∃ k0, k0 < cs.length ∧
      (∀ k, k < k0 → R.covered ((cs.map (·.1)).take (k + 1)) < R.cfg.quorum) ∧
      (∀ k, k0 ≤ k → R.cfg.quorum ≤ R.covered ((cs.map (·.1)).take (k + 1))) ∧
      (kRun R.T (R.node r) (R.st0 r) (R.ops r (cs.take k0))).2.filter KEffect.isQC = [] ∧
      (kRun R.T (R.node r) (R.st0 r) (R.ops r (cs.take (k0 + 1)))).2.filter KEffect.isQC =
        [.newViewQC (aggAfter R.cfg (R.own r) (cs.take (k0 + 1))) R.view R.hash] ∧
      ((kRun R.T (R.node r) (R.st0 r) (R.ops r cs)).2.filter KEffect.isQC).length = cs.length - k0 := by
  have hm : 0 < cs.length := List.length_pos_iff.mpr hne
  have hlast : R.cfg.quorum ≤ R.covered ((cs.map (·.1)).take (cs.length - 1 + 1)) := by
    rw [List.take_of_length_le (by simp; omega)]; exact hq
  obtain ⟨k0, hk0, hP, hmin⟩ := exists_least_nat (fun k => R.cfg.quorum ≤ R.covered ((cs.map (·.1)).take (k + 1)))
    (cs.length - 1) hlast
  have hbelow : ∀ k, k < k0 → R.covered ((cs.map (·.1)).take (k + 1)) < R.cfg.quorum :=
    fun k hk => Nat.not_le.mp (hmin k hk)
  have habove : ∀ k, k0 ≤ k → R.cfg.quorum ≤ R.covered ((cs.map (·.1)).take (k + 1)) :=
    fun k hk => Nat.le_trans hP (R.covered_mono _ (by omega))
  have hQ := fun k => (R.node_in_tree_part V (F.take k)).qcs
  obtain ⟨h1, h2, h3⟩ := trace_from (fun k => qcTrace R.cfg R.view R.hash (R.own r) (cs.take k))
    (fun k => R.cfg.quorum ≤ R.covered ((cs.map (·.1)).take (k + 1)))
    (fun k => .newViewQC (aggAfter R.cfg (R.own r) (cs.take (k + 1))) R.view R.hash) cs.length k0 rfl
    (R.qcTrace_take_succ V F) hmin habove (by omega)
  rw [List.take_length] at h3
  have hfull := hQ cs.length
  rw [List.take_length] at hfull
  exact ⟨k0, by omega, hbelow, habove, by rw [hQ]; exact h1, by rw [hQ]; exact h2, by rw [hfull]; exact h3⟩

/-- a node whose contributions cover a quorum emits a certificate at the last of them at the latest:
the aggregate of all -/
theorem node_qc_last (R : TreeRun) (V : R.Valid) {r : Nat} {cs : List (Nat × Sig)} (F : R.Fed r cs)
    (hne : cs ≠ []) (hq : R.cfg.quorum ≤ R.covered (cs.map (·.1))) :
    ∃ hm : cs.length - 1 < cs.length,
      (kStep R.T (R.node r) (kRun R.T (R.node r) (R.st0 r) (R.ops r (cs.take (cs.length - 1)))).1
          (contribOp R.view cs[cs.length - 1])).2.filter KEffect.isQC =
        [.newViewQC (aggAfter R.cfg (R.own r) cs) R.view R.hash] := by
  have hm : cs.length - 1 < cs.length := by have := List.length_pos_iff.mpr hne; omega
  have hstep := R.node_qc_step V F (cs.length - 1) hm
  have e1 : cs.take (cs.length - 1 + 1) = cs := List.take_of_length_le (by omega)
  have e2 : (cs.map (·.1)).take (cs.length - 1 + 1) = cs.map (·.1) := List.take_of_length_le (by simp; omega)
  rw [e1, e2, if_pos hq] at hstep
  exact ⟨hm, hstep⟩

theorem root_eq (R : TreeRun) (V : R.Valid) : ∃ h : 0 < R.pos.length, R.root = R.pos[0] := by
  have h : 0 < R.pos.length := by rw [V.vpos.length_eq]; exact V.hn
  exact ⟨h, getD_eq_getElem h⟩

theorem root_mem (R : TreeRun) (V : R.Valid) : R.root ∈ R.pos := by
  obtain ⟨h, e⟩ := R.root_eq V
  rw [e]; exact List.getElem_mem h

theorem part_root (R : TreeRun) (V : R.Valid) : (R.part R.root).Perm (R.pos.filter R.live) := by
  obtain ⟨h0, e⟩ := R.root_eq V
  rw [part, e]
  exact (cl_root V.vpos.nodup V.hb h0).filter _

theorem covered_root (R : TreeRun) (V : R.Valid) (ids : List Nat) (hids : ids.Perm ((R.ch R.root).filter R.live)) :
    R.covered ids = (R.pos.filter R.live).length := by
  have h1 := R.part_children V V.root_live
  have h2 : (R.root :: ids.flatMap R.part).Perm (R.part R.root) :=
    (List.Perm.cons _ (hids.flatMap_right _)).trans h1.symm
  have := (h2.trans (R.part_root V)).length_eq
  simp only [List.length_cons] at this
  unfold covered; omega

theorem root_facts (R : TreeRun) (V : R.Valid) (cs : List (Nat × Sig))
    (hids : (cs.map (·.1)).Perm ((R.ch R.root).filter R.live)) (hcs : ∀ p ∈ cs, R.Sends p.1 p.2) :
    R.Fed R.root cs ∧ R.covered (cs.map (·.1)) = (R.pos.filter R.live).length ∧
    (aggAfter R.cfg (R.own R.root) cs).participants.Perm (R.pos.filter R.live) ∧
    verify R.T R.cfg (aggAfter R.cfg (R.own R.root) cs) (blkMsg R.hash) = true := by
  have hok := fun p hp => R.sends_ok V (hcs p hp)
  obtain ⟨_, l2, l3, _⟩ := R.node_in_tree V (R.root_mem V) V.root_live cs hids hok
  exact ⟨Fed.of_perm V (R.root_mem V) V.root_live hids hok, R.covered_root V _ hids, l3.trans (R.part_root V), l2.1⟩

theorem Honest.filter_live {R : TreeRun} (H : R.Honest) (l : List Nat) : l.filter R.live = l :=
  List.filter_eq_self.mpr (fun a _ => H.all_live a)

theorem Honest.part_eq {R : TreeRun} (H : R.Honest) (r : Nat) :
    R.part r = r :: (Tree.mk' r R.b R.pos).subTree := H.filter_live _

theorem Honest.root_facts {R : TreeRun} (H : R.Honest) (hn2 : 2 ≤ R.cfg.n) (cs : List (Nat × Sig))
    (hids : (cs.map (·.1)).Perm (R.ch R.root)) (hcs : ∀ p ∈ cs, R.Sends p.1 p.2) :
    R.Fed R.root cs ∧ R.covered (cs.map (·.1)) = R.cfg.n ∧ cs ≠ [] ∧ R.cfg.quorum ≤ R.covered (cs.map (·.1)) ∧
    (aggAfter R.cfg (R.own R.root) cs).participants.Perm R.pos ∧
    verify R.T R.cfg (aggAfter R.cfg (R.own R.root) cs) (blkMsg R.hash) = true := by
  obtain ⟨F, hcov, hperm, hver⟩ := R.root_facts H.toValid cs (by rw [H.filter_live]; exact hids) hcs
  rw [H.filter_live] at hcov hperm
  rw [H.vpos.length_eq] at hcov
  have hne : cs ≠ [] := by
    intro e; subst e
    simp [TreeRun.covered] at hcov; omega
  exact ⟨F, hcov, hne, by rw [hcov]; exact QuorumCount.quorumSize_le _ H.hn, hperm, hver⟩

end TreeRun
end HsVerif.Model
