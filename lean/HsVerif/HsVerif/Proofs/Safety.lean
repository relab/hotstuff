/-
Abstract safety of chained and simplified HotStuff (layer A of C01).

The system is any block forest with views, any set of replicas some of which are honest, any
family of replica sets counting as quorums such that two quorums share an honest replica
(C20 + at most f Byzantine), and any vote relation that satisfies the discipline the system of
replica models is proved to keep (Props/C01Safety.lean `sys_discipline`):
  * at most one vote per view                                   (C03 votes_increasing)
  * a voted block's parent is certified (or genesis) and has a lower view   (C03 vote_wellformed)
  * the lock rule: a replica that voted for x and later (in a higher view) votes for w held a
    lock l -- a certified block or genesis, of view at least that of x's grandparent and
    below w's view -- and w's parent is higher than l or w extends l
    (chained: safeNode; simplified: parent.view >= locked.view, which is a special case;
    C01Safety `sys_lock`)
Conclusion: if b <- b' <- b'' are directly linked with consecutive views and b'' is certified
(the commit condition of both rulesets for b), every certified block of view >= b's extends b;
hence any two blocks committed anywhere are on one branch.
-/
namespace HsVerif.Safety

structure Sys where
  Blk : Type
  Rep : Type
  gen : Blk
  view : Blk → Nat
  par : Blk → Blk
  honest : Rep → Prop
  voted : Rep → Blk → Prop
  Quorum : (Rep → Prop) → Prop

variable (S : Sys)

def up : Nat → S.Blk → S.Blk
  | 0, w => w
  | k + 1, w => up k (S.par w)

theorem up_add (j k : Nat) (w : S.Blk) : up S (j + k) w = up S j (up S k w) := by
  induction k generalizing w with
  | zero => rfl
  | succ k ih => rw [← Nat.add_assoc]; simp only [up]; exact ih (S.par w)

def Ext (w b : S.Blk) : Prop := ∃ k : Nat, up S k w = b

def Certified (b : S.Blk) : Prop := ∃ Q, S.Quorum Q ∧ ∀ r, Q r → S.honest r → S.voted r b

def GC (b : S.Blk) : Prop := b = S.gen ∨ Certified S b

structure Discipline : Prop where
  gen_view : S.view S.gen = 0
  par_gen : S.par S.gen = S.gen
  inter : ∀ Q1 Q2, S.Quorum Q1 → S.Quorum Q2 → ∃ r, Q1 r ∧ Q2 r ∧ S.honest r
  one_per_view : ∀ r x y, S.honest r → S.voted r x → S.voted r y → S.view x = S.view y → x = y
  wf : ∀ r w, S.honest r → S.voted r w → GC S (S.par w) ∧ S.view (S.par w) < S.view w
  lock : ∀ r x w, S.honest r → S.voted r x → S.voted r w → S.view x < S.view w →
    ∃ l, GC S l ∧ S.view (S.par (S.par x)) ≤ S.view l ∧ S.view l < S.view w ∧
      (S.view l < S.view (S.par w) ∨ Ext S w l)

variable {S}

theorem Ext.refl (b : S.Blk) : Ext S b b := ⟨0, rfl⟩

theorem Ext.step {w b : S.Blk} (h : Ext S (S.par w) b) : Ext S w b := by
  obtain ⟨k, hk⟩ := h
  exact ⟨k + 1, hk⟩

theorem Ext.trans {a b c : S.Blk} (h1 : Ext S a b) (h2 : Ext S b c) : Ext S a c := by
  obtain ⟨k, hk⟩ := h1
  obtain ⟨j, hj⟩ := h2
  exact ⟨j + k, by rw [up_add, hk, hj]⟩

theorem Ext.closed {P : S.Blk → Prop} (hP : ∀ x, P x → P (S.par x)) {w b : S.Blk} (h : Ext S w b) (hw : P w) : P b := by
  obtain ⟨k, rfl⟩ := h
  induction k generalizing w with
  | zero => exact hw
  | succ k ih => exact ih (hP w hw)

/-- The induction behind the safety theorems; the commit rules differ only in how they provide `step`. -/
theorem extends_of_step {b : S.Blk} (hgen : S.view S.gen ≤ S.view b)
    (uniq : ∀ x, GC S x → S.view x = S.view b → x = b)
    (step : ∀ w, Certified S w → S.view b < S.view w →
      ∃ l, GC S l ∧ S.view b ≤ S.view l ∧ S.view l < S.view w ∧ Ext S w l)
    (w : S.Blk) (hw : GC S w) (hge : S.view b ≤ S.view w) : Ext S w b := by
  induction hn : S.view w using Nat.strongRecOn generalizing w with
  | _ n ih =>
    rcases Nat.eq_or_lt_of_le hge with he | hlt
    · rw [uniq w hw he.symm]; exact Ext.refl b
    · rcases hw with rfl | hw
      · omega
      · obtain ⟨l, hl, hle, hlt', hx⟩ := step w hw hlt
        exact hx.trans (ih _ (hn ▸ hlt') l hl hle rfl)

/-! What quorum intersection, one vote per view and `wf` say about certificates; the hypotheses are those
fields of `Discipline`, spelt out because `gc_unique` is also wanted where `par_gen` is not assumed
(`C01.simple_rule_is_lock_rule`). -/
section
variable (gen_view : S.view S.gen = 0)
  (inter : ∀ Q1 Q2, S.Quorum Q1 → S.Quorum Q2 → ∃ r, Q1 r ∧ Q2 r ∧ S.honest r)
  (one_per_view : ∀ r x y, S.honest r → S.voted r x → S.voted r y → S.view x = S.view y → x = y)
  (wf : ∀ r w, S.honest r → S.voted r w → GC S (S.par w) ∧ S.view (S.par w) < S.view w)
include inter

theorem common_voter {a b : S.Blk} (ha : Certified S a) (hb : Certified S b) :
    ∃ r, S.honest r ∧ S.voted r a ∧ S.voted r b := by
  obtain ⟨Qa, hQa, hva⟩ := ha
  obtain ⟨Qb, hQb, hvb⟩ := hb
  obtain ⟨r, hra, hrb, hh⟩ := inter Qa Qb hQa hQb
  exact ⟨r, hh, hva r hra hh, hvb r hrb hh⟩

include wf

theorem cert_par {b : S.Blk} (h : Certified S b) : GC S (S.par b) ∧ S.view (S.par b) < S.view b := by
  obtain ⟨r, hh, hv, _⟩ := common_voter inter h h
  exact wf r b hh hv

include gen_view one_per_view

theorem gc_unique {a b : S.Blk} (ha : GC S a) (hb : GC S b) (hv : S.view a = S.view b) : a = b := by
  have pos : ∀ {x}, Certified S x → S.view x ≠ S.view S.gen := fun hx => by
    have := (cert_par inter wf hx).2; omega
  rcases ha with rfl | ha <;> rcases hb with rfl | hb
  · rfl
  · exact absurd hv.symm (pos hb)
  · exact absurd hv (pos ha)
  · obtain ⟨r, hh, hva, hvb⟩ := common_voter inter ha hb
    exact one_per_view r a b hh hva hvb hv

end

/-! ### What the rulesets share

`VoteDiscipline`: the fields of `Discipline` that do not mention the lock (the timed discipline of
Proofs/FastSafety.lean and `FastDiscipline` of Proofs/FastSys.lean have them too).  `Final b`: `b` is genesis or
certified, and every such block at or above `b` extends it — what each commit rule establishes of the block it commits
(`ThreeChain.final` below, `TwoChain.final` in Proofs/FastSys.lean), and all that the ledger argument uses of it. -/

structure VoteDiscipline (S : Sys) : Prop where
  gen_view : S.view S.gen = 0
  par_gen : S.par S.gen = S.gen
  inter : ∀ Q1 Q2, S.Quorum Q1 → S.Quorum Q2 → ∃ r, Q1 r ∧ Q2 r ∧ S.honest r
  one_per_view : ∀ r x y, S.honest r → S.voted r x → S.voted r y → S.view x = S.view y → x = y
  wf : ∀ r w, S.honest r → S.voted r w → GC S (S.par w) ∧ S.view (S.par w) < S.view w

theorem Discipline.base {S : Sys} (D : Discipline S) : VoteDiscipline S :=
  ⟨D.gen_view, D.par_gen, D.inter, D.one_per_view, D.wf⟩

namespace VoteDiscipline
variable (D : VoteDiscipline S)
include D

theorem cert_par {b : S.Blk} (h : Certified S b) : GC S (S.par b) ∧ S.view (S.par b) < S.view b :=
  Safety.cert_par D.inter D.wf h

theorem gc_unique {a b : S.Blk} (ha : GC S a) (hb : GC S b) (hv : S.view a = S.view b) : a = b :=
  Safety.gc_unique D.gen_view D.inter D.one_per_view D.wf ha hb hv

theorem gc_par {b : S.Blk} (h : GC S b) : GC S (S.par b) ∧ S.view (S.par b) ≤ S.view b := by
  rcases h with rfl | hc
  · rw [D.par_gen]; exact ⟨Or.inl rfl, Nat.le_refl _⟩
  · exact ⟨(D.cert_par hc).1, Nat.le_of_lt (D.cert_par hc).2⟩

theorem ext_le {a c : S.Blk} (ha : GC S a) (h : Ext S a c) : GC S c ∧ S.view c ≤ S.view a :=
  h.closed (P := fun x => GC S x ∧ S.view x ≤ S.view a)
    (fun _ hx => ⟨(D.gc_par hx.1).1, Nat.le_trans (D.gc_par hx.1).2 hx.2⟩) ⟨ha, Nat.le_refl _⟩

end VoteDiscipline

def Final (S : Sys) (b : S.Blk) : Prop := GC S b ∧ ∀ w, GC S w → S.view b ≤ S.view w → Ext S w b

theorem Final.total {b c : S.Blk} (hb : Final S b) (hc : Final S c) : Ext S b c ∨ Ext S c b := by
  rcases Nat.le_total (S.view b) (S.view c) with h | h
  · exact Or.inr (hb.2 c hc.1 h)
  · exact Or.inl (hc.2 b hb.1 h)

theorem VoteDiscipline.final_gen (D : VoteDiscipline S) : Final S S.gen :=
  ⟨Or.inl rfl, extends_of_step (Nat.le_refl _) (fun _ hx hv => D.gc_unique hx (Or.inl rfl) hv)
    (fun w hw _ => ⟨S.par w, (D.cert_par hw).1, by rw [D.gen_view]; exact Nat.zero_le _, (D.cert_par hw).2,
      Ext.step (Ext.refl _)⟩)⟩

section
variable (D : Discipline S)
include D

/-- The commit condition for `b`: `b ← b' ← b''` directly linked, consecutive views, `b''` certified. -/
structure ThreeChain (b b' b'' : S.Blk) : Prop where
  p2 : S.par b'' = b'
  p1 : S.par b' = b
  v1 : S.view b' = S.view b + 1
  v2 : S.view b'' = S.view b + 2
  cert : Certified S b''

theorem ThreeChain.gc {b b' b'' : S.Blk} (T : ThreeChain (S := S) b b' b'') : Certified S b' ∧ GC S b := by
  have h' : Certified S b' := by
    rcases T.p2 ▸ (D.base.cert_par T.cert).1 with h | h
    · have := T.v1; rw [h, D.gen_view] at this; omega
    · exact h
  exact ⟨h', T.p1 ▸ (D.base.cert_par h').1⟩

theorem ThreeChain.ext {b b' b'' : S.Blk} (T : ThreeChain (S := S) b b' b'')
    (w : S.Blk) (hw : GC S w) (hge : S.view b ≤ S.view w) : Ext S w b := by
  obtain ⟨hb', hb⟩ := T.gc D
  refine extends_of_step (by rw [D.gen_view]; omega) (fun x hx hv => D.base.gc_unique hx hb hv) (fun w hw hlt => ?_)
    w hw hge
  have := T.v1; have := T.v2
  by_cases h1 : S.view w = S.view b'
  · obtain rfl := D.base.gc_unique (Or.inr hw) (Or.inr hb') h1
    exact ⟨b, hb, Nat.le_refl _, hlt, Ext.step (T.p1 ▸ Ext.refl b)⟩
  by_cases h2 : S.view w = S.view b''
  · obtain rfl := D.base.gc_unique (Or.inr hw) (Or.inr T.cert) h2
    exact ⟨b', Or.inr hb', by omega, by omega, Ext.step (T.p2 ▸ Ext.refl b')⟩
  -- above the chain: an honest voter of both b'' and w applied the lock rule
  obtain ⟨r, hh, hvb, hvw⟩ := common_voter D.inter T.cert hw
  obtain ⟨l, hlgc, hlge, hllt, hrule⟩ := D.lock r b'' w hh hvb hvw (by omega)
  rw [T.p2, T.p1] at hlge
  rcases hrule with hlive | hsafe
  · obtain ⟨hpgc, hplt⟩ := D.wf r w hh hvw
    exact ⟨S.par w, hpgc, by omega, hplt, Ext.step (Ext.refl _)⟩
  · exact ⟨l, hlgc, hlge, hllt, hsafe⟩

theorem ThreeChain.final {b b' b'' : S.Blk} (T : ThreeChain (S := S) b b' b'') : Final S b := ⟨(T.gc D).2, T.ext D⟩

/-- **Safety (chained / simplified HotStuff)**: two blocks that satisfy the commit condition are on
one branch. -/
theorem committed_on_one_branch {b b' b'' c c' c'' : S.Blk}
    (Tb : ThreeChain (S := S) b b' b'') (Tc : ThreeChain (S := S) c c' c'') : Ext S b c ∨ Ext S c b :=
  (Tb.final D).total (Tc.final D)

end

/-! ### From blocks on one branch to prefix-related commit logs -/

def ChainLog (S : Sys) : S.Blk → List S.Blk → Prop
  | _, [] => True
  | prev, b :: rest => S.par b = prev ∧ S.view prev < S.view b ∧ ChainLog S b rest

def logHead (prev : S.Blk) : List S.Blk → S.Blk
  | [] => prev
  | b :: rest => logHead b rest

theorem up_view_le (hv : ∀ b : S.Blk, S.view (S.par b) ≤ S.view b) (k : Nat) (w : S.Blk) : S.view (up S k w) ≤ S.view w := by
  induction k generalizing w with
  | zero => exact Nat.le_refl _
  | succ k ih => simp only [up]; exact Nat.le_trans (ih _) (hv w)

theorem chainLog_up (prev : S.Blk) (l : List S.Blk) (h : ChainLog S prev l) : up S l.length (logHead prev l) = prev := by
  induction l generalizing prev with
  | nil => rfl
  | cons b rest ih =>
    show up S (rest.length + 1) (logHead b rest) = prev
    rw [Nat.add_comm, up_add, ih b h.2.2]
    exact h.1

theorem chainLog_view_up (prev : S.Blk) (l : List S.Blk) (h : ChainLog S prev l) (j : Nat) (hj : j ≤ l.length) :
    S.view prev + (l.length - j) ≤ S.view (up S j (logHead prev l)) := by
  induction l generalizing prev with
  | nil => exact Nat.le_of_eq (by rw [Nat.le_zero.mp hj]; rfl)
  | cons b rest ih =>
    rcases Nat.eq_or_lt_of_le hj with rfl | hlt
    · rw [chainLog_up prev _ h]; omega
    · have := ih b h.2.2 (Nat.le_of_lt_succ hlt)
      have := h.2.1
      simp only [logHead, List.length_cons]; omega

theorem chainLog_view (prev : S.Blk) (l : List S.Blk) (h : ChainLog S prev l) : S.view prev + l.length ≤ S.view (logHead prev l) :=
  chainLog_view_up prev l h 0 (Nat.zero_le _)

theorem chainLog_reverse (prev : S.Blk) (l : List S.Blk) (h : ChainLog S prev l) :
    l.reverse = (List.range l.length).map (fun i => up S i (logHead prev l)) := by
  induction l generalizing prev with
  | nil => rfl
  | cons b rest ih =>
    rw [List.reverse_cons, ih b h.2.2]
    show _ = (List.range (rest.length + 1)).map (fun i => up S i (logHead b rest))
    rw [List.range_succ, List.map_append, List.map_singleton, chainLog_up b rest h.2.2]

theorem up_gen (hg : S.par S.gen = S.gen) (m : Nat) : up S m S.gen = S.gen := by
  induction m with
  | zero => rfl
  | succ m ih => simp only [up, hg]; exact ih

theorem chainLog_gen_iff (hg : S.par S.gen = S.gen) (l : List S.Blk) (h : ChainLog S S.gen l) (j : Nat) :
    up S j (logHead S.gen l) = S.gen ↔ l.length ≤ j := by
  constructor
  · intro he
    apply Nat.le_of_not_lt
    intro hlt
    have := chainLog_view_up S.gen l h j (Nat.le_of_lt hlt)
    rw [he] at this
    omega
  · intro hle
    rw [← Nat.sub_add_cancel hle, up_add, chainLog_up S.gen l h, up_gen hg]

theorem logs_prefix (hg : S.par S.gen = S.gen) (l1 l2 : List S.Blk)
    (h1 : ChainLog S S.gen l1) (h2 : ChainLog S S.gen l2)
    (hx : Ext S (logHead S.gen l1) (logHead S.gen l2)) : l2 <+: l1 := by
  obtain ⟨k, hk⟩ := hx
  -- the `j`-th ancestor of the second head is the `j + k`-th of the first: compare where genesis is reached
  have key : ∀ j, l1.length ≤ j + k ↔ l2.length ≤ j := fun j => by
    rw [← chainLog_gen_iff hg l1 h1, ← chainLog_gen_iff hg l2 h2, up_add, hk]
  have := key l2.length
  have := key (l1.length - k)
  by_cases h0 : l2.length = 0
  · rw [List.length_eq_zero_iff.mp h0]; exact List.nil_prefix
  have hlen : l1.length = k + l2.length := by omega
  rw [← List.reverse_suffix, chainLog_reverse _ l1 h1, chainLog_reverse _ l2 h2, hlen, List.range_add,
    List.map_append, List.map_map]
  refine ⟨_, congrArg _ (List.map_congr_left fun i _ => ?_)⟩
  show _ = up S (k + i) _
  rw [Nat.add_comm, up_add, hk]

end HsVerif.Safety
