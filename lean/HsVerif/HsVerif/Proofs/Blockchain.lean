import HsVerif.Model.Blockchain
import HsVerif.Proofs.ListFacts
/-! Helper lemmas for C13 (block store, ancestry, pruning). -/
namespace HsVerif.Model.Chain

theorem mget_mset (m : BMap) (k k' : Nat) (b : Block) :
    mget (mset m k b) k' = if k' = k then some b else mget m k' := by
  unfold mget mset
  rw [List.lookup_cons]
  by_cases h : k' = k
  · rw [if_pos h, beq_iff_eq.mpr h]
  · rw [if_neg h, beq_false_of_ne h]

theorem mget_mdel (m : BMap) (k k' : Nat) :
    mget (mdel m k) k' = if k' = k then none else mget m k' := by
  induction m with
  | nil => exact (ite_self _).symm
  | cons e m ih =>
    have hc (m') : mget (e :: m') k' = if k' = e.1 then some e.2 else mget m' k' :=
      mget_mset m' e.1 k' e.2
    unfold mdel at ih ⊢
    rw [List.filter_cons, hc m]
    by_cases ha : e.1 = k
    · rw [if_neg (by simpa using ha), ih]
      by_cases hk : k' = k
      · rw [if_pos hk, if_pos hk]
      · rw [if_neg hk, if_neg hk, if_neg (ha ▸ hk)]
    · rw [if_pos (by simpa using ha), hc, ih]
      by_cases hk : k' = e.1
      · rw [if_pos hk, if_neg (hk ▸ ha), if_pos hk]
      · rw [if_neg hk, if_neg hk]

inductive OnChain (look : Nat → Option Block) : Block → Block → Prop
  | refl (b : Block) : OnChain look b b
  | step {b p t : Block} : look b.parent = some p → OnChain look p t → OnChain look b t

def Grows (look : Nat → Option Block) (c : Block) : Prop := ∀ p, look c.parent = some p → p.view < c.view

def ViewsGrow (look : Nat → Option Block) : Prop := ∀ h c, look h = some c → Grows look c

theorem OnChain.view_le {look : Nat → Option Block} (hvg : ViewsGrow look) {b t : Block}
    (hb : Grows look b) (h : OnChain look b t) : t.view ≤ b.view := by
  induction h with
  | refl b => exact Nat.le_refl _
  | step hp _ ih => exact Nat.le_of_lt (Nat.lt_of_le_of_lt (ih (hvg _ _ hp)) (hb _ hp))

theorem OnChain.trans {look : Nat → Option Block} {a b c : Block}
    (h1 : OnChain look a b) (h2 : OnChain look b c) : OnChain look a c := by
  induction h1 with
  | refl _ => exact h2
  | step hp _ ih => exact OnChain.step hp (ih h2)

/-- content addressing -/
def Consistent (s : Store) : Prop := ∀ h b, mget s.blocks h = some b → b.hash = h

def HeightWF (s : Store) : Prop :=
  ∀ v b, mget s.atHeight v = some b → b.view = v ∧ mget s.blocks b.hash = some b

/-- what `RequestBlockQF` guarantees about a sender: a reply has the requested hash -/
def HonestNet (net : Net) : Prop := ∀ h b, (net h).reply = some b → b.hash = h

/-- the two copies of one block that can race in `Get` (stored by another goroutine while the
reply is on its way) are the same block: collision resistance, restricted to where it is used -/
def RaceInj (net : Net) : Prop :=
  ∀ h a b, (net h).arrive = some a → (net h).reply = some b → a.hash = b.hash → a = b

def Reported (s : Store) (R : List Nat) : Prop :=
  ∀ h ∈ R, (∃ x, mget s.blocks h = some x) ∧ ∀ v b, mget s.atHeight v = some b → b.hash ≠ h

structure Inv (s : Store) (R : List Nat) : Prop where
  cons : Consistent s
  wf : HeightWF s
  rep : Reported s R

theorem store_blocks_mono (s : Store) (b : Block) (h : Nat) (x : Block)
    (hx : mget s.blocks h = some x) : mget (store s b).blocks h = some x := by
  unfold store
  split
  · exact hx
  · rename_i hn
    rw [mget_mset, if_neg]
    · exact hx
    · intro e; rw [e, hn] at hx; cases hx

/-- the write that `Store` (for a new hash) and the success branch of `Get` both perform -/
theorem inv_put {s : Store} {R : List Nat} (b : Block) (hi : Inv s R)
    (hold : ∀ x, mget s.blocks b.hash = some x → x = b) (hR : b.hash ∉ R) :
    Inv { s with blocks := mset s.blocks b.hash b, atHeight := mset s.atHeight b.view b } R := by
  refine ⟨fun h x hx => ?_, fun v x hx => ?_, fun k hk => ?_⟩
  · simp only [mget_mset] at hx
    split at hx
    · cases hx; exact .symm ‹_›
    · exact hi.cons h x hx
  · simp only [mget_mset] at hx ⊢
    split at hx
    · cases hx; exact ⟨.symm ‹_›, if_pos rfl⟩
    · obtain ⟨h1, h2⟩ := hi.wf v x hx
      refine ⟨h1, ?_⟩
      split
      · rename_i e; rw [hold x (e ▸ h2)]
      · exact h2
  · obtain ⟨⟨x, hx⟩, h2⟩ := hi.rep k hk
    have hkh : k ≠ b.hash := fun e => hR (e ▸ hk)
    refine ⟨⟨x, ?_⟩, fun v y hy => ?_⟩
    · simp only [mget_mset, if_neg hkh]; exact hx
    · simp only [mget_mset] at hy
      split at hy
      · cases hy; exact hkh.symm
      · exact h2 v y hy

theorem not_reported_of_absent {s : Store} {R : List Nat} {h : Nat} (hi : Inv s R)
    (hn : mget s.blocks h = none) : h ∉ R := fun hR => by
  obtain ⟨⟨x, hx⟩, _⟩ := hi.rep h hR
  rw [hn] at hx; cases hx

theorem inv_store {s : Store} {R : List Nat} (b : Block) (hi : Inv s R) : Inv (store s b) R := by
  unfold store
  split
  · exact hi
  · rename_i hn
    exact inv_put b hi (fun x hx => by rw [hn] at hx; cases hx) (not_reported_of_absent hi hn)

theorem inv_init : Inv init [] :=
  inv_store genesis ⟨fun _ _ h => (nomatch h), fun _ _ h => (nomatch h), fun _ h => (nomatch h)⟩

theorem arrived_new {s : Store} {f : Fetch} {h : Nat} {x : Block} (hnone : mget s.blocks h = none)
    (hx : mget (arrived s f).blocks h = some x) : f.arrive = some x ∧ x.hash = h := by
  unfold arrived at hx
  split at hx
  · rename_i a ha
    unfold store at hx
    split at hx
    · rw [hnone] at hx; cases hx
    · rw [mget_mset] at hx
      split at hx
      · cases hx; exact ⟨ha, .symm ‹_›⟩
      · rw [hnone] at hx; cases hx
  · rw [hnone] at hx; cases hx

theorem inv_get {s : Store} {R : List Nat} {net : Net} (h : Nat) (hn : HonestNet net)
    (hr : RaceInj net) (hi : Inv s R) : Inv (get s net h).1 R := by
  unfold get
  split
  · exact hi
  · rename_i hnone
    have h1 : Inv (arrived s (net h)) R := by
      unfold arrived; split
      · exact inv_store _ hi
      · exact hi
    cases hrep : (net h).reply with
    | none => exact h1
    | some r =>
      have hrh : r.hash = h := hn _ _ hrep
      subst hrh
      -- a block that sits under the requested hash although the local lookup failed arrived during
      -- the fetch, so it is the block that was replied
      exact inv_put r h1 (fun x hx => hr _ x r (arrived_new hnone hx).1 hrep (arrived_new hnone hx).2)
        (not_reported_of_absent hi hnone)

theorem get_blocks_stable (s : Store) (net : Net) (h k : Nat) (x : Block)
    (hx : mget s.blocks k = some x) : mget (get s net h).1.blocks k = some x := by
  unfold get
  split
  · exact hx
  · rename_i hnone
    have h1 : mget (arrived s (net h)).blocks k = some x := by
      unfold arrived; split
      · exact store_blocks_mono _ _ _ _ hx
      · exact hx
    cases (net h).reply with
    | none => exact h1
    | some r =>
      simp only [fetched, mget_mset]
      rw [if_neg]
      · exact h1
      · intro e; rw [e, hnone] at hx; cases hx

theorem get_blocks_mono (s : Store) (net : Net) (h k : Nat) (x : Block)
    (hx : mget s.blocks k = some x) : ∃ y, mget (get s net h).1.blocks k = some y :=
  ⟨x, get_blocks_stable s net h k x hx⟩

theorem get_result_stored (s : Store) (net : Net) (h : Nat) (b : Block)
    (hg : (get s net h).2 = some b) : mget (get s net h).1.blocks h = some b := by
  unfold get at hg ⊢
  split
  · rename_i x hx; rw [hx] at hg; cases hg; exact hx
  · rename_i hnone
    rw [hnone] at hg
    cases hr : (net h).reply with
    | none => rw [hr] at hg; exact hg
    | some r => rw [hr] at hg; cases hg; simp only [fetched, mget_mset, ↓reduceIte]

theorem extendsAux_succ (net : Net) (t : Block) (n : Nat) (s : Store) (cur : Block) :
    extendsAux net t (n + 1) s cur =
      if t.view < cur.view then
        match (get s net cur.parent).2 with
        | some p => extendsAux net t n (get s net cur.parent).1 p
        | none => ((get s net cur.parent).1, false)
      else (s, cur.hash == t.hash) := by
  rw [extendsAux]
  split
  · rcases get s net cur.parent with ⟨s', _ | p⟩ <;> rfl
  · rfl

theorem commitInner_succ (net : Net) (c : Block) (n : Nat) (s : Store) (block : Block) :
    commitInner net c (n + 1) s block =
      if block.view ≤ c.view then (s, some [])
      else
        match (get s net block.parent).2 with
        | none => ((get s net block.parent).1, none)
        | some parent =>
          ((commitInner net c n (get s net block.parent).1 parent).1,
            (commitInner net c n (get s net block.parent).1 parent).2.map (· ++ [block])) := by
  rw [commitInner]
  split
  · rfl
  · rcases get s net block.parent with ⟨s1, _ | parent⟩
    · rfl
    · dsimp only
      rcases commitInner net c n s1 parent with ⟨s2, _ | ex⟩ <;> rfl

theorem extendsAux_pres {P : Store → Prop} {net : Net} (hget : ∀ s h, P s → P (get s net h).1)
    (t : Block) (fuel : Nat) (s : Store) (b : Block) (hs : P s) : P (extendsAux net t fuel s b).1 := by
  induction fuel generalizing s b with
  | zero => exact hs
  | succ n ih =>
    rw [extendsAux_succ]
    split
    · split
      · exact ih _ _ (hget s _ hs)
      · exact hget s _ hs
    · exact hs

theorem commitInner_pres {P : Store → Prop} {net : Net} (hget : ∀ s h, P s → P (get s net h).1)
    (c : Block) (fuel : Nat) (s : Store) (b : Block) (hs : P s) : P (commitInner net c fuel s b).1 := by
  induction fuel generalizing s b with
  | zero => exact hs
  | succ n ih =>
    rw [commitInner_succ]
    split
    · exact hs
    · split
      · exact hget s _ hs
      · exact ih _ _ (hget s _ hs)

theorem commitInner_chain (net : Net) (c : Block) (fuel : Nat) (s : Store) (b : Block)
    (ex : List Block) (h : (commitInner net c fuel s b).2 = some ex) :
    (∀ x ∈ ex, OnChain (mget (commitInner net c fuel s b).1.blocks) b x) ∧
      (ex = [] ∨ ex.getLast? = some b) := by
  induction fuel generalizing s b ex with
  | zero => cases h
  | succ n ih =>
    rw [commitInner_succ] at h ⊢
    by_cases hv : b.view ≤ c.view
    · rw [if_pos hv] at h ⊢; cases h; exact ⟨nofun, .inl rfl⟩
    · rw [if_neg hv] at h ⊢
      cases hp : (get s net b.parent).2 with
      | none => rw [hp] at h; cases h
      | some p =>
        rw [hp] at h
        dsimp only at h ⊢
        obtain ⟨ex', he, rfl⟩ := Option.map_eq_some_iff.mp h
        refine ⟨fun x hx => ?_, .inr (List.getLast?_concat ..)⟩
        rw [List.mem_append, List.mem_singleton] at hx
        rcases hx with hx | rfl
        · exact .step (commitInner_pres (P := fun s' => mget s'.blocks b.parent = some p)
            (fun _ _ => get_blocks_stable _ _ _ _ _) c n _ p
            (get_result_stored s net _ p hp)) ((ih _ p ex' he).1 x hx)
        · exact .refl _

/-- what `Get` can find: the local map first, then the sender -/
def lookF (s : Store) (f : Nat → Option Block) (h : Nat) : Option Block :=
  match mget s.blocks h with
  | some b => some b
  | none => f h

theorem get_pure (s : Store) (f : Nat → Option Block) (h : Nat) :
    (get s (pureNet f) h).2 = lookF s f h ∧ lookF (get s (pureNet f) h).1 f = lookF s f := by
  unfold get lookF
  cases hm : mget s.blocks h with
  | some b => exact ⟨rfl, rfl⟩
  | none =>
    simp only [pureNet, arrived]
    cases hf : f h with
    | none => exact ⟨hm, rfl⟩
    | some r =>
      refine ⟨rfl, funext fun k => ?_⟩
      simp only [fetched, mget_mset]
      by_cases hk : k = h
      · rw [if_pos hk, hk, hm, hf]
      · rw [if_neg hk]

theorem lookF_none (s : Store) : lookF s (fun _ => none) = mget s.blocks := by
  funext h; unfold lookF; cases mget s.blocks h <;> rfl

/-! ### PruneToHeight (repaired) -/

theorem markChain_acc (s : Store) (fuel : Nat) (block : Block) (acc : List Nat) (x : Nat)
    (hx : x ∈ acc) : x ∈ markChain s fuel block acc := by
  induction fuel generalizing block acc with
  | zero => exact hx
  | succ n ih =>
    unfold markChain
    split
    · exact hx
    · split
      · exact hx
      · exact ih _ _ (List.mem_cons_of_mem _ hx)

theorem markChain_complete (s : Store) (fuel : Nat) (block r : Block) (acc : List Nat)
    (hvg : ViewsGrow (mget s.blocks)) (hb : Grows (mget s.blocks) block)
    (hc : OnChain (mget s.blocks) block r) (hr : s.pruneHeight ≤ r.view)
    (hfuel : block.view < fuel) (hacc : block.hash ∈ acc) : r.hash ∈ markChain s fuel block acc := by
  induction fuel generalizing block acc with
  | zero => cases hfuel
  | succ n ih =>
    cases hc with
    | refl => exact markChain_acc _ _ _ _ _ hacc
    | step hp hrest =>
      rename_i p
      have h1 : p.view < block.view := hb _ hp
      have h2 : r.view ≤ p.view := OnChain.view_le hvg (hvg _ _ hp) hrest
      unfold markChain
      rw [hp]
      simp only [if_neg (Nat.not_lt.mpr (Nat.le_trans hr h2))]
      exact ih p _ (hvg _ _ hp) hrest (Nat.lt_of_lt_of_le h1 (Nat.le_of_lt_succ hfuel))
        (List.mem_cons_self ..)

def forkedAt (marked : List Nat) (o : Option Block) : List Block :=
  match o with
  | some b => if marked.contains b.hash then [] else [b]
  | none => []

theorem mem_forkedAt {marked : List Nat} {o : Option Block} {r : Block} (hr : r ∈ forkedAt marked o) :
    o = some r ∧ marked.contains r.hash = false := by
  unfold forkedAt at hr
  split at hr
  · split at hr
    · cases hr
    · rw [List.mem_singleton] at hr; subst hr; exact ⟨rfl, Bool.eq_false_iff.mpr ‹_›⟩
  · cases hr

theorem sweep_succ (marked : List Nat) (lo n : Nat) (m : BMap) :
    sweep marked (lo + (n + 1)) (n + 1) m =
      (forkedAt marked (mget m (lo + (n + 1))) ++ (sweep marked (lo + n) n (mdel m (lo + (n + 1)))).1,
        (sweep marked (lo + n) n (mdel m (lo + (n + 1)))).2) := rfl

theorem sweep_mem (marked : List Nat) {h lo n : Nat} (hh : h = lo + n) (m : BMap) (r : Block)
    (hr : r ∈ (sweep marked h n m).1) :
    ∃ v, lo < v ∧ v ≤ h ∧ mget m v = some r ∧ marked.contains r.hash = false := by
  subst hh
  induction n generalizing m with
  | zero => cases hr
  | succ k ih =>
    rw [sweep_succ, List.mem_append] at hr
    rcases hr with hr | hr
    · exact ⟨_, Nat.lt_add_of_pos_right (Nat.succ_pos k), Nat.le_refl _, mem_forkedAt hr⟩
    · obtain ⟨v, h1, h2, h3, h4⟩ := ih _ hr
      rw [mget_mdel] at h3
      split at h3
      · cases h3
      · exact ⟨v, h1, Nat.le_succ_of_le h2, h3, h4⟩

theorem sweep_map (marked : List Nat) {h lo n : Nat} (hh : h = lo + n) (m : BMap) (v : Nat) :
    mget (sweep marked h n m).2 v = if lo < v ∧ v ≤ h then none else mget m v := by
  subst hh
  induction n generalizing m with
  | zero => exact (if_neg fun ⟨h1, h2⟩ => Nat.lt_irrefl _ (Nat.lt_of_lt_of_le h1 h2)).symm
  | succ k ih =>
    rw [sweep_succ]
    show mget (sweep marked (lo + k) k _).2 v = _
    rw [ih, mget_mdel]
    by_cases h1 : lo < v ∧ v ≤ lo + k
    · rw [if_pos h1, if_pos ⟨h1.1, Nat.le_succ_of_le h1.2⟩]
    · rw [if_neg h1]
      by_cases h2 : v = lo + (k + 1)
      · rw [if_pos h2, if_pos ⟨h2 ▸ Nat.lt_add_of_pos_right (Nat.succ_pos k), Nat.le_of_eq h2⟩]
      · rw [if_neg h2, if_neg fun ⟨h3, h4⟩ => h1 ⟨h3, Nat.le_of_lt_succ (Nat.lt_of_le_of_ne h4 h2)⟩]

theorem sweep_pairwise (marked : List Nat) {h lo n : Nat} (hh : h = lo + n) (m : BMap)
    (hm : ∀ v b, mget m v = some b → b.view = v) :
    (sweep marked h n m).1.Pairwise (fun a b => b.view < a.view) := by
  subst hh
  induction n generalizing m with
  | zero => exact List.Pairwise.nil
  | succ k ih =>
    have hm' : ∀ v b, mget (mdel m (lo + (k + 1))) v = some b → b.view = v := by
      intro v b hb
      rw [mget_mdel] at hb
      split at hb
      · cases hb
      · exact hm v b hb
    rw [sweep_succ, List.pairwise_append]
    refine ⟨?_, ih _ hm', fun a ha b hb => ?_⟩
    · unfold forkedAt; split
      · split
        · exact List.Pairwise.nil
        · exact List.pairwise_singleton ..
      · exact List.Pairwise.nil
    · obtain ⟨v, _, h2, h3, _⟩ := sweep_mem marked rfl _ b hb
      rw [hm' v b h3, hm _ a (mem_forkedAt ha).1]
      exact Nat.lt_succ_of_le h2

/-- `PruneToHeight` sweeps `height - pruneHeight` views from `height` down: those above the old
prune height -/
theorem prune_sweep (p h : Nat) : h = (h - (h - p)) + (h - p) :=
  (Nat.sub_add_cancel (Nat.sub_le _ _)).symm

theorem prune_sweep_lo {p h v : Nat} (hv : v ≤ h) : h - (h - p) < v ↔ p < v := by
  rcases Nat.le_total p h with hp | hp
  · rw [Nat.sub_sub_self hp]
  · rw [Nat.sub_eq_zero_of_le hp, Nat.sub_zero]
    exact ⟨fun h1 => absurd h1 (Nat.not_lt.mpr hv),
      fun h1 => absurd (Nat.lt_of_le_of_lt hp h1) (Nat.not_lt.mpr hv)⟩

theorem prune_forked_spec (fuel : Nat) (s : Store) (c : Block) (height : Nat) (r : Block)
    (hr : r ∈ (pruneToHeight fuel s c height).2) :
    ∃ v, s.pruneHeight < v ∧ v ≤ height ∧ mget s.atHeight v = some r ∧
      r.hash ∉ markChain s fuel c [c.hash] := by
  obtain ⟨v, h1, h2, h3, h4⟩ := sweep_mem _ (prune_sweep s.pruneHeight height) _ r hr
  exact ⟨v, (prune_sweep_lo h2).1 h1, h2, h3,
    fun hin => by rw [List.contains_iff_mem.mpr hin] at h4; cases h4⟩

theorem prune_blocks (fuel : Nat) (s : Store) (c : Block) (height : Nat) :
    (pruneToHeight fuel s c height).1.blocks = s.blocks := rfl

theorem prune_atHeight (fuel : Nat) (s : Store) (c : Block) (height : Nat) (v : Nat) :
    mget (pruneToHeight fuel s c height).1.atHeight v =
      if s.pruneHeight < v ∧ v ≤ height then none else mget s.atHeight v := by
  refine (sweep_map _ (prune_sweep s.pruneHeight height) _ v).trans ?_
  by_cases h : v ≤ height
  · simp only [prune_sweep_lo h]
  · rw [if_neg fun h' => h h'.2, if_neg fun h' => h h'.2]

theorem inv_prune (R : List Nat) (fuel : Nat) (s : Store) (c : Block) (height : Nat) (hi : Inv s R)
    (hnd : R.Nodup) :
    Inv (pruneToHeight fuel s c height).1 (((pruneToHeight fuel s c height).2.map (·.hash)) ++ R) ∧
    (((pruneToHeight fuel s c height).2.map (·.hash)) ++ R).Nodup := by
  have hspec := prune_forked_spec fuel s c height
  have hat : ∀ v b, mget (pruneToHeight fuel s c height).1.atHeight v = some b →
      mget s.atHeight v = some b ∧ ¬(s.pruneHeight < v ∧ v ≤ height) := by
    intro v b hb
    rw [prune_atHeight] at hb
    split at hb
    · cases hb
    · exact ⟨hb, ‹_›⟩
  constructor
  · refine ⟨hi.cons, fun v b hb => hi.wf v b (hat v b hb).1, fun h hh => ?_⟩
    rw [List.mem_append] at hh
    rcases hh with hh | hh
    · -- a block reported now: stored, and its view has just been cleared
      obtain ⟨r, hr, rfl⟩ := List.mem_map.mp hh
      obtain ⟨v, h1, h2, h3, _⟩ := hspec r hr
      obtain ⟨hv, hb⟩ := hi.wf v r h3
      refine ⟨⟨r, hb⟩, fun v' y hy e => ?_⟩
      obtain ⟨hy', hout⟩ := hat v' y hy
      obtain ⟨hv', hb'⟩ := hi.wf v' y hy'
      rw [e, hb] at hb'
      cases hb'
      exact hout ⟨hv' ▸ hv ▸ h1, hv' ▸ hv ▸ h2⟩
    · obtain ⟨hx, h2⟩ := hi.rep h hh
      exact ⟨hx, fun v y hy => h2 v y (hat v y hy).1⟩
  · rw [List.nodup_append]
    refine ⟨?_, hnd, fun x hx y hy e => ?_⟩
    · -- one block per view, views strictly decreasing, stored under their own hashes
      have hp : (pruneToHeight fuel s c height).2.Pairwise (fun a b => b.view < a.view) :=
        sweep_pairwise _ (prune_sweep s.pruneHeight height) _ (fun v b hb => (hi.wf v b hb).1)
      rw [List.nodup_iff_pairwise_ne, List.pairwise_map]
      refine List.Pairwise.imp_of_mem (fun {a b} ha hb hlt e => ?_) hp
      obtain ⟨va, _, _, ha3, _⟩ := hspec a ha
      obtain ⟨vb, _, _, hb3, _⟩ := hspec b hb
      have h1 := (hi.wf va a ha3).2
      rw [e, (hi.wf vb b hb3).2] at h1
      cases h1
      exact Nat.lt_irrefl _ hlt
    · obtain ⟨r, hr, rfl⟩ := List.mem_map.mp hx
      obtain ⟨v, _, _, h3, _⟩ := hspec r hr
      exact (hi.rep y hy).2 v r h3 e

/-- the atomic operations of the store and of the committer, each with the network behaviour it
meets (`ext` = `Extends`) -/
inductive Op
  | store (b : Block)
  | get (net : Net) (h : Nat)
  | ext (net : Net) (b t : Block)
  | prune (c : Block) (height : Nat)
  | tryCommit (net : Net) (b : Block) (target : Option Block)

def GoodNet (net : Net) : Prop := HonestNet net ∧ RaceInj net

def Op.good : Op → Prop
  | .get net _ => GoodNet net
  | .ext net _ _ => GoodNet net
  | .tryCommit net _ _ => GoodNet net
  | _ => True

/-- one operation; second component: the blocks it reported as forked -/
def stepOp (fuel : Nat) (cs : CState) : Op → CState × List Block
  | .store b => ({ cs with store := store cs.store b }, [])
  | .get net h => ({ cs with store := (get cs.store net h).1 }, [])
  | .ext net b t => ({ cs with store := (extendsAux net t fuel cs.store b).1 }, [])
  | .prune c height => ({ cs with store := (pruneToHeight fuel cs.store c height).1 },
      (pruneToHeight fuel cs.store c height).2)
  | .tryCommit net b target =>
    match tryCommit fuel net cs b target with
    | (cs', .ok _ ab) => (cs', ab)
    | (cs', _) => (cs', [])

/-- state and all hashes reported so far (newest first) -/
def runFrom (fuel : Nat) : CState × List Nat → List Op → CState × List Nat
  | st, [] => st
  | (cs, R), op :: ops => runFrom fuel ((stepOp fuel cs op).1, (stepOp fuel cs op).2.map (·.hash) ++ R) ops

def run (fuel : Nat) (ops : List Op) : CState × List Nat := runFrom fuel (cinit, []) ops

theorem inv_commitInner (R : List Nat) (net : Net) (c : Block) (fuel : Nat) (s : Store) (b : Block)
    (hg : GoodNet net) (hi : Inv s R) : Inv (commitInner net c fuel s b).1 R :=
  commitInner_pres (P := (Inv · R)) (fun _ h => inv_get h hg.1 hg.2) c fuel s b hi

theorem inv_stepOp (R : List Nat) (fuel : Nat) (cs : CState) (op : Op) (hg : op.good)
    (hi : Inv cs.store R) (hnd : R.Nodup) :
    Inv (stepOp fuel cs op).1.store ((stepOp fuel cs op).2.map (·.hash) ++ R) ∧
    ((stepOp fuel cs op).2.map (·.hash) ++ R).Nodup := by
  cases op with
  | store b => exact ⟨inv_store b hi, hnd⟩
  | get net h => exact ⟨inv_get h hg.1 hg.2 hi, hnd⟩
  | ext net b t =>
    exact ⟨extendsAux_pres (P := (Inv · R)) (fun _ h => inv_get h hg.1 hg.2) t fuel _ b hi, hnd⟩
  | prune c height => exact inv_prune R fuel cs.store c height hi hnd
  | tryCommit net b target =>
    cases target with
    | none => exact ⟨inv_store b hi, hnd⟩
    | some t =>
      have h1 := inv_commitInner R net cs.committed fuel _ t hg (inv_store b hi)
      simp only [stepOp, tryCommit, commit]
      revert h1
      rcases commitInner net cs.committed fuel (store cs.store b) t with ⟨s1, _ | ex⟩ <;> intro h1
      · exact ⟨h1, hnd⟩
      · exact inv_prune R fuel s1 _ _ h1 hnd

theorem inv_runFrom (fuel : Nat) (ops : List Op) (cs : CState) (R : List Nat)
    (hg : ∀ op ∈ ops, op.good) (hi : Inv cs.store R) (hnd : R.Nodup) :
    Inv (runFrom fuel (cs, R) ops).1.store (runFrom fuel (cs, R) ops).2 ∧
    (runFrom fuel (cs, R) ops).2.Nodup := by
  induction ops generalizing cs R with
  | nil => exact ⟨hi, hnd⟩
  | cons op ops ih =>
    obtain ⟨h1, h2⟩ := inv_stepOp R fuel cs op (hg op (List.mem_cons_self ..)) hi hnd
    exact ih _ _ (fun o ho => hg o (List.mem_cons_of_mem _ ho)) h1 h2

def growsCheck (m : BMap) : Bool :=
  m.all fun e => match mget m e.2.parent with
    | some p => decide (p.view < e.2.view)
    | none => true

theorem viewsGrow_of_check (m : BMap) (h : growsCheck m = true) : ViewsGrow (mget m) := by
  intro k c hc p hp
  have := all_of_lookup h hc
  simp only [hp] at this
  exact of_decide_eq_true this

end HsVerif.Model.Chain
