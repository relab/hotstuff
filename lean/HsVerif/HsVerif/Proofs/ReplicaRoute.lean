import HsVerif.Proofs.ReplicaProgress
import HsVerif.Proofs.ReplicaCommit
import HsVerif.Model.Sys
import Std.Data.String.ToNat
/-!
What the two families of liveness steps (the exact fault-free run of Proofs/ReplicaHappy.lean, the bounded steps of
Proofs/ReplicaSync.lean) share: the messages a replica's effects become (`route`: replica statements give their outputs as
routed messages), the committer over a store from which nothing can be fetched (`commitRuleL`, `commitInnerL`, `tcL`: pure
mirrors over the local store, `tcS_eq_tcL`), and the names of proposed blocks (`pname`).
-/
namespace HsVerif.Model

/-- messages in flight: addressee and event -/
abbrev Msgs := List (Nat × Ev)

/-- where the effects of replica `i` go: a proposal and a timeout message to every other honest
replica (in the order of `C.honest`), a vote and a new-view message to their addressee -/
def route (C : SysCfg) (i : Nat) : List Out → Msgs
  | [] => []
  | .sendPropose b agg :: rest => ((C.honest.filter (· != i)).map fun j => (j, Ev.propose i b agg)) ++ route C i rest
  | .sendVote to sig h :: rest => (to, Ev.vote i (some sig) h false) :: route C i rest
  | .sendNewView to si :: rest => (to, Ev.newview i si) :: route C i rest
  | .sendTimeout t :: rest => ((C.honest.filter (· != i)).map fun j => (j, Ev.timeout t)) ++ route C i rest
  | _ :: rest => route C i rest

theorem getBlock_nofetch (h : Hash) (s : RState) (hf : s.chain.fetchable = []) :
    (getBlock h).run s = pure (s.chain.blocks.lookup h, s) := by
  simp [getBlock, get_nofetch _ h hf]

def qcRefL (st : List (Hash × Block)) (q : QC) : Option Block := if q.hash == "" then none else st.lookup q.hash

/-- `commitRule` (chained and simplified HotStuff) over a local store: the new lock and the block to commit -/
def commitRuleL (r : Rules) (st : List (Hash × Block)) (lock : Block) (b : Block) : Block × Option Block :=
  match r with
  | .chained =>
    match qcRefL st b.qc with
    | none => (lock, none)
    | some b1 =>
    match qcRefL st b1.qc with
    | none => (lock, none)
    | some b2 =>
    let lock' := if b2.view > lock.view then b2 else lock
    match qcRefL st b2.qc with
    | none => (lock', none)
    | some b3 =>
    if b1.parent == b2.hash && b1.view == b2.view + 1 && b2.parent == b3.hash && b2.view == b3.view + 1 then
      (lock', some b3)
    else (lock', none)
  | .simple =>
    match st.lookup b.qc.hash with
    | none => (lock, none)
    | some p =>
    match st.lookup p.qc.hash with
    | none => (lock, none)
    | some gp =>
    let lock' := if gp.view > lock.view then gp else lock
    match st.lookup gp.qc.hash with
    | none => (lock', none)
    | some ggp =>
    if ggp.view + 2 == p.view && gp.view == ggp.view + 1 then (lock', some ggp) else (lock', none)
  | .fast => (lock, none)

theorem ne_fast_of {r : Rules} (hr : r = .chained ∨ r = .simple) : r ≠ .fast := by
  rcases hr with h | h <;> rw [h] <;> decide

/-- updates of the store and the lock change nothing else -/
theorem Steps.only_chain_lock {s s' : RState} (h : Steps [.chain, .lock] s s') :
    s' = { s with chain := s'.chain, lock := s'.lock } :=
  h.preserves (P := fun s' => s' = { s with chain := s'.chain, lock := s'.lock }) (fun t ht s1 _ hu hp => by
    cases hu with
    | chain _ c' => exact congrArg (fun x : RState => { x with chain := c' }) hp
    | lock _ b => exact congrArg (fun x : RState => { x with lock := if b.view > s1.lock.view then b else s1.lock }) hp
    | out _ o => cases o <;> simp [Out.tag] at ht
    | enq _ e => cases e <;> simp [Ev.tag] at ht
    | _ => simp at ht) rfl

theorem commitRuleL_eq (c : RCfg) (hr : c.rules ≠ .fast) (s : RState) (lock b : Block) :
    commitRuleL c.rules s.chain.blocks lock b = (commitLock c b (sget s) lock, commitAns c b (sget s)) := by
  have hq : ∀ q, qcRefL s.chain.blocks q = refIn (sget s) q := fun _ => rfl
  have hl : ∀ h, s.chain.blocks.lookup h = sget s h := fun _ => rfl
  unfold commitRuleL commitLock commitAns grandIn
  cases hc : c.rules with
  | fast => exact absurd hc hr
  | chained =>
    simp only [hq]
    cases refIn (sget s) b.qc with
    | none => rfl
    | some b1 =>
      simp only [Option.bind_some]
      cases refIn (sget s) b1.qc with
      | none => rfl
      | some b2 =>
        simp only [Option.bind_some]
        cases refIn (sget s) b2.qc with
        | none => rfl
        | some b3 => simp only [Option.bind_some]; split <;> rfl
  | simple =>
    simp only [hl]
    cases sget s b.qc.hash with
    | none => rfl
    | some b1 =>
      simp only [Option.bind_some]
      cases sget s b1.qc.hash with
      | none => rfl
      | some b2 =>
        simp only [Option.bind_some]
        cases sget s b2.qc.hash with
        | none => rfl
        | some b3 => simp only [Option.bind_some]; split <;> rfl

theorem commitRule_nofetch (c : RCfg) (hr : c.rules ≠ .fast) (b : Block) (s : RState) (hf : s.chain.fetchable = []) :
    (commitRule c b).run s =
      pure ((commitRuleL c.rules s.chain.blocks s.lock b).2, { s with lock := (commitRuleL c.rules s.chain.blocks s.lock b).1 }) := by
  obtain ⟨ha, hl⟩ := commitRule_pure c b s
  -- its lookups leave the store as it is, so it changes the lock and nothing else
  have hs : ((commitRule c b).run s).2 = { s with lock := ((commitRule c b).run s).2.lock } := by
    have h := (commitRule_steps c b s).only_chain_lock
    rwa [(commitRule_settles c b s).1.nofetch hf] at h
  have hsg : sget ((commitRule c b).run s).2 = sget s := by rw [hs]; rfl
  rw [hsg] at ha hl
  rw [commitRuleL_eq c hr]
  exact Prod.ext ha (hs.trans (by rw [hl]; rfl))

/-- `commitInner` over a local store: success, the new committed block, the queued events -/
def commitInnerL : Nat → List (Hash × Block) → Block → Block → Bool × Block × List Ev
  | 0, _, cm, _ => (false, cm, [])
  | f + 1, st, cm, b =>
    if cm.view ≥ b.view then (true, cm, [])
    else match st.lookup b.parent with
      | none => (false, cm, [])
      | some p =>
        let r := commitInnerL f st cm p
        if !r.1 then (false, r.2.1, r.2.2) else (true, b, r.2.2 ++ [.commit b, .exec b])

theorem commitInner_nofetch : ∀ (fuel : Nat) (b : Block) (s : RState), s.chain.fetchable = [] →
    (commitInner fuel b).run s =
      pure ((commitInnerL fuel s.chain.blocks s.committed b).1,
        { s with committed := (commitInnerL fuel s.chain.blocks s.committed b).2.1,
                 queue := s.queue ++ (commitInnerL fuel s.chain.blocks s.committed b).2.2 }) := by
  intro fuel
  induction fuel with
  | zero => intro b s hf; simp [commitInner, commitInnerL]
  | succ n ih =>
    intro b s hf
    unfold commitInnerL
    by_cases hv : s.committed.view ≥ b.view
    · simp [commitInner, hv]
    · cases hl : s.chain.blocks.lookup b.parent with
      | none => simp [commitInner, hv, getBlock_nofetch _ s hf, hl]
      | some p =>
        have := ih p s hf
        cases hr : (commitInnerL n s.chain.blocks s.committed p).1 with
        | false => simp [commitInner, hv, getBlock_nofetch _ s hf, hl, this, hr]
        | true => simp [commitInner, hv, getBlock_nofetch _ s hf, hl, this, hr, addEvent]

theorem store_fetchable (ch : RChain) (b : Block) : (ch.store b).fetchable = ch.fetchable := by
  unfold RChain.store; split <;> rfl

/-- the state after `tryCommit c b` when nothing can be fetched -/
def tcL (c : RCfg) (b : Block) (s : RState) : RState :=
  let ch := s.chain.store b
  let r := commitRuleL c.rules ch.blocks s.lock b
  match r.2 with
  | none => { s with chain := ch, lock := r.1 }
  | some t =>
    let ci := commitInnerL (ch.fuel + 1) ch.blocks s.committed t
    if !ci.1 then { s with chain := ch, lock := r.1, committed := ci.2.1, queue := s.queue ++ ci.2.2 }
    else
      let pr := ch.pruneToHeight ci.2.1 t.view
      { s with chain := pr.1, lock := r.1, committed := ci.2.1, queue := s.queue ++ ci.2.2 ++ pr.2.map Ev.abort }

theorem tcS_eq_tcL (c : RCfg) (hr : c.rules ≠ .fast) (b : Block) (s : RState) (hf : s.chain.fetchable = []) :
    tcS c b s = tcL c b s := by
  have hf1 : ({ s with chain := s.chain.store b } : RState).chain.fetchable = [] := by
    show (s.chain.store b).fetchable = []
    rw [store_fetchable]; exact hf
  unfold tcS tcL
  rw [tryCommit_run_eq, commitRule_nofetch c hr b _ hf1]
  dsimp only [pure]
  cases (commitRuleL c.rules (s.chain.store b).blocks s.lock b).2 with
  | none => rfl
  | some t =>
    dsimp only
    rw [commitInner_nofetch _ t { s with chain := s.chain.store b, lock := (commitRuleL c.rules (s.chain.store b).blocks s.lock b).1 } hf1]
    dsimp only [pure]
    cases (commitInnerL ((s.chain.store b).fuel + 1) (s.chain.store b).blocks s.committed t).1 <;> simp

/-- the name of the block proposed in view `v` -/
def pname (v : Nat) : Hash := s!"P{v}"
theorem pname_eq (v : Nat) : pname v = "P" ++ Nat.repr v := by
  simp [pname, toString]
theorem pname_inj {a b : Nat} (h : pname a = pname b) : a = b := by
  rw [pname_eq, pname_eq] at h
  exact Nat.repr_inj.mp ((String.append_right_inj "P").mp h)
theorem pname_ne_genesis (a : Nat) : pname a ≠ genesisHash := by
  rw [pname_eq]; unfold genesisHash
  intro e
  have := congrArg (fun s => s.toList.head?) e
  simp at this
theorem pname_ne_empty (a : Nat) : pname a ≠ "" := by
  rw [pname_eq]
  intro e
  have := congrArg (fun s => s.toList.head?) e
  simp at this
theorem mkBlock_hash (c : RCfg) (v n : Nat) (q : QC) : (mkBlock c v n q).hash = pname v := rfl

theorem pruneAux_fetchable (ch : List Hash) : ∀ (fuel h : Nat) (c : RChain) (acc : List Block),
    (RChain.pruneAux ch fuel h c acc).1.fetchable = c.fetchable ∧
    (RChain.pruneAux ch fuel h c acc).1.pruneHeight = c.pruneHeight ∧
    (RChain.pruneAux ch fuel h c acc).2.length ≤ acc.length + (h - c.pruneHeight) := by
  intro fuel
  induction fuel with
  | zero => intro h c acc; exact ⟨rfl, rfl, Nat.le_add_right _ _⟩
  | succ n ih =>
    intro h c acc
    unfold RChain.pruneAux
    split
    · rename_i hgt
      simp only
      obtain ⟨h1, h2, h3⟩ := ih (h - 1) { c with atHeight := c.atHeight.filter (fun p => p.1 != h) }
        (match (match (c.atHeight.lookup h).bind (fun x => c.blocks.lookup x) with
            | some b => if ch.contains b.hash then none else some b
            | none => none) with
          | some b => acc ++ [b]
          | none => acc)
      refine ⟨h1, h2, Nat.le_trans h3 ?_⟩
      simp only
      split <;> simp <;> omega
    · exact ⟨rfl, rfl, Nat.le_add_right _ _⟩

theorem pruneToHeight_facts (c : RChain) (cm : Block) (h : Nat) :
    (c.pruneToHeight cm h).1.blocks = c.blocks ∧ (c.pruneToHeight cm h).1.fetchable = c.fetchable ∧
    (c.pruneToHeight cm h).1.pruneHeight = h ∧ (c.pruneToHeight cm h).2.length ≤ h - c.pruneHeight := by
  refine ⟨pruneToHeight_blocks c cm h, ?_, ?_, ?_⟩
  · unfold RChain.pruneToHeight
    simp only
    exact (pruneAux_fetchable _ _ _ _ _).1
  · unfold RChain.pruneToHeight
    rfl
  · unfold RChain.pruneToHeight
    simp only
    have := (pruneAux_fetchable (RChain.committedHashesAux (c.fuel + 2) c cm [cm.hash]) (h + 1) h c []).2.2
    simpa using this

theorem route_append (C : SysCfg) (i : Nat) (a b : List Out) : route C i (a ++ b) = route C i a ++ route C i b := by
  induction a with
  | nil => rfl
  | cons o rest ih =>
    cases o <;> simp [route, ih]

/-- effects that are not messages -/
def Out.silent : Out → Bool
  | .sendPropose _ _ | .sendVote _ _ _ | .sendNewView _ _ | .sendTimeout _ => false
  | _ => true

theorem route_silent (C : SysCfg) (i : Nat) (l : List Out) (h : ∀ o ∈ l, o.silent = true) : route C i l = [] := by
  induction l with
  | nil => rfl
  | cons o rest ih =>
    have ho := h o (by simp)
    have hr := ih (fun o' h' => h o' (by simp [h']))
    cases o <;> simp [Out.silent] at ho <;> simp [route, hr]

theorem toOut_silent (e : Ev) (h : e.quiet = true) : e.toOut.silent = true := by
  cases e <;> simp [Ev.quiet] at h <;> rfl

theorem route_drain (C : SysCfg) (i : Nat) (o : List Out) (q : List Ev) (h : ∀ e ∈ q, e.quiet = true) :
    route C i (o ++ q.map Ev.toOut) = route C i o := by
  rw [route_append, route_silent C i (q.map Ev.toOut) (by
    intro o ho; obtain ⟨e, he, rfl⟩ := List.mem_map.mp ho; exact toOut_silent e (h e he)), List.append_nil]

theorem aggregateVote_self (k : Keys) (c : RCfg) (b : Block) (sg : Sig) (s : RState) (hl : c.leader (b.view + 1) = c.id) :
    (aggregateVote k c b sg).run s = (collectVote k c c.id (some sg) b.hash false).run s := by
  simp [aggregateVote, hl]

end HsVerif.Model
