import HsVerif.Proofs.SysSafety
import HsVerif.Proofs.ReplicaLog
/-!
C01, ledger layer, system level: THE COMMIT LOGS OF HONEST REPLICAS ARE HASH CHAINS FROM GENESIS, whatever the ruleset,
along runs in which the adversary delivers no `Ev.commit` event (`SysAct.noCommit`).  The property theorems are in Props/C01Ledger.lean (chained, simplified) and Props/C01FastSys.lean
(Fast-HotStuff).
`LCtx k C σ blk T` is all the ledger argument uses of a ruleset: a condition `T` on blocks that holds of genesis and of
whatever the commit rule returns for a block voted for, and makes a block `Safety.Final`.  The key step: EVERY ANCHOR IS THE
PREVIOUSLY COMMITTED BLOCK — views fall strictly along a stored parent path, and GC blocks of one view coincide.  All facts
are taken in the state AFTER the step: block maps (`pruneToHeight` prunes the height index only) and ghost histories only
grow; so `CA` / `CA'` of the state after an action implies it of the state before, and the run-level theorems assume
content addressing of the FINAL state only.
-/
namespace HsVerif.SysLedger
open HsVerif.Model HsVerif.Props.C01SysWF HsVerif.Safety

def lastOr (prev : Block) : List Block → Block
  | [] => prev
  | b :: rest => lastOr b rest

theorem lastOr_append (prev : Block) (l1 l2 : List Block) : lastOr prev (l1 ++ l2) = lastOr (lastOr prev l1) l2 := by
  induction l1 generalizing prev with
  | nil => rfl
  | cons b rest ih => exact ih b

def LChain (blk : Hash → Block) : Block → List Block → Prop
  | _, [] => True
  | prev, b :: rest => b.parent = prev.hash ∧ prev.view < b.view ∧ b = blk b.hash ∧ LChain blk b rest

theorem lchain_append (blk : Hash → Block) (prev : Block) (l1 l2 : List Block) :
    LChain blk prev (l1 ++ l2) ↔ LChain blk prev l1 ∧ LChain blk (lastOr prev l1) l2 := by
  induction l1 generalizing prev with
  | nil => simp [LChain, lastOr]
  | cons b rest ih =>
    simp only [List.cons_append, LChain, lastOr, ih b]
    constructor
    · rintro ⟨h1, h2, h3, h4, h5⟩; exact ⟨⟨h1, h2, h3, h4⟩, h5⟩
    · rintro ⟨⟨h1, h2, h3, h4⟩, h5⟩; exact ⟨h1, h2, h3, h4, h5⟩

def Tip (C : SysCfg) (σ : SysState) (blk : Hash → Block) (x : Block) : Prop :=
  x = genesisBlock ∨ ∃ b2 b1, ThreeChain (S := SysAbs C σ blk) x b2 b1

end HsVerif.SysLedger

namespace HsVerif.SysSafety
open HsVerif.Model HsVerif.Props.C01SysWF HsVerif.Safety HsVerif.SysLedger

section
variable {k : Keys} {C : SysCfg} {σ : SysState} {blk : Hash → Block} (X : Base k C σ blk)
include X

theorem Base.stored_par {i : Nat} {s : RState} {b p : Block} (hs : σ.reps.lookup i = some s)
    (hb : GC (SysAbs C σ blk) b) (hv : 0 < b.view) (hp : sget s b.parent = some p) :
    (SysAbs C σ blk).par b = p ∧ b = blk b.hash ∧ b.parent = p.hash ∧ GC (SysAbs C σ blk) p ∧ p.view < b.view := by
  have hne : b ≠ genesisBlock := by
    intro e; rw [e] at hv; exact Nat.lt_irrefl _ hv
  have V := X.cert (hb.resolve_left hne)
  obtain ⟨h1, h2⟩ := X.stored hs hp
  have hpar : (SysAbs C σ blk).par b = p := by rw [sysAbs_par, if_neg hne]; exact h1.symm
  exact ⟨hpar, V.known, h2.symm, hpar ▸ V.gc, hpar ▸ V.lt⟩

theorem Base.path_chain {i : Nat} {s : RState} {a t : Block} {seg : List Block} (hs : σ.reps.lookup i = some s)
    (h : Path s a seg t) : GC (SysAbs C σ blk) t → (∀ x ∈ seg, 0 < x.view) →
    LChain blk a seg ∧ lastOr a seg = t := by
  induction h with
  | nil => intro _ _; exact ⟨trivial, rfl⟩
  | snoc seg p b _ hp ih =>
    intro hb hv
    obtain ⟨_, h2, h3, h5, h6⟩ := X.stored_par hs hb (hv b (by simp)) hp
    obtain ⟨i1, i2⟩ := ih h5 (fun x hx => hv x (List.mem_append_left _ hx))
    refine ⟨(lchain_append blk a seg [b]).mpr ⟨i1, ?_⟩, by rw [lastOr_append]; rfl⟩
    rw [i2]
    exact ⟨h3, h6, h2, trivial⟩

theorem Base.path_anchor {i : Nat} {s : RState} {a t c1 : Block} {seg : List Block} (hs : σ.reps.lookup i = some s)
    (hc1 : GC (SysAbs C σ blk) c1) (h : Path s a seg t) : GC (SysAbs C σ blk) t → Ext (SysAbs C σ blk) t c1 →
    (∀ x ∈ seg, c1.view < x.view) → a.view ≤ c1.view → a = c1 := by
  induction h with
  | nil =>
    intro ha hx _ hv
    exact X.vd.gc_unique ha hc1 (Nat.le_antisymm hv (X.vd.ext_le ha hx).2)
  | snoc seg p b _ hp ih =>
    intro hb ⟨n, hn⟩ hsv hv
    have hbv := hsv b (by simp)
    obtain ⟨h1, _, _, h5, _⟩ := X.stored_par hs hb (by omega) hp
    cases n with
    | zero => cases hn; exact absurd hbv (Nat.lt_irrefl _)
    | succ n =>
      have hn' : up (SysAbs C σ blk) n ((SysAbs C σ blk).par b) = c1 := hn
      rw [h1] at hn'
      exact ih h5 ⟨n, hn'⟩ (fun x hx => hsv x (List.mem_append_left _ hx)) hv

end

structure LCtx (k : Keys) (C : SysCfg) (σ : SysState) (blk : Hash → Block) (T : Block → Prop) : Prop where
  base : Base k C σ blk
  gen : T genesisBlock
  rule : ∀ {i : Nat} {s : RState} {x g : Block} {id : Nat}, σ.reps.lookup i = some s → GRec.vote x id ∈ s.ghost →
    CommitChain (C.rcfg i) s x g → T g
  final : ∀ {b : Block}, T b → Final (SysAbs C σ blk) b

section
variable {k : Keys} {C : SysCfg} {σ : SysState} {blk : Hash → Block} {T : Block → Prop} (X : LCtx k C σ blk T)
include X

theorem LCtx.committedBy {i : Nat} {s s' : RState} (hs' : σ.reps.lookup i = some s')
    (hgh : ∀ r, r ∈ s.ghost → r ∈ s'.ghost) (hg : Grows s.chain.blocks s') (h : CommittedBy (C.rcfg i) s) :
    T s.committed := by
  rcases h with h | ⟨x, id, hm, hcc⟩
  · rw [h]; exact X.gen
  · exact X.rule hs' (hgh _ hm) (commitChain_grows _ s s' x _ hg hcc)

theorem LCtx.committed {i : Nat} {s : RState} (hs : σ.reps.lookup i = some s) : T s.committed :=
  X.committedBy hs (fun _ h => h) (grows_refl s) (reach_committedBy k C σ X.base.hr i s hs)

theorem LCtx.commits_agree {i j : Nat} {si sj : RState} (hi : σ.reps.lookup i = some si) (hj : σ.reps.lookup j = some sj) :
    Ext (SysAbs C σ blk) si.committed sj.committed ∨ Ext (SysAbs C σ blk) sj.committed si.committed :=
  (X.final (X.committed hi)).total (X.final (X.committed hj))

theorem LCtx.segs_chain {i : Nat} {s : RState} {vs : List GRec} {c0 t : Block} {l : List Block}
    (hs : σ.reps.lookup i = some s) (hsub : ∀ r, r ∈ vs → r ∈ s.ghost) (hc0 : T c0)
    (h : Segs (C.rcfg i) s vs c0 l t) : LChain blk c0 l ∧ lastOr c0 l = t ∧ T t := by
  induction h with
  | nil => exact ⟨trivial, rfl, hc0⟩
  | snoc l c1 a seg t _ hne hpath hav hsv hcc ih =>
    obtain ⟨i1, i2, i3⟩ := ih
    obtain ⟨x, id, hm, hch⟩ := hcc
    have ht : T t := X.rule hs (hsub _ hm) hch
    have htgc := (X.final ht).1
    -- the new committed block is above the one committed before, hence extends it
    have hext := (X.final i3).2 t htgc (Nat.le_of_lt (hsv t (hpath.top_mem hne)))
    obtain rfl : a = c1 := X.base.path_anchor hs (X.final i3).1 hpath htgc hext hsv hav
    obtain ⟨p1, p2⟩ := X.base.path_chain hs hpath htgc (fun x hx => Nat.lt_of_le_of_lt (Nat.zero_le _) (hsv x hx))
    exact ⟨(lchain_append blk c0 l seg).mpr ⟨i1, by rw [i2]; exact p1⟩, by rw [lastOr_append, i2]; exact p2, ht⟩

end

theorem Ctx.commit {k : Keys} {C : SysCfg} {σ : SysState} {blk : Hash → Block} (X : Ctx k C σ blk) :
    LCtx k C σ blk (Tip C σ blk) where
  base := X.base
  gen := Or.inl rfl
  rule hs hm h := Or.inr (X.commit_chain hs hm h)
  final h := by
    rcases h with rfl | ⟨b2, b1, T⟩
    · exact X.base.vd.final_gen
    · exact T.final X.discipline

end HsVerif.SysSafety

namespace HsVerif.SysLedger
open HsVerif.Model HsVerif.Props HsVerif.Props.C01SysWF HsVerif.SysSafety

theorem sysStep_rep_grows (k : Keys) (C : SysCfg) (σ : SysState) (a : SysAct) (i : Nat) (s : RState)
    (hs : σ.reps.lookup i = some s) :
    ∃ s', (sysStep k C σ a).reps.lookup i = some s' ∧ Grows s.chain.blocks s' ∧ ∃ new, s'.ghost = s.ghost ++ new :=
  (sysStep_rep k C σ a (fun _ s s' => Grows s.chain.blocks s' ∧ ∃ new, s'.ghost = s.ghost ++ new)
      (fun _ s => ⟨grows_refl s, [], (List.append_nil _).symm⟩)
      (fun _ s t nb => ⟨start_grows k _ { s with truth := t, nextBytes := nb },
        let ⟨new, hg, _⟩ := start_vr k _ { s with truth := t, nextBytes := nb }; ⟨new, hg⟩⟩)
      (fun _ s t nb e => ⟨step_grows k _ { s with truth := t, nextBytes := nb } e,
        let ⟨new, hg, _⟩ := step_vr k _ { s with truth := t, nextBytes := nb } e; ⟨new, hg⟩⟩)
      (fun _ s _ => ⟨grows_of_blocks_eq s _ rfl, [], (List.append_nil _).symm⟩) i).1 s hs

theorem ca_back (k : Keys) (C : SysCfg) (σ : SysState) (a : SysAct) (blk : Hash → Block)
    (h : CA (sysStep k C σ a) blk) : CA σ blk := by
  refine ⟨h.1, fun i s hs => ?_⟩
  obtain ⟨s', hs', hg, new, hnew⟩ := sysStep_rep_grows k C σ a i s hs
  obtain ⟨h1, h2⟩ := h.2 i s' hs'
  exact ⟨fun x b hb => h1 x b (hg x b hb), fun b id hm => h2 b id (by rw [hnew]; exact List.mem_append_left _ hm)⟩

theorem sysRun_snoc (k : Keys) (C : SysCfg) (acts : List SysAct) (a : SysAct) :
    sysRun k C (acts ++ [a]) = sysStep k C (sysRun k C acts) a := by
  simp [sysRun, List.foldl_append]

theorem back_run (k : Keys) (C : SysCfg) (P : SysState → Prop) (hP : ∀ σ a, P (sysStep k C σ a) → P σ)
    (acts more : List SysAct) (h : P (sysRun k C (acts ++ more))) : P (sysRun k C acts) := by
  induction more generalizing acts with
  | nil => simpa using h
  | cons a more ih =>
    have := ih (acts ++ [a]) (by simpa using h)
    rw [sysRun_snoc] at this
    exact hP _ a this

section Obs
variable {α : Type} (obs : List Out → List α)

def sysStepObs (k : Keys) (C : SysCfg) (p : SysState × (Nat → List α)) (a : SysAct) : SysState × (Nat → List α) :=
  (sysStep k C p.1 a,
    match stepOuts k C p.1 a with
    | some (i, outs) => fun j => if j = i then p.2 j ++ obs outs else p.2 j
    | none => p.2)

/-- the run of the actions `acts` from `sysInit`, with the record of every replica: what `obs` shows of the outputs of its
steps, in order -/
def sysRunObs (k : Keys) (C : SysCfg) (acts : List SysAct) : SysState × (Nat → List α) :=
  acts.foldl (sysStepObs obs k C) (sysInit k C, fun _ => [])

theorem sysRunObs_snoc (k : Keys) (C : SysCfg) (acts : List SysAct) (a : SysAct) :
    sysRunObs obs k C (acts ++ [a]) = sysStepObs obs k C (sysRunObs obs k C acts) a := by
  simp [sysRunObs, List.foldl_append]

theorem sysRunObs_fst (k : Keys) (C : SysCfg) (acts : List SysAct) : (sysRunObs obs k C acts).1 = sysRun k C acts := by
  refine snoc_induction (fun acts => (sysRunObs obs k C acts).1 = sysRun k C acts) rfl ?_ acts
  intro l a ih
  rw [sysRunObs_snoc, sysRun_snoc, ← ih]; rfl

/-- `Good` is whatever is assumed of the states the run goes through (content addressing, for the ledgers); the step
hypotheses get the state `σ` before, reachable, and `Good` of the state `σ'` after. -/
theorem sysRunObs_inv (k : Keys) (C : SysCfg) (I : List α → RState → Prop) (ok : SysAct → Bool) (Good : SysState → Prop)
    (h0 : I [] {})
    (hfetch : ∀ l s f, I l s → I l { s with chain := { s.chain with fetchable := f } })
    (hstart : ∀ σ σ' i s l, Reach k C σ → Good σ' → σ.reps.lookup i = some s →
      ∀ r, r = start k (C.rcfg i) { s with truth := σ.truth, nextBytes := σ.nextBytes } →
      σ'.reps.lookup i = some r.1 → I l s → I (l ++ obs r.2) r.1)
    (hstep : ∀ σ σ' i e s l, ok (.deliver i e) = true → Reach k C σ → Good σ' → σ.reps.lookup i = some s →
      ∀ r, r = step k (C.rcfg i) { s with truth := σ.truth, nextBytes := σ.nextBytes } e →
      σ'.reps.lookup i = some r.1 → I l s → I (l ++ obs r.2) r.1)
    (acts : List SysAct) :
    (∀ a ∈ acts, ok a = true) → (∀ l, l <+: acts → Good (sysRun k C l)) →
    ∀ i s, (sysRun k C acts).reps.lookup i = some s → I ((sysRunObs obs k C acts).2 i) s := by
  refine snoc_induction (fun acts => (∀ a ∈ acts, ok a = true) → (∀ l, l <+: acts → Good (sysRun k C l)) →
    ∀ i s, (sysRun k C acts).reps.lookup i = some s → I ((sysRunObs obs k C acts).2 i) s) ?_ ?_ acts
  · intro _ _ i s h
    obtain ⟨_, rfl⟩ := sysInit_lookup (k := k) h
    exact h0
  · intro acts a ih hacts H
    have ih := ih (fun x hx => hacts x (List.mem_append_left _ hx)) (fun l hl => H l (hl.trans (List.prefix_append _ _)))
    have hok := hacts a (by simp)
    have hG := H (acts ++ [a]) (List.prefix_refl _)
    have hr := reach_run k C acts
    have e : sysRunObs obs k C acts = (sysRun k C acts, (sysRunObs obs k C acts).2) := by rw [← sysRunObs_fst obs]
    rw [sysRun_snoc] at hG ⊢
    rw [sysRunObs_snoc, e]
    generalize sysRun k C acts = σ at ih hG hr ⊢
    generalize (sysRunObs obs k C acts).2 = L at ih ⊢
    have set : ∀ j v (l' : Nat → List α), I (l' j) v → ∀ i s, (setKV j v σ.reps).lookup i = some s →
        I (if i = j then l' i else L i) s := by
      intro j v l' hv i s hs
      rcases lookup_setKV_cases hs with ⟨rfl, rfl⟩ | ⟨hij, hs⟩
      · rw [if_pos rfl]; exact hv
      · rw [if_neg hij]; exact ih i s hs
    refine sysStep_cases k C σ (motive := fun a σ' o => ok a = true → Good σ' → ∀ i s, σ'.reps.lookup i = some s →
        I ((match o with
            | some (j, outs) => fun x => if x = j then L x ++ obs outs else L x
            | none => L) i) s)
      (fun _ _ _ => ih) ?_ ?_ ?_ (fun _ _ _ _ => ih) a hok hG
    · intro j sj hj r hr' _ hG'
      exact set j r.1 (fun x => L x ++ obs r.2)
        (hstart σ _ j sj (L j) hr hG' hj r hr' (lookup_setKV_self _ _ _) (ih j sj hj))
    · intro j ev sj hj r hr' hok' hG'
      exact set j r.1 (fun x => L x ++ obs r.2)
        (hstep σ _ j ev sj (L j) hok' hr hG' hj r hr' (lookup_setKV_self _ _ _) (ih j sj hj))
    · intro j l sj hj _ _ i s hs
      have := set j _ L (hfetch (L j) sj l (ih j sj hj)) i s hs
      split at this <;> exact this

end Obs

def sysStepL (k : Keys) (C : SysCfg) (p : SysState × (Nat → List Block)) (a : SysAct) :
    SysState × (Nat → List Block) :=
  (sysStep k C p.1 a,
    match stepOuts k C p.1 a with
    | some (i, outs) => fun j => if j = i then p.2 j ++ commitsOf outs else p.2 j
    | none => p.2)

def sysRunL (k : Keys) (C : SysCfg) (acts : List SysAct) : SysState × (Nat → List Block) :=
  acts.foldl (sysStepL k C) (sysInit k C, fun _ => [])

theorem sysRunL_eq (k : Keys) (C : SysCfg) (acts : List SysAct) : sysRunL k C acts = sysRunObs commitsOf k C acts := rfl

theorem sysRunL_fst (k : Keys) (C : SysCfg) (acts : List SysAct) : (sysRunL k C acts).1 = sysRun k C acts :=
  sysRunL_eq k C acts ▸ sysRunObs_fst commitsOf k C acts

/-- the adversary does not inject commit events into a replica's event loop (`Ev.commit` is an internal event of the
replica: committer → event loop → executor); with such a delivery the ledger is arbitrary (Props/C01Ledger.lean,
`ledger_counterexample`) -/
def _root_.HsVerif.Model.SysAct.noCommit : SysAct → Bool
  | .deliver _ (.commit _) => false
  | _ => true

structure RepLedger (blk : Hash → Block) (l : List Block) (s : RState) : Prop where
  out : s.out = []
  wait : waitCommits s = []
  chain : LChain blk genesisBlock (l ++ pending s)
  last : lastOr genesisBlock (l ++ pending s) = s.committed

def LedgerInv (blk : Hash → Block) (σ : SysState) (L : Nat → List Block) : Prop :=
  ∀ i s, σ.reps.lookup i = some s → RepLedger blk (L i) s

theorem noCommit_deliver (i : Nat) (e : Ev) (h : (SysAct.deliver i e).noCommit = true) : evCommits [e] = [] := by
  cases e <;> first | rfl | (simp [SysAct.noCommit] at h)

section
variable {k : Keys} {C : SysCfg} {blk : Hash → Block} {T : Block → Prop}

theorem rep_ledger {σ : SysState} (X : LCtx k C σ blk T)
    {i : Nat} {s s' : RState} {outs : List Out} {l : List Block} (hs' : σ.reps.lookup i = some s')
    (hlog : LogStep (C.rcfg i) s (queuedCommits s) s' outs) (hg : Grows s.chain.blocks s')
    (hcb : CommittedBy (C.rcfg i) s) (hout : s'.out = []) (hl : RepLedger blk l s) :
    RepLedger blk (l ++ commitsOf outs) s' := by
  obtain ⟨new, seg, hgh, hw, hq, hsegs⟩ := hlog
  have htip : T s.committed := X.committedBy hs' (fun r hr => by rw [hgh]; exact List.mem_append_left _ hr) hg hcb
  obtain ⟨c1, c2, _⟩ := X.segs_chain hs' (fun r hr => by rw [hgh]; exact List.mem_append_right _ hr) htip hsegs
  have hp : pending s = queuedCommits s := by simp [pending, outCommits, hl.out]
  have hp' : pending s' = queuedCommits s' := by simp [pending, outCommits, hout]
  have he : l ++ commitsOf outs ++ pending s' = (l ++ pending s) ++ seg := by
    rw [hp', hp, List.append_assoc, hq, List.append_assoc]
  refine ⟨hout, hw, ?_, ?_⟩
  · rw [he]; exact (lchain_append blk _ _ _).mpr ⟨hl.chain, by rw [hl.last]; exact c1⟩
  · rw [he, lastOr_append, hl.last]; exact c2

theorem sysRunL_inv (T : SysState → Block → Prop) (acts : List SysAct) :
    (∀ a ∈ acts, a.noCommit = true) → (∀ l, l <+: acts → LCtx k C (sysRun k C l) blk (T (sysRun k C l))) →
    LedgerInv blk (sysRun k C acts) (sysRunL k C acts).2 :=
  sysRunL_eq k C acts ▸ sysRunObs_inv commitsOf k C (RepLedger blk) SysAct.noCommit (fun σ => LCtx k C σ blk (T σ)) ⟨rfl, rfl, trivial, rfl⟩
    (fun _ _ _ h => ⟨h.out, h.wait, h.chain, h.last⟩)
    (fun σ _ i s l hr X hs r hr' hs' h => by
      have hls : RepLedger blk l { s with truth := σ.truth, nextBytes := σ.nextBytes } := ⟨h.out, h.wait, h.chain, h.last⟩
      subst hr'
      exact rep_ledger X hs' (start_log k _ _ hls.wait) (start_grows k _ _)
        (committedBy_congr _ s _ rfl rfl rfl (reach_committedBy k C σ hr i s hs)) rfl hls)
    (fun σ _ i e s l hok hr X hs r hr' hs' h => by
      have hls : RepLedger blk l { s with truth := σ.truth, nextBytes := σ.nextBytes } := ⟨h.out, h.wait, h.chain, h.last⟩
      have hlog := step_log k (C.rcfg i) _ e hls.wait
      rw [noCommit_deliver i e hok, List.append_nil] at hlog
      subst hr'
      exact rep_ledger X hs' hlog (step_grows k _ _ e)
        (committedBy_congr _ s _ rfl rfl rfl (reach_committedBy k C σ hr i s hs)) rfl hls)
    acts

end

theorem reach_wait (k : Keys) (C : SysCfg) (σ : SysState) (hr : Reach k C σ) :
    ∀ i s, σ.reps.lookup i = some s → waitCommits s = [] :=
  reach_rep k C (fun _ s => waitCommits s = []) (fun _ => rfl) (fun _ _ _ _ hw => hw) (fun _ _ _ hw => hw)
    (fun i s hw => (start_log k (C.rcfg i) s hw).wait) (fun i s e hw => (step_log k (C.rcfg i) s e hw).wait) σ hr

end HsVerif.SysLedger
