import HsVerif.Proofs.StoreWalk
import HsVerif.Proofs.ReplicaCur
/-!
What `tryCommit c b` does, as ONE relation between the state before and the state after (`Commit`, `tryCommit_commit`).

`commitRule` only looks blocks up (and moves the lock).  `Get` only lets the store grow, what was neither stored nor
fetchable stays so, and where nothing can be fetched the store stays as it is (`After`: `grows`, `absent`, `nofetch`);
hence the answer of a lookup is what every later store has under that hash.  `Settles` proves a
property of the answer of such a program in every store that can still come about, each lookup made on the way being a
hypothesis `sget s' h = r`; so the answer of `commitRule c b` and the lock it leaves are pure functions of the store it
leaves behind (`commitAns`, `commitLock`).  Since pruning keeps the block map, the lock `tryCommit` leaves is
`commitLock` of the FINAL store.
-/
namespace HsVerif.Model

/-- `Get h` answers `none`, and goes on doing so for the rest of the handler -/
def ChainAbsent (h : Hash) (c : RChain) : Prop := c.blocks.lookup h = none ∧ c.fetchable.lookup h = none

theorem get_snd_none (c : RChain) (h : Hash) (hr : (c.get h).2 = none) : ChainAbsent h (c.get h).1 := by
  unfold RChain.get at *
  split at hr
  · cases hr
  · split at hr
    · cases hr
    · exact ⟨by assumption, by assumption⟩

theorem chainAbsent_get (h h' : Hash) (c : RChain) (ha : ChainAbsent h c) : ChainAbsent h (c.get h').1 := by
  unfold RChain.get
  split
  · exact ha
  · split
    · rename_i b hf
      refine ⟨?_, ha.2⟩
      simp only [List.lookup_cons]
      split
      · rename_i heq
        have : h = h' := by simpa using heq
        subst this; rw [ha.2] at hf; cases hf
      · exact ha.1
    · exact ha

theorem get_nofetch (c : RChain) (h : Hash) (hf : c.fetchable = []) : c.get h = (c, c.blocks.lookup h) := by
  unfold RChain.get
  split
  · rename_i b hb; rw [hb]
  · rename_i hb; rw [hf, hb]; rfl

/-- what lookups (`Get`, `Extends`) can make of `c`: the block map grows, what was neither stored nor fetchable stays so,
and nothing changes where nothing can be fetched -/
structure After (c c' : RChain) : Prop where
  grows : ChainGrows c.blocks c'
  absent : ∀ h, ChainAbsent h c → ChainAbsent h c'
  nofetch : c.fetchable = [] → c' = c

theorem After.refl (c : RChain) : After c c := ⟨.refl c, fun _ h => h, fun _ => rfl⟩

theorem After.trans {c c' c'' : RChain} (h1 : After c c') (h2 : After c' c'') : After c c'' :=
  ⟨fun k b hk => h2.grows k b (h1.grows k b hk), fun h ha => h2.absent h (h1.absent h ha),
   fun hf => by have e := h1.nofetch hf; subst e; exact h2.nofetch hf⟩

theorem after_get (c : RChain) (h : Hash) : After c (c.get h).1 :=
  ⟨chainGrows_get _ c h (.refl c), fun x hx => chainAbsent_get x h c hx, fun hf => by rw [get_nofetch c h hf]⟩

theorem get_settled {c c' : RChain} {h : Hash} (ha : After (c.get h).1 c') : c'.blocks.lookup h = (c.get h).2 := by
  cases hr : (c.get h).2 with
  | some b => exact ha.grows h b (get_snd_some c h b hr)
  | none => exact (ha.absent h (get_snd_none c h hr)).1

/-- `x` is the outcome of a run from `s` that only looked blocks up, and `Q` holds of its answer in every state
with the lock it left and a store that further lookups can produce (where the lookups of the run are answered
as they were) -/
def Settles {α} (s : RState) (x : α × RState) (Q : α → RState → Prop) : Prop :=
  After s.chain x.2.chain ∧ ∀ s', s'.lock = x.2.lock → After x.2.chain s'.chain → Q x.1 s'

theorem Settles.pure {α} {s : RState} {a : α} {Q : α → RState → Prop} (h : ∀ s', s'.lock = s.lock → Q a s') :
    Settles s ((pure a : M α).run s) Q :=
  ⟨.refl _, fun s' hl _ => h s' hl⟩

theorem Settles.pure_ite {α} {s : RState} {p : Prop} [Decidable p] {a a' : α} {Q : α → RState → Prop}
    (h : ∀ s', s'.lock = s.lock → Q (if p then a else a') s') :
    Settles s ((if p then Pure.pure a else Pure.pure a' : M α).run s) Q := by
  rw [← apply_ite (Pure.pure : α → M α)]; exact Settles.pure h

theorem Settles.getBlock {α} {s : RState} {h : Hash} {k : Option Block → M α} {Q : α → RState → Prop}
    (hk : ∀ r c1, Settles { s with chain := c1 } ((k r).run { s with chain := c1 }) fun a s' => sget s' h = r → Q a s') :
    Settles s ((getBlock h >>= k).run s) Q := by
  obtain ⟨h1, h2⟩ := hk (s.chain.get h).2 (s.chain.get h).1
  exact ⟨(after_get _ _).trans h1, fun s' hl ha => h2 s' hl ha (get_settled (h1.trans ha))⟩

def Absent (h : Hash) (s : RState) : Prop := ChainAbsent h s.chain

theorem Settles.get {α} {s : RState} {k : RState → M α} {Q : α → RState → Prop}
    (hk : Settles s ((k s).run s) Q) : Settles s ((get >>= k).run s) Q := hk

theorem Settles.getBlock_absent {α} {s : RState} {h : Hash} {k : Option Block → M α} {Q : α → RState → Prop}
    (hk : ∀ r c1, Settles { s with chain := c1 } ((k r).run { s with chain := c1 })
      fun a s' => sget s' h = r → (r = none → Absent h s') → Q a s') :
    Settles s ((Model.getBlock h >>= k).run s) Q := by
  obtain ⟨h1, h2⟩ := hk (s.chain.get h).2 (s.chain.get h).1
  exact ⟨(after_get _ _).trans h1, fun s' hl ha => h2 s' hl ha (get_settled (h1.trans ha))
    fun hr => (h1.trans ha).absent h (get_snd_none _ _ hr)⟩

theorem Settles.modify {α} {s : RState} {f : RState → RState} {k : PUnit → M α} {Q : α → RState → Prop}
    (hf : (f s).chain = s.chain) (hk : Settles (f s) ((k ⟨⟩).run (f s)) Q) : Settles s ((modify f >>= k).run s) Q :=
  ⟨hf ▸ hk.1, hk.2⟩

def refIn (st : Hash → Option Block) (q : QC) : Option Block := if q.hash == "" then none else st q.hash

theorem Settles.qcRef {α} {s : RState} {q : QC} {k : Option Block → M α} {Q : α → RState → Prop}
    (hk : ∀ r c1, Settles { s with chain := c1 } ((k r).run { s with chain := c1 }) fun a s' => refIn (sget s') q = r → Q a s') :
    Settles s ((qcRef q >>= k).run s) Q := by
  unfold HsVerif.Model.qcRef
  split
  · rename_i hq
    obtain ⟨h1, h2⟩ := hk none s.chain
    exact ⟨h1, fun s' hl ha => h2 s' hl ha (if_pos hq)⟩
  · rename_i hq
    exact Settles.getBlock fun r c1 => by simpa only [refIn, if_neg hq] using hk r c1

/-- the block two certificate links below `b` as `commitRule` finds it in the store `st` on the way to the lock
(Fast-HotStuff keeps no lock) -/
def grandIn (c : RCfg) (st : Hash → Option Block) (b : Block) : Option Block :=
  match c.rules with
  | .chained => (refIn st b.qc).bind fun p => refIn st p.qc
  | .simple => (st b.qc.hash).bind fun p => st p.qc.hash
  | .fast => none

/-- the lock `commitRule c b` leaves, from the lock `L` before and the store `st` after -/
def commitLock (c : RCfg) (b : Block) (st : Hash → Option Block) (L : Block) : Block :=
  match grandIn c st b with
  | none => L
  | some g => if g.view > L.view then g else L

/-- the answer of `commitRule c b`, from the store `st` it leaves -/
def commitAns (c : RCfg) (b : Block) (st : Hash → Option Block) : Option Block :=
  match c.rules with
  | .chained =>
    (refIn st b.qc).bind fun b1 => (refIn st b1.qc).bind fun b2 => (refIn st b2.qc).bind fun b3 =>
      if b1.parent == b2.hash && b1.view == b2.view + 1 && b2.parent == b3.hash && b2.view == b3.view + 1 then some b3
      else none
  | .simple =>
    (st b.qc.hash).bind fun p => (st p.qc.hash).bind fun gp => (st gp.qc.hash).bind fun ggp =>
      if ggp.view + 2 == p.view && gp.view == ggp.view + 1 then some ggp else none
  | .fast =>
    (refIn st b.qc).bind fun p => (refIn st p.qc).bind fun gp =>
      if b.parent == p.hash && b.view == p.view + 1 && p.parent == gp.hash && p.view == gp.view + 1 then some gp
      else none

theorem commitRule_settles (c : RCfg) (b : Block) (s : RState) :
    Settles s ((commitRule c b).run s) fun r s' =>
      r = commitAns c b (sget s') ∧ s'.lock = commitLock c b (sget s') s.lock := by
  unfold commitRule commitAns commitLock grandIn
  cases c.rules <;> simp only []
  · refine Settles.qcRef fun r1 c1 => ?_
    cases r1 with
    | none => exact Settles.pure fun s' hl e1 => by simp only [Option.bind_none, and_self, e1, hl]
    | some b1 =>
      refine Settles.qcRef fun r2 c2 => ?_
      cases r2 with
      | none => exact Settles.pure fun s' hl e2 e1 => by simp only [Option.bind_some, Option.bind_none, and_self, e1, e2, hl]
      | some b2 =>
        refine Settles.modify rfl (Settles.qcRef fun r3 c3 => ?_)
        cases r3 with
        | none => exact Settles.pure fun s' hl e3 e2 e1 => by simp only [Option.bind_some, Option.bind_none, and_self, e1, e2, e3, hl]
        | some b3 => exact Settles.pure_ite fun s' hl e3 e2 e1 => by simp only [Option.bind_some, and_self, e1, e2, e3, hl]
  · refine Settles.getBlock fun r1 c1 => ?_
    cases r1 with
    | none => exact Settles.pure fun s' hl e1 => by simp only [Option.bind_none, and_self, e1, hl]
    | some p =>
      refine Settles.getBlock fun r2 c2 => ?_
      cases r2 with
      | none => exact Settles.pure fun s' hl e2 e1 => by simp only [Option.bind_some, Option.bind_none, and_self, e1, e2, hl]
      | some gp =>
        refine Settles.modify rfl (Settles.getBlock fun r3 c3 => ?_)
        cases r3 with
        | none => exact Settles.pure fun s' hl e3 e2 e1 => by simp only [Option.bind_some, Option.bind_none, and_self, e1, e2, e3, hl]
        | some ggp => exact Settles.pure_ite fun s' hl e3 e2 e1 => by simp only [Option.bind_some, and_self, e1, e2, e3, hl]
  · refine Settles.qcRef fun r1 c1 => ?_
    cases r1 with
    | none => exact Settles.pure fun s' hl e1 => by simp only [Option.bind_none, and_self, e1, hl]
    | some p =>
      refine Settles.qcRef fun r2 c2 => ?_
      cases r2 with
      | none => exact Settles.pure fun s' hl e2 e1 => by simp only [Option.bind_some, Option.bind_none, and_self, e1, e2, hl]
      | some gp => exact Settles.pure_ite fun s' hl e2 e1 => by simp only [Option.bind_some, and_self, e1, e2, hl]

theorem commitRule_pure (c : RCfg) (b : Block) (s : RState) :
    ((commitRule c b).run s).1 = commitAns c b (sget ((commitRule c b).run s).2) ∧
    ((commitRule c b).run s).2.lock = commitLock c b (sget ((commitRule c b).run s).2) s.lock :=
  (commitRule_settles c b s).2 _ rfl (.refl _)

/-- `lk` is the certificate-grandparent of `b` in the block map `st`, over links `commitRule` follows -/
def GPst (c : RCfg) (st : List (Hash × Block)) (lk b : Block) : Prop :=
  ∃ p, st.lookup b.qc.hash = some p ∧ (c.rules = .chained → b.qc.hash ≠ "" ∧ p.qc.hash ≠ "") ∧ st.lookup p.qc.hash = some lk

theorem gpst_mono {c : RCfg} {st st' : List (Hash × Block)} {lk b : Block}
    (hm : ∀ k x, st.lookup k = some x → st'.lookup k = some x) (h : GPst c st lk b) : GPst c st' lk b :=
  let ⟨p, hp, hh, h2⟩ := h
  ⟨p, hm _ _ hp, hh, hm _ _ h2⟩

theorem refIn_eq_some {st : Hash → Option Block} {q : QC} {x : Block} :
    refIn st q = some x ↔ q.hash ≠ "" ∧ st q.hash = some x := by
  unfold refIn
  split <;> simp_all

theorem grandIn_iff (c : RCfg) (s : RState) (b g : Block) :
    grandIn c (sget s) b = some g ↔ c.rules ≠ .fast ∧ GPst c s.chain.blocks g b := by
  unfold grandIn GPst
  cases hr : c.rules with
  | fast => exact ⟨nofun, fun h => absurd rfl h.1⟩
  | chained =>
    simp only [Option.bind_eq_some_iff, refIn_eq_some]
    exact ⟨fun ⟨p, ⟨h0, hp⟩, h1, hg⟩ => ⟨nofun, p, hp, fun _ => ⟨h0, h1⟩, hg⟩,
      fun ⟨_, p, hp, hh, hg⟩ => ⟨p, ⟨(hh trivial).1, hp⟩, (hh trivial).2, hg⟩⟩
  | simple =>
    simp only [Option.bind_eq_some_iff]
    exact ⟨fun ⟨p, hp, hg⟩ => ⟨nofun, p, hp, nofun, hg⟩, fun ⟨_, p, hp, _, hg⟩ => ⟨p, hp, hg⟩⟩

theorem commitLock_from (c : RCfg) (b L : Block) (s : RState) :
    commitLock c b (sget s) L = L ∨
      (GPst c s.chain.blocks (commitLock c b (sget s) L) b ∧ L.view < (commitLock c b (sget s) L).view) := by
  unfold commitLock
  cases hg : grandIn c (sget s) b with
  | none => exact Or.inl rfl
  | some g =>
    simp only []
    split
    · exact Or.inr ⟨((grandIn_iff c s b g).mp hg).2, by assumption⟩
    · exact Or.inl rfl

theorem commitLock_covers (c : RCfg) (hc : c.rules ≠ .fast) (b L g : Block) (s : RState)
    (hg : GPst c s.chain.blocks g b) : g.view ≤ (commitLock c b (sget s) L).view := by
  unfold commitLock
  rw [(grandIn_iff c s b g).mpr ⟨hc, hg⟩]
  simp only []
  split
  · exact Nat.le_refl _
  · omega

theorem grows_refl (s : RState) : Grows s.chain.blocks s := fun _ _ h => h

theorem grows_of_blocks_eq (s s' : RState) (h : s'.chain.blocks = s.chain.blocks) : Grows s.chain.blocks s' := by
  intro k b hx; show s'.chain.blocks.lookup k = some b; rw [h]; exact hx

/-- `L` is reached from `x` by two certificate links in the store (for chained HotStuff the second
one through `qcRef`, which does not follow an empty certificate hash; simplified HotStuff calls
`Get` on whatever hash the certificate carries) -/
def Via (c : RCfg) (s : RState) (x L : Block) : Prop :=
  ∃ p, sget s x.qc.hash = some p ∧ sget s p.qc.hash = some L ∧ (c.rules = .chained → p.qc.hash ≠ "")

/-- what a positive answer `some b3` of the commit rule for `b` means -/
def CommitChain (c : RCfg) (s : RState) (b b3 : Block) : Prop :=
  match c.rules with
  | .chained => ∃ b1 b2, b.qc.hash ≠ "" ∧ sget s b.qc.hash = some b1 ∧ b1.qc.hash ≠ "" ∧ sget s b1.qc.hash = some b2 ∧
      b2.qc.hash ≠ "" ∧ sget s b2.qc.hash = some b3 ∧
      b1.parent = b2.hash ∧ b1.view = b2.view + 1 ∧ b2.parent = b3.hash ∧ b2.view = b3.view + 1
  | .simple => ∃ p gp, sget s b.qc.hash = some p ∧ sget s p.qc.hash = some gp ∧ sget s gp.qc.hash = some b3 ∧
      b3.view + 2 = p.view ∧ gp.view = b3.view + 1
  | .fast => ∃ p, b.qc.hash ≠ "" ∧ sget s b.qc.hash = some p ∧ p.qc.hash ≠ "" ∧ sget s p.qc.hash = some b3 ∧
      b.parent = p.hash ∧ b.view = p.view + 1 ∧ p.parent = b3.hash ∧ p.view = b3.view + 1

/-- how one `commitRule c b` moves the lock away from `L0` -/
def LockStep (c : RCfg) (b L0 : Block) (s : RState) : Prop :=
  s.lock = L0 ∨ (L0.view < s.lock.view ∧ Via c s b s.lock)

theorem lockStep_of_commitLock (c : RCfg) (b L0 : Block) (s : RState) (hl : s.lock = commitLock c b (sget s) L0) :
    LockStep c b L0 s := by
  unfold LockStep
  rcases commitLock_from c b L0 s with h | ⟨⟨p, hp, hh, hg⟩, hv⟩
  · exact Or.inl (hl.trans h)
  · rw [← hl] at hg hv; exact Or.inr ⟨hv, p, hp, hg, fun h => (hh h).2⟩

theorem commitChain_of_commitAns (c : RCfg) (b b3 : Block) (s : RState) (h : commitAns c b (sget s) = some b3) :
    CommitChain c s b b3 := by
  unfold commitAns at h
  unfold CommitChain
  cases hr : c.rules <;>
    simp only [hr, Option.bind_eq_some_iff, refIn_eq_some, Option.ite_none_right_eq_some, Option.some.injEq,
      Bool.and_eq_true, beq_iff_eq] at h ⊢
  · obtain ⟨b1, ⟨e1, l1⟩, b2, ⟨e2, l2⟩, b3', ⟨e3, l3⟩, hp, rfl⟩ := h
    exact ⟨b1, b2, e1, l1, e2, l2, e3, l3, hp.1.1.1, hp.1.1.2, hp.1.2, hp.2⟩
  · obtain ⟨p, l1, gp, l2, b3', l3, hp, rfl⟩ := h
    exact ⟨p, gp, l1, l2, l3, hp.1, hp.2⟩
  · obtain ⟨p, ⟨e1, l1⟩, b3', ⟨e2, l2⟩, hp, rfl⟩ := h
    exact ⟨p, e1, l1, e2, l2, hp.1.1.1, hp.1.1.2, hp.1.2, hp.2⟩

/-- chained and simplified HotStuff: the block to commit lies three certificate links below `b`, over consecutive views -/
theorem CommitChain.links {c : RCfg} {s : RState} {b t : Block} (hr : c.rules ≠ .fast) (h : CommitChain c s b t) :
    ∃ b1 b2, sget s b.qc.hash = some b1 ∧ sget s b1.qc.hash = some b2 ∧ sget s b2.qc.hash = some t ∧
      b2.view = t.view + 1 ∧ b1.view = t.view + 2 := by
  unfold CommitChain at h
  split at h
  · obtain ⟨b1, b2, _, l1, _, l2, _, l3, _, v1, _, v2⟩ := h
    exact ⟨b1, b2, l1, l2, l3, v2, by omega⟩
  · obtain ⟨p, gp, l1, l2, l3, v1, v2⟩ := h
    exact ⟨p, gp, l1, l2, l3, v2, v1.symm⟩
  · exact absurd ‹_› hr

theorem via_grows (c : RCfg) (s s' : RState) (x L : Block) (hg : Grows s.chain.blocks s')
    (h : Via c s x L) : Via c s' x L := by
  obtain ⟨p, h1, h2, h3⟩ := h
  exact ⟨p, hg _ _ h1, hg _ _ h2, h3⟩

theorem commitChain_grows (c : RCfg) (s s' : RState) (b b3 : Block) (hg : Grows s.chain.blocks s')
    (h : CommitChain c s b b3) : CommitChain c s' b b3 := by
  unfold CommitChain at *
  split
  · rename_i hr; simp only [hr] at h
    obtain ⟨b1, b2, h0, l1, h1, l2, h2, l3, hp⟩ := h
    exact ⟨b1, b2, h0, hg _ _ l1, h1, hg _ _ l2, h2, hg _ _ l3, hp⟩
  · rename_i hr; simp only [hr] at h
    obtain ⟨p, gp, l1, l2, l3, hp⟩ := h
    exact ⟨p, gp, hg _ _ l1, hg _ _ l2, hg _ _ l3, hp⟩
  · rename_i hr; simp only [hr] at h
    obtain ⟨p, h0, l1, h1, l2, hp⟩ := h
    exact ⟨p, h0, hg _ _ l1, h1, hg _ _ l2, hp⟩

theorem Upd.lock_eq {t : Tag} {s s' : RState} (h : Upd t s s') (hb : t ∉ [Tag.lock]) : s'.lock = s.lock := by
  cases h <;> first | rfl | exact absurd (by decide) hb

theorem Upd.committed_eq {t : Tag} {s s' : RState} (h : Upd t s s') (hb : t ∉ [Tag.committed]) :
    s'.committed = s.committed := by
  cases h <;> first | rfl | exact absurd (by decide) hb

def Out.commitOf : Out → Option Block
  | .commit b => some b
  | _ => none

def Ev.commitOf : Ev → Option Block
  | .commit b => some b
  | _ => none

def commitsOf (outs : List Out) : List Block := outs.filterMap Out.commitOf
def evCommits (es : List Ev) : List Block := es.filterMap Ev.commitOf

def outCommits (s : RState) : List Block := commitsOf s.out
def queuedCommits (s : RState) : List Block := evCommits s.queue
def waitCommits (s : RState) : List Block := evCommits (s.waitingVC ++ s.waitingProp)

example (s : RState) : outCommits s = s.out.filterMap (fun o => match o with | .commit b => some b | _ => none) := by
  unfold outCommits commitsOf
  congr 1

example (s : RState) : queuedCommits s = s.queue.filterMap (fun e => match e with | .commit b => some b | _ => none) := by
  unfold queuedCommits evCommits
  congr 1

@[simp] theorem commitsOf_nil : commitsOf [] = [] := rfl
@[simp] theorem commitsOf_append (a b : List Out) : commitsOf (a ++ b) = commitsOf a ++ commitsOf b := by
  simp [commitsOf, List.filterMap_append]
@[simp] theorem evCommits_nil : evCommits [] = [] := rfl
@[simp] theorem evCommits_append (a b : List Ev) : evCommits (a ++ b) = evCommits a ++ evCommits b := by
  simp [evCommits, List.filterMap_append]
@[simp] theorem commitsOf_cons (o : Out) (l : List Out) :
    commitsOf (o :: l) = (match o.commitOf with | some b => [b] | none => []) ++ commitsOf l := by
  simp only [commitsOf, List.filterMap_cons]; cases o.commitOf <;> rfl
@[simp] theorem evCommits_cons (e : Ev) (l : List Ev) :
    evCommits (e :: l) = (match e.commitOf with | some b => [b] | none => []) ++ evCommits l := by
  simp only [evCommits, List.filterMap_cons]; cases e.commitOf <;> rfl

/-- the blocks of the commit events of a state, by where they are: handed out, queued, deferred -/
@[reducible] def PD (s : RState) : List Block × List Block × List Block := (outCommits s, queuedCommits s, waitCommits s)

/-- only the committer (which queues commit events) and `tick` (which pops, re-queues and emits them) touch `PD` -/
theorem Upd.pd_eq {t : Tag} {s s' : RState} (h : Upd t s s')
    (hb : t ∉ [Tag.outEvent, .enqCommit, .pop, .requeueProp, .requeueVC]) : PD s' = PD s := by
  cases h with
  | out s o => cases o <;> simp [Out.tag] at hb <;> simp [PD, outCommits, queuedCommits, waitCommits, Out.commitOf]
  | enq s e => cases e <;> simp [Ev.tag] at hb <;> simp [PD, outCommits, queuedCommits, waitCommits, Ev.commitOf]
  | deferProp | deferVC => simp [PD, outCommits, queuedCommits, waitCommits, Ev.commitOf]
  | _ => first | rfl | exact absurd (by decide) hb

theorem commitInner_zero_run (b : Block) (s : RState) : (commitInner 0 b).run s = (false, s) := rfl

theorem commitInner_succ_run (n : Nat) (b : Block) (s : RState) : (commitInner (n + 1) b).run s =
    if s.committed.view ≥ b.view then (true, s) else
      match ((getBlock b.parent).run s).1 with
      | none => (false, ((getBlock b.parent).run s).2)
      | some p =>
        if ((commitInner n p).run ((getBlock b.parent).run s).2).1 then
          (true, { ((commitInner n p).run ((getBlock b.parent).run s).2).2 with
            queue := (((commitInner n p).run ((getBlock b.parent).run s).2).2.queue ++ [.commit b]) ++ [.exec b], committed := b })
        else (false, ((commitInner n p).run ((getBlock b.parent).run s).2).2) := by
  simp only [commitInner, addEvent, run_bind', run_get']
  by_cases h : s.committed.view ≥ b.view
  · simp only [h, ↓reduceIte]; rfl
  · simp only [h, ↓reduceIte, run_bind']
    generalize StateT.run (getBlock b.parent) s = r
    obtain ⟨o, s1⟩ := r
    cases o with
    | none => rfl
    | some p =>
      simp only [run_bind']
      generalize StateT.run (commitInner n p) s1 = r2
      obtain ⟨r, s2⟩ := r2
      cases r <;> rfl

/-- `Path s a seg t`: going up from `a` along STORED parent links through the blocks `seg` ends at `t`
(`t` is the last block of `seg`, or `a` itself when `seg` is empty) -/
inductive Path (s : RState) (a : Block) : List Block → Block → Prop
  | nil : Path s a [] a
  | snoc (seg : List Block) (p b : Block) : Path s a seg p → sget s b.parent = some p → Path s a (seg ++ [b]) b

theorem Path.grows {s s' : RState} {a t : Block} {seg : List Block} (hg : Grows s.chain.blocks s')
    (h : Path s a seg t) : Path s' a seg t := by
  induction h with
  | nil => exact .nil
  | snoc seg p b _ hl ih => exact .snoc seg p b ih (hg _ _ hl)

theorem Path.top_mem {s : RState} {a t : Block} {seg : List Block} (h : Path s a seg t) (hne : seg ≠ []) : t ∈ seg := by
  cases h with
  | nil => exact absurd rfl hne
  | snoc seg p b _ _ => simp

/-- one commit segment from `s0` to `s`: the commit queue has gained `seg`, a stored parent path (in `s`) up to `t` from an
anchor `a` that is not above the block committed in `s0`, through blocks that are above it -/
structure Seg (s0 s : RState) (a : Block) (seg : List Block) (t : Block) : Prop where
  path : Path s a seg t
  base : a.view ≤ s0.committed.view
  above : ∀ x ∈ seg, s0.committed.view < x.view
  queued : queuedCommits s = queuedCommits s0 ++ seg

/-- what `commitInner _ b` has done when it answers `r` in `s`, started in `s0`: only lookups; on `false` nothing; on `true`
it has queued ONE stored parent path `seg` up to `b`, above the old committed block, and `b` is committed (unless `seg = []`) -/
structure CI (s0 : RState) (b : Block) (r : Bool) (s : RState) : Prop where
  after : After s0.chain s.chain
  out : outCommits s = outCommits s0
  wait : waitCommits s = waitCommits s0
  no : r = false → queuedCommits s = queuedCommits s0 ∧ s.committed = s0.committed
  yes : r = true → ∃ a seg, Seg s0 s a seg b ∧ (seg = [] → s.committed = s0.committed) ∧ (seg ≠ [] → s.committed = b)

theorem commitInner_ci : ∀ (fuel : Nat) (b : Block) (s : RState),
    CI s b ((commitInner fuel b).run s).1 ((commitInner fuel b).run s).2 := by
  intro fuel
  induction fuel with
  | zero =>
    intro b s
    rw [commitInner_zero_run]
    exact ⟨.refl _, rfl, rfl, fun _ => ⟨rfl, rfl⟩, fun h => by cases h⟩
  | succ n ih =>
    intro b s
    rw [commitInner_succ_run]
    split
    · rename_i hv
      exact ⟨.refl _, rfl, rfl, (fun h => by cases h),
        fun _ => ⟨b, [], ⟨.nil, hv, (fun x hx => by cases hx), by simp⟩, fun _ => rfl, fun h => absurd rfl h⟩⟩
    · rename_i hv
      have hgg : After s.chain ((getBlock b.parent).run s).2.chain := after_get _ _
      have hgp : PD ((getBlock b.parent).run s).2 = PD s := (getBlock_steps b.parent s).proj Upd.pd_eq
      simp only [PD, Prod.mk.injEq] at hgp
      have hgc := (getBlock_steps b.parent s).proj Upd.committed_eq
      have hgs : ∀ p, ((getBlock b.parent).run s).1 = some p → sget ((getBlock b.parent).run s).2 b.parent = some p :=
        get_snd_some s.chain b.parent
      generalize (getBlock b.parent).run s = g at hgg hgp hgc hgs
      obtain ⟨o, s1⟩ := g
      cases o with
      | none => exact ⟨hgg, hgp.1, hgp.2.2, fun _ => ⟨hgp.2.1, hgc⟩, fun h => by cases h⟩
      | some p =>
        simp only at hgg hgp hgc hgs ⊢
        have hp := hgs p rfl
        have I := ih p s1
        generalize (commitInner n p).run s1 = r2 at I
        obtain ⟨r, s2⟩ := r2
        cases r with
        | false =>
          simp only [Bool.false_eq_true, ↓reduceIte]
          obtain ⟨h1, h2⟩ := I.no rfl
          exact ⟨hgg.trans I.after, I.out.trans hgp.1, I.wait.trans hgp.2.2,
            fun _ => ⟨h1.trans hgp.2.1, h2.trans hgc⟩, fun h => by cases h⟩
        | true =>
          simp only [↓reduceIte]
          obtain ⟨a, seg, g, _, _⟩ := I.yes rfl
          refine ⟨hgg.trans I.after, I.out.trans hgp.1, I.wait.trans hgp.2.2, (fun h => by cases h), fun _ => ?_⟩
          refine ⟨a, seg ++ [b], ⟨?_, by rw [← hgc]; exact g.base, ?_, ?_⟩, by simp, fun _ => rfl⟩
          · exact .snoc seg p b (Path.grows (s := s2) (grows_of_blocks_eq _ _ rfl) g.path) (I.after.grows _ _ hp)
          · intro x hx
            rcases List.mem_append.mp hx with hx | hx
            · rw [← hgc]; exact g.above x hx
            · simp only [List.mem_singleton] at hx; subst hx; omega
          · show evCommits (s2.queue ++ [Ev.commit b] ++ [Ev.exec b]) = _
            have hq' : evCommits s2.queue = queuedCommits s ++ seg := by
              have : evCommits s2.queue = queuedCommits s1 ++ seg := g.queued
              rw [this, hgp.2.1]
            simp [hq', Ev.commitOf]

/-- **`tryCommit c b` as a relation between the states before and after.**  The lock is what the commit rule makes
of the old lock in the FINAL store; the commit log is untouched, or extended by one
segment that ends at the new committed block, which the commit rule returned for `b`. -/
structure Commit (c : RCfg) (b : Block) (s s' : RState) : Prop where
  steps : Steps tryCommitT s s'
  lock : s'.lock = commitLock c b (sget s') s.lock
  out : outCommits s' = outCommits s
  wait : waitCommits s' = waitCommits s
  seg : (queuedCommits s' = queuedCommits s ∧ s'.committed = s.committed) ∨
        ∃ a seg, seg ≠ [] ∧ Seg s s' a seg s'.committed ∧ CommitChain c s' b s'.committed

/-- the last part of `tryCommit` (pruning, abort events) changes nothing the relation reads -/
theorem Commit.congr {c : RCfg} {b : Block} {s s1 s' : RState} (h : Commit c b s s1) (hs : Steps tryCommitT s s')
    (hb : s'.chain.blocks = s1.chain.blocks) (hl : s'.lock = s1.lock) (hc : s'.committed = s1.committed)
    (ho : s'.out = s1.out) (hq : queuedCommits s' = queuedCommits s1) (hw : waitCommits s' = waitCommits s1) :
    Commit c b s s' := by
  have hg : Grows s1.chain.blocks s' := grows_of_blocks_eq s1 s' hb
  have hsg : sget s' = sget s1 := funext fun k => by unfold sget; rw [hb]
  refine ⟨hs, by rw [hl, hsg]; exact h.lock,
    by unfold outCommits at *; rw [ho]; exact h.out, hw.trans h.wait, ?_⟩
  rw [hq, hc]
  exact h.seg.imp id fun ⟨a, seg, hne, g, hcc⟩ =>
    ⟨a, seg, hne, ⟨g.path.grows hg, g.base, g.above, hq.trans g.queued⟩, commitChain_grows c s1 s' b _ hg hcc⟩

theorem tryCommit_commit (c : RCfg) (b : Block) (s : RState) : Commit c b s ((tryCommit c b).run s).2 := by
  have hsteps := tryCommit_steps c b s
  rw [tryCommit_run_eq] at hsteps ⊢
  have hset := commitRule_settles c b { s with chain := s.chain.store b }
  have hS1 := commitRule_steps c b { s with chain := s.chain.store b }
  generalize (commitRule c b).run { s with chain := s.chain.store b } = r1 at hsteps hset hS1 ⊢
  obtain ⟨o, s1⟩ := r1
  have hpd : PD s1 = PD s := hS1.proj Upd.pd_eq
  have hcm : s1.committed = s.committed := hS1.proj Upd.committed_eq
  replace hS1 : Steps tryCommitT s s1 :=
    (Steps.step (.refl s) (.chain _ _ (chainGrows_store _ _ b (.refl _)))).trans (hS1.weaken (by decide))
  simp only [PD, Prod.mk.injEq] at hpd
  cases o with
  | none => exact ⟨hS1, (hset.2 s1 rfl (.refl _)).2, hpd.1, hpd.2.2, Or.inl ⟨hpd.2.1, hcm⟩⟩
  | some t =>
    simp only at hsteps ⊢
    have I := commitInner_ci (s1.chain.fuel + 1) t s1
    have hS2 := commitInner_steps (s1.chain.fuel + 1) t s1
    generalize (commitInner (s1.chain.fuel + 1) t).run s1 = r2 at hsteps I hS2 ⊢
    obtain ⟨r, s2⟩ := r2
    obtain ⟨ha, hl⟩ := hset.2 s2 (hS2.proj Upd.lock_eq) I.after
    have hmid : Commit c b s s2 := by
      refine ⟨hS1.trans (hS2.weaken (by decide)), hl,
        I.out.trans hpd.1, I.wait.trans hpd.2.2, ?_⟩
      cases r with
      | false => exact Or.inl ⟨(I.no rfl).1.trans hpd.2.1, (I.no rfl).2.trans hcm⟩
      | true =>
        obtain ⟨a, seg, g, he, hne⟩ := I.yes rfl
        by_cases hs : seg = []
        · subst hs
          exact Or.inl ⟨by rw [← hpd.2.1]; simpa using g.queued, (he rfl).trans hcm⟩
        · refine Or.inr ⟨a, seg, hs,
            ⟨(hne hs) ▸ g.path, hcm ▸ g.base, fun x hx => hcm ▸ g.above x hx, hpd.2.1 ▸ g.queued⟩, ?_⟩
          rw [hne hs]; exact commitChain_of_commitAns c b t s2 ha.symm
    cases r with
    | false => exact hmid
    | true =>
      exact hmid.congr hsteps (pruneToHeight_blocks _ _ _) rfl rfl rfl
        (by simp [queuedCommits, evCommits, Ev.commitOf]) rfl

end HsVerif.Model
