import HsVerif.Proofs.ReplicaCommit
/-!
The COMMIT LOG of one replica (C01, ledger layer), replica level — no system facts.

`pending s = outCommits s ++ queuedCommits s` is what the replica has decided to output and not yet handed to the
caller of `step`; `tick` moves the queue head to `out` (FIFO), which keeps `pending`.  `waitCommits s = []` is a
hypothesis because `tick` re-queues the deferred lists; the handlers only put `.propose` / `.vote` events there.
The one-step invariant `LR` is relative to the state `s0` the step started in: the ghost history is `s0.ghost ++ new` and
`pending s = pending s0 ++ l`, `l` a concatenation of segments chained in time (`Segs`), each ending in a block the
commit rule returned for a block voted for in `new`.
-/
open Std.Do
namespace HsVerif.Model

def pending (s : RState) : List Block := outCommits s ++ queuedCommits s

example (s : RState) : pending s = outCommits s ++ queuedCommits s := rfl

theorem commitChain_congr (c : RCfg) (s s' : RState) (b t : Block) (hb : s'.chain.blocks = s.chain.blocks)
    (h : CommitChain c s b t) : CommitChain c s' b t :=
  commitChain_grows c s s' b t (grows_of_blocks_eq s s' hb) h

/-- `Segs c s vs c0 l t`: starting with committed block `c0`, successive commits appended the blocks `l`
— a concatenation of SEGMENTS — and ended with committed block `t`.  Each segment `seg` is non-empty, a
stored parent path (in `s`) up from an anchor `a` whose view is at most that of the block `c1` committed
before the segment, all its blocks have views above `c1`'s, and its last block — the new committed
block — was returned by the commit rule for a block voted for among `vs`. -/
inductive Segs (c : RCfg) (s : RState) (vs : List GRec) (c0 : Block) : List Block → Block → Prop
  | nil : Segs c s vs c0 [] c0
  | snoc (l : List Block) (c1 a : Block) (seg : List Block) (t : Block) :
      Segs c s vs c0 l c1 → seg ≠ [] → Path s a seg t → a.view ≤ c1.view → (∀ x ∈ seg, c1.view < x.view) →
      (∃ x id, GRec.vote x id ∈ vs ∧ CommitChain c s x t) → Segs c s vs c0 (l ++ seg) t

theorem Segs.grows {c : RCfg} {s s' : RState} {vs : List GRec} {c0 t : Block} {l : List Block}
    (hg : Grows s.chain.blocks s') (h : Segs c s vs c0 l t) : Segs c s' vs c0 l t := by
  induction h with
  | nil => exact .nil
  | snoc l c1 a seg t _ h1 h2 h3 h4 h5 ih =>
    obtain ⟨x, id, hm, hcc⟩ := h5
    exact .snoc l c1 a seg t ih h1 (h2.grows hg) h3 h4 ⟨x, id, hm, commitChain_grows c s s' x t hg hcc⟩

theorem Segs.mono {c : RCfg} {s : RState} {vs vs' : List GRec} {c0 t : Block} {l : List Block}
    (hs : ∀ r, r ∈ vs → r ∈ vs') (h : Segs c s vs c0 l t) : Segs c s vs' c0 l t := by
  induction h with
  | nil => exact .nil
  | snoc l c1 a seg t _ h1 h2 h3 h4 h5 ih =>
    obtain ⟨x, id, hm, hcc⟩ := h5
    exact .snoc l c1 a seg t ih h1 h2 h3 h4 ⟨x, id, hs _ hm, hcc⟩

theorem Segs.congr {c : RCfg} {s s' : RState} {vs : List GRec} {c0 t : Block} {l : List Block}
    (h : Segs c s vs c0 l t) (hb : s'.chain.blocks = s.chain.blocks) : Segs c s' vs c0 l t :=
  h.grows (grows_of_blocks_eq s s' hb)

theorem Segs.view_le {c : RCfg} {s : RState} {vs : List GRec} {c0 t : Block} {l : List Block}
    (h : Segs c s vs c0 l t) : c0.view ≤ t.view := by
  induction h with
  | nil => exact Nat.le_refl _
  | snoc l c1 a seg t _ h1 h2 h3 h4 h5 ih =>
    have := h4 t (h2.top_mem h1)
    omega

/-- the facts carried through a step that started in `s0`, about the votes `vs` cast since: no commit
event waits in the deferred lists, and the pending log (`pending`) has grown by segments -/
structure LCore (c : RCfg) (s0 : RState) (vs : List GRec) (s : RState) : Prop where
  wait : waitCommits s = []
  segs : ∃ l, pending s = pending s0 ++ l ∧ Segs c s vs s0.committed l s.committed

theorem LCore.refl (c : RCfg) (s : RState) (hw : waitCommits s = []) : LCore c s [] s :=
  ⟨hw, [], by simp, .nil⟩

theorem LCore.keep {c : RCfg} {s0 : RState} {vs : List GRec} {s s' : RState} (h : LCore c s0 vs s)
    (hg : Grows s.chain.blocks s') (hp : pending s' = pending s) (hw : waitCommits s' = [])
    (hc : s'.committed = s.committed) : LCore c s0 vs s' := by
  obtain ⟨l, h1, h2⟩ := h.segs
  exact ⟨hw, l, by rw [hp, h1], by rw [hc]; exact h2.grows hg⟩

theorem LCore.mono {c : RCfg} {s0 : RState} {vs vs' : List GRec} {s : RState} (h : LCore c s0 vs s)
    (hs : ∀ r, r ∈ vs → r ∈ vs') : LCore c s0 vs' s := by
  obtain ⟨l, h1, h2⟩ := h.segs
  exact ⟨h.wait, l, h1, h2.mono hs⟩

theorem LCore.tc {c : RCfg} {s0 : RState} {vs : List GRec} {s s' : RState} {b : Block} {id : Nat}
    (h : LCore c s0 vs s) (hm : GRec.vote b id ∈ vs) (ht : Commit c b s s') : LCore c s0 vs s' := by
  obtain ⟨l, h1, h2⟩ := h.segs
  refine ⟨by rw [ht.wait]; exact h.wait, ?_⟩
  rcases ht.seg with ⟨hq, hc⟩ | ⟨a, seg, hne, g, hcc⟩
  · exact ⟨l, by simp only [pending, ht.out, hq]; exact h1, by rw [hc]; exact h2.grows ht.steps.chainGrows⟩
  · refine ⟨l ++ seg, ?_, .snoc l s.committed a seg _ (h2.grows ht.steps.chainGrows) hne g.path g.base g.above ⟨b, id, hm, hcc⟩⟩
    simp only [pending, ht.out, g.queued]
    rw [← List.append_assoc, ← List.append_assoc]
    congr 1

def LR (c : RCfg) (s0 s : RState) : Prop := ∃ new, s.ghost = s0.ghost ++ new ∧ LCore c s0 new s

/-- ... with a block `b` that is about to be voted for (`onValidPropose` runs `tryCommit` first) -/
def LRP (c : RCfg) (s0 : RState) (b : Block) (id : Nat) (s : RState) : Prop :=
  ∃ new, s.ghost = s0.ghost ++ new ∧ LCore c s0 (new ++ [.vote b id]) s

/-- ... with a block `b` known to be among the new votes (`createAndPropose` runs `tryCommit` after the vote) -/
def LRW (c : RCfg) (s0 : RState) (b : Block) (id : Nat) (s : RState) : Prop :=
  ∃ new, s.ghost = s0.ghost ++ new ∧ LCore c s0 new s ∧ GRec.vote b id ∈ new

theorem LR.refl (c : RCfg) (s : RState) (hw : waitCommits s = []) : LR c s s := ⟨[], by simp, LCore.refl c s hw⟩

theorem lrp_of_lr (c : RCfg) (s0 : RState) (b : Block) (id : Nat) (s : RState) (h : LR c s0 s) : LRP c s0 b id s := by
  obtain ⟨new, hg, hc⟩ := h
  exact ⟨new, hg, hc.mono (fun r hr => List.mem_append_left _ hr)⟩

theorem lr_of_lrw (c : RCfg) (s0 : RState) (b : Block) (id : Nat) (s : RState) (h : LRW c s0 b id s) : LR c s0 s := by
  obtain ⟨new, hg, hc, _⟩ := h
  exact ⟨new, hg, hc⟩

theorem LCore.voteFor {c : RCfg} {s0 : RState} {vs : List GRec} {s : RState} (h : LCore c s0 vs s) (b : Block) (id : Nat) :
    LCore c s0 vs ((voteFor c b id).run s).2 := by
  have hs := voteFor_steps c b id s
  have hp : PD _ = PD s := hs.proj Upd.pd_eq
  simp only [PD, Prod.mk.injEq] at hp
  exact h.keep hs.chainGrows (by simp only [pending, hp.1, hp.2.1]) (by rw [hp.2.2]; exact h.wait)
    (hs.proj Upd.committed_eq)

/-- with no commit event deferred, re-queueing the deferred lists moves none: only the committer and the two halves
of `tick`'s hand-over (pop, emit) change the pending commits -/
theorem Upd.pending_eq {t : Tag} {s s' : RState} (h : Upd t s s') (hb : t ∉ [Tag.outEvent, .enqCommit, .pop])
    (hw : waitCommits s = []) : pending s' = pending s ∧ waitCommits s' = [] := by
  by_cases hq : t ∈ [Tag.requeueProp, .requeueVC]
  · have hw' : evCommits s.waitingVC = [] ∧ evCommits s.waitingProp = [] := by simpa [waitCommits] using hw
    cases h with
    | requeueProp | requeueVC => simp [pending, outCommits, queuedCommits, waitCommits, hw'.1, hw'.2]
    | out s o => cases o <;> simp [Out.tag] at hq
    | enq s e => cases e <;> simp [Ev.tag] at hq
    | _ => simp at hq
  · have hpd := h.pd_eq (by simp_all)
    simp only [PD, Prod.mk.injEq] at hpd
    exact ⟨by simp only [pending, hpd.1, hpd.2.1], hpd.2.2 ▸ hw⟩

section LRChain
variable (k : Keys) (c : RCfg) (s0 : RState)

theorem Upd.lr {t : Tag} {s s' : RState} (h : Upd t s s') (ht : t ∉ [Tag.outEvent, .enqCommit, .pop, .committed])
    (hi : LR c s0 s) : LR c s0 s' := by
  obtain ⟨new, hg, hcore⟩ := hi
  obtain ⟨r, hr⟩ := h.ghost_append
  obtain ⟨hp, hw⟩ := h.pending_eq (by simp_all) hcore.wait
  exact ⟨new ++ r, by rw [hr, hg, List.append_assoc],
    (hcore.keep h.chainGrows hp hw (h.committed_eq (by simp_all))).mono fun _ => List.mem_append_left _⟩

theorem StepsOf.lr {α} {L : List Tag} {f : M α} (h : StepsOf L f)
    (hL : ∀ t ∈ L, t ∉ [Tag.outEvent, .enqCommit, .pop, .committed] := by decide) :
    ⦃fun s => ⌜LR c s0 s⌝⦄ f ⦃⇓ _ s => ⌜LR c s0 s⌝⦄ :=
  h.preserves (upd_of_notin (Upd.lr c s0) L hL)

theorem tryCommit_lrp (b : Block) (id : Nat) (s : RState) (h : LRP c s0 b id s) :
    LRP c s0 b id ((tryCommit c b).run s).2 := by
  obtain ⟨new, hg, hc⟩ := h
  exact ⟨new, by rw [tryCommit_ghost c b s, hg],
    hc.tc (List.mem_append_right _ (List.mem_singleton.mpr rfl)) (tryCommit_commit c b s)⟩

theorem tryCommit_lrw (b : Block) (id : Nat) (s : RState) (h : LRW c s0 b id s) : LR c s0 ((tryCommit c b).run s).2 := by
  obtain ⟨new, hg, hc, hm⟩ := h
  exact ⟨new, by rw [tryCommit_ghost c b s, hg], hc.tc hm (tryCommit_commit c b s)⟩

theorem voteFor_lrp (b : Block) (id : Nat) (s : RState) (h : LRP c s0 b id s) : LR c s0 ((voteFor c b id).run s).2 := by
  obtain ⟨new, hg, hc⟩ := h
  exact ⟨new ++ [.vote b id], by rw [voteFor_ghost, hg, List.append_assoc], hc.voteFor b id⟩

theorem voteFor_lrw (b : Block) (id : Nat) (s : RState) (h : LR c s0 s) : LRW c s0 b id ((voteFor c b id).run s).2 := by
  obtain ⟨new, hg, hc⟩ := h
  exact ⟨new ++ [.vote b id], by rw [voteFor_ghost, hg, List.append_assoc],
    (hc.voteFor b id).mono (fun r hr => List.mem_append_left _ hr), List.mem_append_right _ (List.mem_singleton.mpr rfl)⟩

end LRChain

section LRHandlers
variable (k : Keys) (c : RCfg) (s0 : RState)

/-- `tick` takes the head `e` off the queue and hands out its echo, if it has one: a commit event moves from the queue
to the effects, which keeps `pending`, and nothing else that is popped or handed out is a commit -/
theorem lr_pop (s : RState) (e : Ev) (rest : List Ev) (o : Option Out) (hq : s.queue = e :: rest) (he : e.echo = o)
    (h : LR c s0 s) : LR c s0 { s with queue := rest, out := s.out ++ o.toList } := by
  obtain ⟨new, hg, hcore⟩ := h
  refine ⟨new, hg, hcore.keep (grows_refl s) ?_ hcore.wait rfl⟩
  subst he
  cases e <;> simp [pending, outCommits, queuedCommits, hq, Ev.echo, Ev.commitOf, Out.commitOf]

/-- the commit, then the vote (`b` is about to be voted for: `LRP`); `createAndPropose` has them the other way round
(`b` is among the new votes: `LRW`) -/
theorem onValidPropose_lr (id : Nat) (b : Block) :
    ⦃fun s => ⌜LR c s0 s⌝⦄ onValidPropose k c id b ⦃⇓ _ s => ⌜LR c s0 s⌝⦄ :=
  triple_conseq (onValidPropose_accept k c id b (W := fun _ => True)
    (fun s h _ => voteFor_lrp c s0 b id _ (tryCommit_lrp c s0 b id s (lrp_of_lr c s0 b id s h)))
    (upd_of_notin (Upd.lr c s0) _)) (fun _ h => ⟨h, trivial⟩) fun _ _ h => h

theorem createAndPropose_lr (si : SyncInfo) :
    ⦃fun s => ⌜LR c s0 s⌝⦄ createAndPropose k c si ⦃⇓ _ s => ⌜LR c s0 s⌝⦄ :=
  createAndPropose_accept k c si (W := fun _ _ => True)
    (fun b agg => triple_resTrue ((voterVerify_steps k c c.id b agg).lr c s0))
    (fun b s h _ => tryCommit_lrw c s0 b c.id _ (voteFor_lrw c s0 b c.id s h)) (upd_of_notin (Upd.lr c s0) _)

theorem advanceView_lr (si : SyncInfo) :
    ⦃fun s => ⌜LR c s0 s⌝⦄ advanceView k c si ⦃⇓ _ s => ⌜LR c s0 s⌝⦄ :=
  advanceView_rule k c si (createAndPropose_lr k c s0) (upd_of_notin (Upd.lr c s0) _)

theorem runLoop_lr (fuel : Nat) :
    ⦃fun s => ⌜LR c s0 s⌝⦄ runLoop k c fuel ⦃⇓ _ s => ⌜LR c s0 s⌝⦄ :=
  runLoop_of_fifo k c (W := fun _ _ _ => True) (advanceView_lr k c s0)
    (fun id b agg => triple_resTrue ((voterVerify_steps k c id b agg).lr c s0))
    (fun id b => triple_of_left (onValidPropose_lr k c s0 id b)) (lr_pop c s0) (Upd.lr c s0) fuel

end LRHandlers

def LogStep (c : RCfg) (s0 : RState) (p0 : List Block) (s : RState) (outs : List Out) : Prop :=
  ∃ new l, s.ghost = s0.ghost ++ new ∧ waitCommits s = [] ∧
    commitsOf outs ++ queuedCommits s = p0 ++ l ∧ Segs c s new s0.committed l s.committed

theorem step_log (k : Keys) (c : RCfg) (s : RState) (e : Ev) (hw : waitCommits s = []) :
    LogStep c s (queuedCommits s ++ evCommits [e]) (step k c s e).1 (step k c s e).2 := by
  obtain ⟨s1, ⟨new, hg, hcore⟩, he⟩ := step_rule k c (runLoop_lr k c _ 100000) s e (LR.refl c _ hw)
  obtain ⟨l, h1, h2⟩ := hcore.segs
  rw [he]
  refine ⟨new, l, hg, hcore.wait, ?_, h2.congr rfl⟩
  have : pending ({ s with out := [], queue := s.queue ++ [e] } : RState) = queuedCommits s ++ evCommits [e] := by
    simp [pending, outCommits, queuedCommits]
  rw [← this, ← h1]; rfl

theorem start_log (k : Keys) (c : RCfg) (s : RState) (hw : waitCommits s = []) :
    LogStep c s (queuedCommits s) (start k c s).1 (start k c s).2 := by
  obtain ⟨s1, ⟨new, hg, hcore⟩, he⟩ :=
    start_rule k c (createAndPropose_lr k c _) (runLoop_lr k c _ 100000) s (LR.refl c _ hw)
  obtain ⟨l, h1, h2⟩ := hcore.segs
  rw [he]
  refine ⟨new, l, hg, hcore.wait, ?_, h2.congr rfl⟩
  have : pending ({ s with out := [] } : RState) = queuedCommits s := by
    simp [pending, outCommits, queuedCommits]
  rw [← this, ← h1]; rfl

theorem LogStep.wait {c : RCfg} {s0 s : RState} {p0 : List Block} {outs : List Out}
    (h : LogStep c s0 p0 s outs) : waitCommits s = [] := by
  obtain ⟨new, l, _, hw, _, _⟩ := h
  exact hw

theorem LogStep.view_le {c : RCfg} {s0 s : RState} {p0 : List Block} {outs : List Out}
    (h : LogStep c s0 p0 s outs) : s0.committed.view ≤ s.committed.view := by
  obtain ⟨new, l, _, _, _, hs⟩ := h
  exact hs.view_le

end HsVerif.Model
