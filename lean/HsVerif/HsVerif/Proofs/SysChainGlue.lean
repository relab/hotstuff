import HsVerif.Proofs.SysChain
import HsVerif.Proofs.SysCover
/-!
The link between the recovery round (`recovery_round_live`, Proofs/SysRecovery.lean) and phase A
of the chain (Proofs/SysChain.lean), for any leader schedule.

The leader `L` of view `v + 1` proposes `b'` on the timeout message that completes its quorum and keeps its own vote or sends it to
the leader `c2` of view `v + 2`.  `SyncPre` is what is assumed of the start state beyond `RecPreLive` (its docstring says which
clauses are synchrony facts); `SyncPreRot` adds the `markWalk` bookkeeping at every participant.  `RecExact` sharpens `RecInv` to the
leader's exact state and the exact messages in flight; the proposal round that follows ends in phase A (`PhaseAColl M`; `M`: the
participants known to be able to propose later).  Fixed leader: `c2 = L`, `M = (· = L)`; rotating leaders: any `c2`, everybody in `M`.
-/
namespace HsVerif.Model
open HsVerif.Props.C01Sys HsVerif.Props.C01SysWF


theorem syncR_absorb {w N : Nat} {B P : Block} {s : RState} (hc : SyncR w N B P s) (hqge : P.view ≤ s.highQC.view)
    (q : QC) (nb : Block) (tc0 : TC) (hqv : q.view < w) (hqn : q.view = nb.view) :
    SyncR w N B P { absorbS s q nb tc0 with out := [] } ∧ P.view ≤ (absorbS s q nb tc0).highQC.view := by
  have hhq : (absorbS s q nb tc0).highQC.view < w ∧ P.view ≤ (absorbS s q nb tc0).highQC.view := by
    show (if nb.view ≤ s.highQC.view then s.highQC else q).view < w ∧ P.view ≤ (if nb.view ≤ s.highQC.view then s.highQC else q).view
    have := hc.hq
    split <;> constructor <;> omega
  exact ⟨⟨hc.view, hc.lastVoted, hc.queue, hc.wvc, hc.wprop, hc.fetch, hc.bhash, hc.bview, hc.hasB, hc.hasP, hc.pview,
    hhq.1, hc.lock, hc.names, hc.small⟩, hhq.2⟩

/-- the leader `c.id` of view `w + 1` after its proposal `b'` on the certificate of `hb`: `b'` is the proposal `P<w+1>` of that view, the
leader is synchronised at `(w + 1, b')` and can propose again (`SyncM`), its committer can walk from `b'`, its collector is empty, and
its vote for `b'` (signature bytes `bytes'`) is in its own voting machine when it also leads view `w + 2` (`L2`) -/
structure LeaderProposed (c : RCfg) (L2 w N : Nat) (hb b' : Block) (bytes' : Nat) (s : RState) : Prop where
  bhash : b'.hash = pname (w + 1)
  parent : b'.parent = b'.qc.hash
  bview : b'.view = w + 1
  proposer : b'.proposer = c.id
  sync : SyncM (w + 1) (N + 2) b' hb s
  lastProposed : s.lastProposed = w + 1
  walk : WalkZ b' s
  timeouts : s.timeouts = []
  own : c.id = L2 → s.votes.lookup b'.hash = some [(c.id, .multi c.scheme [⟨c.id, bytes'⟩])]

/-- the EXACT step of the leader of view `w + 1` on the timeout message that completes its quorum; its vote for its proposal `b'` goes
to `L2`, the leader of the view after: into its own voting machine, or as a message after the proposals -/
theorem ld_timeout_quorum_next (k : Keys) (c : RCfg) (L2 w N : Nat) (s : RState) (t : TimeoutMsg) (q : QC) (nb hb P : Block) (tc0 : TC)
    (h : TmoQuorumPre k c s t q nb hb tc0) (hall : ∀ x ∈ s.timeouts, x.view = t.view)
    (hr : c.rules = .chained ∨ c.rules = .simple)
    (hid : c.cfg.has c.id = true) (hld1 : c.leader (s.view + 1) = c.id) (hld2 : c.leader (s.view + 1 + 1) = L2) (hq2 : 2 ≤ c.cfg.quorum)
    (hwvc : s.waitingVC = []) (hwprop : s.waitingProp = []) (hfe : s.chain.fetchable = []) (hview : s.view = w)
    (hhbv : hb.view ≤ (absorbS s q nb tc0).highQC.view)
    (hlv : s.lastVoted ≤ w) (hready : RuleReady c s (w + 1) hb)
    (hmark : markWalk (s.chain.fuel + 1) s.chain.blocks s.lastProposed hb = true)
    (hP : s.chain.blocks.lookup hb.qc.hash = some P) (hPv : P.view ≤ w) (hlock : s.lock.view ≤ w)
    (hcm : s.committed.view ≤ w)
    (hnames : ∀ u, w < u → s.chain.blocks.lookup (pname u) = none ∧ s.votes.lookup (pname u) = none)
    (hsmall : 2 * s.chain.blocks.length + (w + 1) ≤ N) (hN : N + 12 ≤ 99999)
    (hwalk : cmWalk (s.chain.blocks.length + 2) s.chain.blocks s.committed.view hb = true) :
    let r := step k c s (.timeout t)
    ∃ (bytes' : Nat) (b' : Block),
      b'.qc = (absorbS s q nb tc0).highQC ∧ LeaderProposed c L2 w N hb b' bytes' r.1 ∧
      r.1.truth.lookup bytes' = some ⟨c.id, blkMsg b'.hash⟩ ∧
      (c.id = L2 →
        ∀ C : SysCfg, route C c.id r.2 = (C.honest.filter (· != c.id)).map (fun x => (x, Ev.propose c.id b' none))) ∧
      (c.id ≠ L2 → ∀ C : SysCfg, route C c.id r.2 =
        (C.honest.filter (· != c.id)).map (fun x => (x, Ev.propose c.id b' none)) ++
          [(L2, Ev.vote c.id (some (.multi c.scheme [⟨c.id, bytes'⟩])) b'.hash false)]) := by
  subst hview
  let s0 : RState := { s with out := [], queue := [.timeout t] }
  let sA : RState := { s0 with queue := [] }
  obtain ⟨sg, htc, hrun⟩ := h.run_all hall
  have hs := h.scheme
  have hf := h.fresh
  have hhq := h.hqok
  have hhb := h.hbok
  have hhv := h.hqv
  let tc : TC := ⟨some sg, s.view⟩
  let m : RState := movedTS { absorbS sA q nb tc0 with timeouts := [] } tc
  obtain ⟨F, evs, bytes', hcp, hFq, hpass, hlen', hS, hlp, ht, hFhq, hFto, hself, hsend, hwz, _⟩ :=
    lead_next k c L2 s.view (s.view + 1) N (N + 2) m hb P (some tc) [Ev.viewChange (s.view + 1) true] hs hr hid hq2 hld1 hld2 hf rfl
      hlv hwvc hwprop rfl rfl hfe hhb (by omega) (Nat.le_of_lt hhv) hhq hmark
      (hready.rule hhb (Nat.le_refl _) rfl)
      hP (by omega) (Nat.le_succ _) (Nat.le_refl _) (by show s.lock.view < _; omega) hnames hsmall
      (by show 2 * s.chain.blocks.length + (s.view + 3) ≤ N + 2; omega)
  have hFto' : F.timeouts = [] := hFto
  -- after `createAndPropose` the leader's branch filters its collector; `F.timeouts = []`, so the filter changes nothing
  have hrun' : (onRemoteTimeout k c t).run sA = pure ((), F) := by
    rw [hrun, if_pos (show c.leader (sA.view + 1) = c.id from hld1), run_then_modify]
    refine (congrArg (fun r : Id (Unit × RState) =>
      (pure ((), { r.2 with timeouts := r.2.timeouts.filter (fun x => !(x.view < s.view)) }) : Id (Unit × RState))) hcp).trans ?_
    show (pure ((), ({ F with timeouts := F.timeouts.filter _ } : RState)) : Id (Unit × RState)) = pure ((), F)
    rw [hFto']; simp only [List.filter_nil]
    rw [← hFto']
  have ht1 : (tick k c).run s0 = pure (true, F) := tick_timeout k c rfl hrun'
  have hquiet : ∀ e ∈ F.queue, e.quiet = true := by
    intro e he
    rw [hFq, List.mem_append, List.mem_singleton] at he
    rcases he with rfl | he
    · rfl
    · exact quiet_of_passive e (hpass e he)
  have hstep : step k c s (.timeout t) = ({ F with queue := [], out := [] }, F.out ++ F.queue.map Ev.toOut) :=
    step_tick_quiet k c s F _ h.queue ht1 hquiet hS.wvc
      (by rw [hFq]; simp only [List.length_append, List.length_singleton]; omega)
  rw [hstep]
  refine ⟨bytes', newBlock c m m.highQC, rfl,
    ⟨hS.bhash, rfl, hS.bview, rfl, ⟨hS, ?_, ?_⟩, hlp, hwz hcm hwalk, hFto', fun e => (hself e).1⟩, ht, ?_, ?_⟩
  · show markWalk (F.chain.fuel + 1) F.chain.blocks F.lastProposed (newBlock c m m.highQC) = true
    unfold markWalk
    rw [if_neg (by rw [hlp, hS.bview]; omega)]
  · show hb.view ≤ F.highQC.view; rw [hFhq]; exact hhbv
  · intro e C
    rw [route_drain C c.id _ _ hquiet, (hself e).2]
    simp [route]
  · intro e C
    rw [route_drain C c.id _ _ hquiet, hsend e]
    simp [route]



/-- **what is assumed of the start state for the chain of views after the recovery** (beyond `RecPreLive`).
Synchrony-after-GST facts (statements about what the replicas have received and stored): `par` — the block certified by
the certificate of a `Top` block is stored everywhere and is not newer than `v` (sharpens `RecPreLive.parents`: genesis as
`Top` block is excluded) —, `walk` — the committer of every replica can walk from every `Top` block down to its committed
block over stored parents —, `fetch` — no block fetch is answered —, `wprop` — no vote waits for a proposal.
Bookkeeping (derivable in principle from reachability, or artefacts of the model): `committed` (a committed block is
older than the view), `names` (the names `P<u>` of future proposals are unused in the store and in the voting machine:
hashes are names in the model), `small` and `bound` (store size and view are small against the fuel 100000 of the
model's event loop). -/
structure SyncPre (C : SysCfg) (D : RecData) (s0 : Nat → RState) (N : Nat) : Prop where
  fetch : ∀ j ∈ C.honest, (s0 j).chain.fetchable = []
  wprop : ∀ j ∈ C.honest, (s0 j).waitingProp = []
  names : ∀ j ∈ C.honest, ∀ u, D.v < u →
    (s0 j).chain.blocks.lookup (pname u) = none ∧ (s0 j).votes.lookup (pname u) = none
  par : ∀ j ∈ C.honest, ∀ i ∈ C.honest, Top C D i →
    ∃ P, (s0 j).chain.blocks.lookup (D.hb i).qc.hash = some P ∧ P.view ≤ D.v
  committed : ∀ j ∈ C.honest, (s0 j).committed.view ≤ D.v
  small : ∀ j ∈ C.honest, 2 * (s0 j).chain.blocks.length + (D.v + 1) ≤ N
  walk : ∀ j ∈ C.honest, ∀ i ∈ C.honest, Top C D i →
    cmWalk ((s0 j).chain.blocks.length + 2) (s0 j).chain.blocks (s0 j).committed.view (D.hb i) = true
  bound : N + 20 ≤ 99999

/-- `ld_timeout_quorum_next` in the recovery round, with the highest high QC of the quorum (`Top`) as the certificate of the proposal -/
theorem rcoll_leader_quorum (k : Keys) (C : SysCfg) (L c2 N : Nat) (D : RecData) (s0 : Nat → RState) (T0 : List (Nat × Atom))
    (hS : RecSetupLive k C D s0 L T0) (hY : SyncPre C D s0 N)
    (hlockv : ∀ j ∈ C.honest, ∀ i ∈ C.honest, Top C D i → (s0 j).lock.view ≤ (D.hb i).view)
    (hr : C.rules = .chained ∨ C.rules = .simple) (hhas : (C.rcfg L).cfg.has L = true)
    (hl2 : (C.rcfg L).leader (D.v + 1 + 1) = c2)
    (frm : List Nat) (i : Nat) (s : RState) (T : List (Nat × Atom)) (nb : Nat)
    (hfrm : ∀ x ∈ frm, x ∈ C.honest) (hi : i ∈ C.honest) (hnd : (L :: frm).Nodup) (hnew : i ∉ L :: frm)
    (hc : RColl C D (s0 L) L frm s) (hk : KnowsAll k C D L { s with truth := T, nextBytes := nb }) (hfr : FreshL T nb)
    (hge : (C.rcfg 0).cfg.quorum ≤ frm.length + 2) :
    let r := step k (C.rcfg L) { s with truth := T, nextBytes := nb } (.timeout (D.tmsg C i))
    absI D.bv L (frm ++ [i]) ∈ C.honest ∧ Top C D (absI D.bv L (frm ++ [i])) ∧
    ∃ (bytes' : Nat) (b' : Block),
      b'.qc = D.hq (absI D.bv L (frm ++ [i])) ∧
      LeaderProposed (C.rcfg L) c2 D.v N (D.hb (absI D.bv L (frm ++ [i]))) b' bytes' r.1 ∧
      r.1.truth.lookup bytes' = some ⟨L, blkMsg b'.hash⟩ ∧
      (L = c2 → ∀ C' : SysCfg, route C' L r.2 = (C'.honest.filter (· != L)).map (fun x => (x, Ev.propose L b' none))) ∧
      (L ≠ c2 → ∀ C' : SysCfg, route C' L r.2 =
        (C'.honest.filter (· != L)).map (fun x => (x, Ev.propose L b' none)) ++
          [(c2, Ev.vote L (some (.multi C.scheme [⟨L, bytes'⟩])) b'.hash false)]) := by
  let sT : RState := { s with truth := T, nextBytes := nb }
  have hj := hS.lmem
  have hfrm' : ∀ x ∈ frm ++ [i], x ∈ C.honest :=
    fun x hx => (List.mem_append.mp hx).elim (hfrm x) (fun h => List.mem_singleton.mp h ▸ hi)
  have hmi : absI D.bv L (frm ++ [i]) ∈ C.honest := absI_honest D.bv hj hfrm'
  have htop : Top C D (absI D.bv L (frm ++ [i])) :=
    absI_top (show ((L :: frm) ++ [i]).Nodup from List.nodup_append.mpr
        ⟨hnd, by simp, fun a ha b hb => by simp at hb; subst hb; exact fun e => hnew (e ▸ ha)⟩)
      hj hfrm' (by simp only [List.length_append, List.length_singleton]; exact hge)
  obtain ⟨hpre, habs, hall⟩ := hc.tmoPre hk hS.agg hS.scheme hS.v0 hfr hj hfrm hi hnd hnew hge
  obtain ⟨_, _, a3, a4⟩ := hk.qc _ hmi
  obtain ⟨P, hP1, hP2⟩ := hY.par L hj _ hmi htop
  have hch : sT.chain = (s0 L).chain := hc.frame.chain
  obtain ⟨bytes', b', e4, rest⟩ := ld_timeout_quorum_next k (C.rcfg L) c2 D.v N sT (D.tmsg C i)
    (D.hq i) (D.hb i) (D.hb (absI D.bv L (frm ++ [i]))) P (D.htc i) hpre hall hr hhas
    (by show (C.rcfg L).leader (s.view + 1) = L; rw [hc.view]; exact hS.leader L hj)
    (by show (C.rcfg L).leader (s.view + 1 + 1) = c2; rw [hc.view]; exact hl2) (quorum_le_n C.n hS.two).1
    (by show s.waitingVC = []; rw [hc.frame.wvc]; exact (hS.init L hj).2.1)
    (by show s.waitingProp = []; rw [hc.frame.wprop]; exact hY.wprop L hj)
    (by rw [hch]; exact hY.fetch L hj) hc.view
    (by rw [habs, a3]; exact Nat.le_refl _)
    (by show s.lastVoted ≤ _; rw [hc.frame.lastVoted]; exact (hS.init L hj).2.2.1)
    (ruleReady_congr (C.rcfg L) (s0 L) sT _ _ hc.frame.chain hc.frame.lock (hS.cover L hj _ hmi htop))
    (by show markWalk (s.chain.fuel + 1) s.chain.blocks s.lastProposed _ = true
        rw [hc.frame.chain, hc.frame.lastProposed]; exact hS.mark _ hmi)
    (by rw [hch]; exact hP1) hP2
    (by show s.lock.view ≤ _; rw [hc.frame.lock]
        have := hlockv L hj _ hmi htop
        have h3 : (D.hb (absI D.bv L (frm ++ [i]))).view < D.v := by rw [← a3]; exact a4
        omega)
    (by show s.committed.view ≤ _; rw [hc.frame.committed]; exact hY.committed L hj)
    (by intro u hu
        show s.chain.blocks.lookup _ = none ∧ s.votes.lookup _ = none
        rw [hc.frame.chain, hc.frame.votes]; exact hY.names L hj u hu)
    (by show 2 * s.chain.blocks.length + _ ≤ N; rw [hc.frame.chain]; exact hY.small L hj)
    (by have := hY.bound; omega)
    (by show cmWalk (s.chain.blocks.length + 2) s.chain.blocks s.committed.view _ = true
        rw [hc.frame.chain, hc.frame.committed]; exact hY.walk L hj _ hmi htop)
  exact ⟨hmi, htop, bytes', b', by rw [e4, habs], rest⟩

theorem rec_leader_stale (k : Keys) (C : SysCfg) (L : Nat) (D : RecData) (s0 : Nat → RState) (T0 : List (Nat × Atom))
    (hS : RecSetupLive k C D s0 L T0) (rec : Nat → List Nat) (σ : SysState) (acc : Msgs) (i : Nat)
    (hinv : RecInv k C D s0 L T0 rec (σ, acc)) (hi : i ∈ C.honest)
    (sL : RState) (hq0 : sL.queue = []) (hv : sL.view = D.v + 1) (hts : sL.timeouts = [])
    (hst : StoreLe (s0 L).chain.blocks sL.chain.blocks) :
    step k (C.rcfg L) { sL with truth := σ.truth, nextBytes := σ.nextBytes } (.timeout (D.tmsg C i)) =
      ({ absorbS { sL with truth := σ.truth, nextBytes := σ.nextBytes } (D.hq i) (D.hb i) (D.htc i) with out := [] }, []) := by
  let sT : RState := { sL with truth := σ.truth, nextBytes := σ.nextBytes }
  have hk0 := (hS.init L hS.lmem).2.2.2
  obtain ⟨q1, q2, q3, q4⟩ := hk0.qc i hi
  obtain ⟨t1, t2⟩ := hk0.tc i hi
  have hTle : ∀ b a, ({ s0 L with truth := T0 } : RState).truth.lookup b = some a → sT.truth.lookup b = some a :=
    fun b a hb => hinv.table b a hb
  exact step_timeout_stale k (C.rcfg L) sT (D.tmsg C i) (D.hq i) (D.hb i) (D.htc i) hS.agg (quorum_le_n C.n hS.two).1
    hq0 (accepted_mono _ _ _ _ (fun b a hb => hinv.table b a hb) (hk0.acc i hi)) rfl
    (verifyTC_mono k _ _ sT _ hTle t1)
    (verifyQC_mono (fun b => List.lookup b T0) (fun b => σ.truth.lookup b) (C.rcfg L).cfg (s0 L).chain.blocks sL.chain.blocks _ _
      (fun b a hb => hinv.table b a hb) hst q1)
    (hst _ _ q2) (by show _ < sL.view; omega) (by show _ < sL.view; omega) (by show D.v < sL.view; omega) hts

/-- `SyncPre` for rotating leaders: in addition the walk that marks ancestors as proposed succeeds from every `Top` block at EVERY
participant (any of them may lead one of the following views); bookkeeping of `createAndPropose`, a fact about stored blocks -/
structure SyncPreRot (C : SysCfg) (D : RecData) (s0 : Nat → RState) (N : Nat) : Prop where
  pre : SyncPre C D s0 N
  mark : ∀ j ∈ C.honest, ∀ i ∈ C.honest, Top C D i →
    markWalk ((s0 j).chain.fuel + 1) (s0 j).chain.blocks (s0 j).lastProposed (D.hb i) = true

/-- the recovery round after the quorum of the leader `L` of view `v + 1`: its state `sL` (`led`), the table entry of its vote, and the
messages in flight — the proposals of `b'` to everybody else, and the leader's vote when it goes to another replica `c2` -/
structure RecAfter (C : SysCfg) (L c2 : Nat) (D : RecData) (s0 : Nat → RState) (N : Nat) (x : SysState × Msgs)
    (i : Nat) (b' : Block) (sL : RState) (bytes' : Nat) : Prop where
  imem : i ∈ C.honest
  top : Top C D i
  qc : b'.qc = D.hq i
  look : x.1.reps.lookup L = some sL
  led : LeaderProposed (C.rcfg L) c2 D.v N (D.hb i) b' bytes' sL
  store : StoreLe (s0 L).chain.blocks sL.chain.blocks
  signed : x.1.truth.lookup bytes' = some ⟨L, blkMsg b'.hash⟩
  props : ∀ m ∈ x.2, isProp m = true → ∃ j, m = propMsg L b' j
  allProps : ∀ j ∈ C.honest, j ≠ L → propMsg L b' j ∈ x.2
  votes : x.2.filter isVoteEv = voteTo C c2 b'.hash (fun _ => bytes') L

/-- the recovery round, sharpened, for any leader `c2` of view `v + 2`: before the quorum of the leader `L` of view `v + 1` neither a
proposal nor a vote is in flight; after it the leader is synchronised at `(v + 1, b')` on its proposal `b'` (on the highest high QC
`D.hq i` of a quorum) with an empty collector, the proposals in flight are exactly those of `b'`, and its own vote for `b'` is in
its voting machine (`c2 = L`) or the one vote in flight (`voteTo`) -/
structure RecExact (C : SysCfg) (L c2 : Nat) (D : RecData) (s0 : Nat → RState) (N : Nat) (rec : Nat → List Nat)
    (x : SysState × Msgs) : Prop where
  before : (rec L).length + 1 < (C.rcfg 0).cfg.quorum → ∀ m ∈ x.2, isProp m = false ∧ isVoteEv m = false
  after : (C.rcfg 0).cfg.quorum ≤ (rec L).length + 1 → ∃ (i : Nat) (b' : Block) (sL : RState) (bytes' : Nat),
    RecAfter C L c2 D s0 N x i b' sL bytes'

/-- the step of the induction over the deliveries (`deliver_pairs`), beside `rec_step`: one timeout message keeps `RecExact` -/
theorem recx_step (k : Keys) (C : SysCfg) (L c2 N : Nat) (D : RecData) (s0 : Nat → RState) (T0 : List (Nat × Atom))
    (hC : RotCfg C) (hl2 : ldr C (D.v + 1 + 1) = c2)
    (hS : RecSetupLive k C D s0 L T0) (hY : SyncPre C D s0 N)
    (hlockv : ∀ j ∈ C.honest, ∀ i ∈ C.honest, Top C D i → (s0 j).lock.view ≤ (D.hb i).view)
    (rec : Nat → List Nat) (σ : SysState) (acc : Msgs) (j i : Nat)
    (hinv : RecInv k C D s0 L T0 rec (σ, acc)) (hx : RecExact C L c2 D s0 N rec (σ, acc))
    (hj : j ∈ C.honest) (hi : i ∈ C.honest) (hij : i ≠ j) (hnew : i ∉ rec j) :
    RecExact C L c2 D s0 N (recUpd rec j i) (deliverAll k C (σ, acc) [(j, Ev.timeout (D.tmsg C i))]) := by
  have hqj : ∀ x, (C.rcfg x).cfg.quorum = (C.rcfg 0).cfg.quorum := fun _ => rfl
  obtain ⟨hrnd, hrmem⟩ := hinv.recs j hj
  have hnew' : i ∉ j :: rec j := by
    simp only [List.mem_cons, not_or]; exact ⟨hij, hnew⟩
  have hquiet : ∀ l : Msgs, (∀ m ∈ l, isProp m = false ∧ isVoteEv m = false) → l.filter isVoteEv = [] := fun l h =>
    List.filter_eq_nil_iff.mpr (fun m hm => by rw [(h m hm).2]; simp)
  by_cases hjl : j = L
  · subst hjl
    by_cases hlt : (rec j).length + 1 < (C.rcfg 0).cfg.quorum
    · obtain ⟨s, hl, hc⟩ := hinv.leaderC hlt
      obtain ⟨σ', hd, ⟨rs, ro, rk, r2, r3⟩⟩ := deliver_effect k C σ acc j (Ev.timeout (D.tmsg C i)) s hl
      rw [hd]
      by_cases hlt2 : (rec j).length + 2 < (C.rcfg 0).cfg.quorum
      · -- still collecting
        obtain ⟨s', hstep, hc', ht, hn⟩ := rcoll_add k C D (s0 j) s j i (rec j) σ.truth σ.nextBytes hS.agg hj hrmem hi hnew' hc
          (hinv.knows hS hj hc.frame) (by rw [hqj]; exact hlt2)
        rw [hstep]
        refine ⟨?_, ?_⟩
        · intro _ m hm
          simp only [route, List.append_nil] at hm
          exact hx.before hlt m hm
        · intro hge
          rw [recUpd_same] at hge
          simp only [List.length_append, List.length_singleton] at hge
          omega
      · -- the quorum: the proposals, and the own vote kept (`j = c2`) or sent
        obtain ⟨hmi, htop, bytes', b', e4, eled, esig, eself, esend⟩ :=
          rcoll_leader_quorum k C j c2 N D s0 T0 hS hY hlockv hC.rules (hC.has j j hj) hl2 (rec j) i s σ.truth σ.nextBytes
            hrmem hi hrnd hnew' hc (hinv.knows hS hj hc.frame) hinv.fresh (by omega)
        have hbef := hx.before hlt
        have hroute : route C j (step k (C.rcfg j) { s with truth := σ.truth, nextBytes := σ.nextBytes } (.timeout (D.tmsg C i))).2 =
            (othersOf C j).map (propMsg j b') ++ voteTo C c2 b'.hash (fun _ => bytes') j := by
          unfold voteTo
          by_cases h : j = c2
          · rw [if_pos h, List.append_nil]; exact eself h C
          · rw [if_neg h]; exact esend h C
        obtain ⟨hfv, hfp, hfm⟩ := pool_facts hroute
        refine ⟨?_, ?_⟩
        · intro hlt'
          rw [recUpd_same] at hlt'
          simp only [List.length_append, List.length_singleton] at hlt'
          omega
        · intro _
          refine ⟨absI D.bv j (rec j ++ [i]), b', _, bytes', hmi, htop, e4, rs, eled, ?_, by rw [r2]; exact esig,
            ?_, fun x hx' hxl => List.mem_append_right _ (hfm x hx' hxl), ?_⟩
          · intro h b hb
            exact (step_ext k (C.rcfg j) { s with truth := σ.truth, nextBytes := σ.nextBytes } (.timeout (D.tmsg C i)) hinv.fresh.2).store h b
              (by show s.chain.blocks.lookup h = some b; rw [hc.frame.chain]; exact hb)
          · intro m hm hp
            rcases List.mem_append.mp hm with hm | hm
            · rw [(hbef m hm).1] at hp; cases hp
            · exact hfp m hm hp
          · rw [List.filter_append, hquiet acc hbef, hfv, List.nil_append]
    · -- the leader has moved on: the message only refreshes the high certificates
      obtain ⟨i0, b', sL, bytes', ha⟩ := hx.after (by omega)
      obtain ⟨σ', hd, ⟨rs, ro, rk, r2, r3⟩⟩ := deliver_effect k C σ acc j (Ev.timeout (D.tmsg C i)) sL ha.look
      let sT : RState := { sL with truth := σ.truth, nextBytes := σ.nextBytes }
      obtain ⟨_, _, q3, q4⟩ := (hS.init j hj).2.2.2.qc i hi
      have hstep := rec_leader_stale k C j D s0 T0 hS rec σ acc i hinv hi sL ha.led.sync.core.queue ha.led.sync.core.view
        ha.led.timeouts ha.store
      rw [hd, hstep]
      rw [hstep] at rs r2 r3
      dsimp only at rs r2 r3
      refine ⟨?_, ?_⟩
      · intro hlt'
        rw [recUpd_same] at hlt'
        simp only [List.length_append, List.length_singleton] at hlt'
        omega
      · intro _
        obtain ⟨hcR, hqR⟩ := syncR_absorb (s := sT) (syncR_with_table ha.led.sync.core _ _) ha.led.sync.hqge (D.hq i) (D.hb i)
          (D.htc i) (by omega) q3
        simp only [route, List.append_nil]
        exact ⟨i0, b', ({ absorbS sT (D.hq i) (D.hb i) (D.htc i) with out := [] } : RState), bytes',
          { ha with
            look := rs
            led := { ha.led with sync := ⟨hcR, ha.led.sync.mark, hqR⟩, walk := ⟨ha.led.walk.walk, ha.led.walk.below⟩ }
            signed := by rw [r2]; exact ha.signed }⟩
  · -- a replica that is not the leader: it sends neither a proposal nor a vote
    obtain ⟨s, s', outs, hl, hstep, ht, _, _, _, hrp⟩ := rec_other_step k C D s0 L T0 hS rec σ acc j i hinv hj hi hij hnew hjl
    obtain ⟨σ', hd, ⟨rs, ro, rk, r2, r3⟩⟩ := deliver_effect k C σ acc j (Ev.timeout (D.tmsg C i)) s hl
    rw [hstep] at hd r2
    dsimp only at r2
    rw [hd]
    have hL : recUpd rec j i L = rec L := recUpd_other _ _ _ _ (fun e => hjl e.symm)
    refine ⟨?_, ?_⟩
    · intro hlt m hm
      rw [hL] at hlt
      rcases List.mem_append.mp hm with hm | hm
      · exact hx.before hlt m hm
      · exact hrp m hm
    · intro hge
      rw [hL] at hge
      obtain ⟨i0, b', sL, bytes', ha⟩ := hx.after hge
      refine ⟨i0, b', sL, bytes',
        { ha with
          look := by rw [ro _ (fun e => hjl e.symm)]; exact ha.look
          signed := by rw [r2, ht]; exact ha.signed
          props := ?_
          allProps := fun x hx' hxl => List.mem_append_left _ (ha.allProps x hx' hxl)
          votes := ?_ }⟩
      · intro m hm hp
        rcases List.mem_append.mp hm with hm | hm
        · exact ha.props m hm hp
        · rw [(hrp m hm).1] at hp; cases hp
      · rw [List.filter_append, hquiet _ hrp, List.append_nil]; exact ha.votes

/-- what `nl_step_cur_next` needs of a replica: it has entered view `w + 1` on the timeout certificate and can vote for `b'` -/
structure NLReady (k : Keys) (c : RCfg) (w N : Nat) (hb b' : Block) (s : RState) : Prop where
  view : s.view = w + 1
  lastVoted : s.lastVoted ≤ w
  queue : s.queue = []
  wvc : s.waitingVC = []
  wprop : s.waitingProp = []
  fetch : s.chain.fetchable = []
  ver : verifyQC (env k c s) b'.qc = true
  hasHb : s.chain.blocks.lookup b'.qc.hash = some hb
  hbv : hb.view ≤ w
  par : ∃ P, s.chain.blocks.lookup hb.qc.hash = some P ∧ P.view ≤ w
  ready : RuleReady c s (w + 1) hb
  hq : s.highQC.view ≤ w
  lock : s.lock.view ≤ w
  committed : s.committed.view ≤ w
  names : ∀ u, w < u → s.chain.blocks.lookup (pname u) = none ∧ s.votes.lookup (pname u) = none
  small : 2 * s.chain.blocks.length + (w + 1) ≤ N
  walk : cmWalk (s.chain.blocks.length + 2) s.chain.blocks s.committed.view hb = true

theorem NLReady.table {k : Keys} {c : RCfg} {w N : Nat} {hb b' : Block} {s : RState} (h : NLReady k c w N hb b' s)
    (T : List (Nat × Atom)) (nb : Nat) (hT : ∀ b a, s.truth.lookup b = some a → T.lookup b = some a) :
    NLReady k c w N hb b' { s with truth := T, nextBytes := nb } :=
  ⟨h.view, h.lastVoted, h.queue, h.wvc, h.wprop, h.fetch,
    verifyQC_mono (fun b => s.truth.lookup b) (fun b => T.lookup b) c.cfg s.chain.blocks s.chain.blocks _ _
      (fun b a hb' => hT b a hb') (fun _ _ h => h) h.ver,
    h.hasHb, h.hbv, h.par, ruleReady_congr c s _ _ _ rfl rfl h.ready, h.hq, h.lock, h.committed, h.names, h.small, h.walk⟩


theorem nlReady_of_moved {k : Keys} {C : SysCfg} {L N : Nat} {D : RecData} {s0 : Nat → RState} {T0 : List (Nat × Atom)}
    (hS : RecSetupLive k C D s0 L T0) (hY : SyncPre C D s0 N)
    (hlockv : ∀ j ∈ C.honest, ∀ i ∈ C.honest, Top C D i → (s0 j).lock.view ≤ (D.hb i).view)
    {rec : Nat → List Nat} {x : SysState × Msgs} (hfin : RecInv k C D s0 L T0 rec x)
    {j : Nat} (hj : j ∈ C.honest) {s : RState} (hmv : RMoved C D (s0 j) j (rec j) s)
    {i : Nat} {b' : Block} (f1 : i ∈ C.honest) (f2 : Top C D i) (f6 : b'.qc = D.hq i) :
    NLReady k (C.rcfg j) D.v N (D.hb i) b' { s with truth := x.1.truth, nextBytes := x.1.nextBytes } := by
  let sT : RState := { s with truth := x.1.truth, nextBytes := x.1.nextBytes }
  have hknow : KnowsAll k C D j sT := hfin.knows hS hj hmv.frame
  obtain ⟨a1, a2, a3, a4⟩ := hknow.qc i f1
  have hidx : absI D.bv j (rec j) ∈ C.honest := absI_honest D.bv hj (hfin.recs j hj).2
  obtain ⟨c1, c2, c3, c4⟩ := hknow.qc _ hidx
  obtain ⟨P, hP1, hP2⟩ := hY.par j hj i f1 f2
  have hlk := hlockv j hj i f1 f2
  exact ⟨hmv.view, by show s.lastVoted ≤ _; rw [hmv.frame.lastVoted]; exact (hS.init j hj).2.2.1, hmv.queue,
    by show s.waitingVC = []; rw [hmv.frame.wvc]; exact (hS.init j hj).2.1,
    by show s.waitingProp = []; rw [hmv.frame.wprop]; exact hY.wprop j hj,
    by show s.chain.fetchable = []; rw [hmv.frame.chain]; exact hY.fetch j hj,
    by rw [f6]; exact a1, by rw [f6]; exact a2, by rw [← a3]; exact Nat.le_of_lt a4,
    ⟨P, by show s.chain.blocks.lookup _ = _; rw [hmv.frame.chain]; exact hP1, hP2⟩,
    ruleReady_congr (C.rcfg j) (s0 j) sT _ _ hmv.frame.chain hmv.frame.lock (hS.cover j hj i f1 f2),
    by show s.highQC.view ≤ _; rw [hmv.hqc]; exact Nat.le_of_lt c4,
    by show s.lock.view ≤ _; rw [hmv.frame.lock]; have : (D.hb i).view < D.v := by rw [← a3]; exact a4
       omega,
    by show s.committed.view ≤ _; rw [hmv.frame.committed]; exact hY.committed j hj,
    by intro u hu
       show s.chain.blocks.lookup _ = none ∧ s.votes.lookup _ = none
       rw [hmv.frame.chain, hmv.frame.votes]; exact hY.names j hj u hu,
    by show 2 * s.chain.blocks.length + _ ≤ N; rw [hmv.frame.chain]; exact hY.small j hj,
    by show cmWalk (s.chain.blocks.length + 2) s.chain.blocks s.committed.view _ = true
       rw [hmv.frame.chain, hmv.frame.committed]; exact hY.walk j hj i f1 f2⟩

/-- the state after the recovery round, for any leader `c2` of view `v + 2`: the leader `L` synchronised at `(v + 1, b')` (its vote
for `b'`, bytes `bytes'`, kept when `c2 = L`), everybody else ready to vote for `b'`, those in `M` able to propose later -/
structure RecEnd (M : Nat → Prop) (k : Keys) (C : SysCfg) (L c2 : Nat) (D : RecData) (N : Nat) (i : Nat) (b' : Block) (bytes' : Nat)
    (σ1 : SysState) : Prop where
  fresh : FreshL σ1.truth σ1.nextBytes
  keys : σ1.reps.map (·.1) = C.honest
  leader : ∃ sL, σ1.reps.lookup L = some sL ∧ LeaderProposed (C.rcfg L) c2 D.v N (D.hb i) b' bytes' sL
  lbytes : σ1.truth.lookup bytes' = some ⟨L, blkMsg b'.hash⟩
  others : ∀ j ∈ C.honest, j ≠ L → ∃ s, σ1.reps.lookup j = some s ∧
    NLReady k (C.rcfg j) D.v N (D.hb i) b' { s with truth := σ1.truth, nextBytes := σ1.nextBytes } ∧
    (M j → markWalk (s.chain.fuel + 1) s.chain.blocks s.lastProposed (D.hb i) = true) ∧ b'.qc.view = (D.hb i).view

/-- `hmark`: the `markWalk` bookkeeping for the participants in `M` -/
theorem recovery_round_end (M : Nat → Prop) (k : Keys) (C : SysCfg) (L c2 N : Nat) (D : RecData) (s0 : Nat → RState)
    (T0 : List (Nat × Atom)) (hC : RotCfg C) (hl2 : ldr C (D.v + 1 + 1) = c2)
    (hS : RecSetupLive k C D s0 L T0) (hY : SyncPre C D s0 N)
    (hmark : ∀ j ∈ C.honest, M j → ∀ i ∈ C.honest, Top C D i →
      markWalk ((s0 j).chain.fuel + 1) (s0 j).chain.blocks (s0 j).lastProposed (D.hb i) = true)
    (hlockv : ∀ j ∈ C.honest, ∀ i ∈ C.honest, Top C D i → (s0 j).lock.view ≤ (D.hb i).view)
    (σ0 : SysState) (h0 : RecStart C s0 T0 σ0) (msgs : List (Nat × Nat)) (hm : FullOrder C msgs) :
    ∃ (i : Nat) (b' : Block) (bytes' : Nat), i ∈ C.honest ∧ Top C D i ∧ b'.view = D.v + 1 ∧ b'.qc = D.hq i ∧ b'.proposer = L ∧
      RecEnd M k C L c2 D N i b' bytes' (recoveryRound k C D σ0 msgs).1 ∧
      (∀ m ∈ (recoveryRound k C D σ0 msgs).2, isProp m = true → ∃ j, m = propMsg L b' j) ∧
      (∀ j ∈ C.honest, j ≠ L → propMsg L b' j ∈ (recoveryRound k C D σ0 msgs).2) ∧
      (recoveryRound k C D σ0 msgs).2.filter isVoteEv = voteTo C c2 b'.hash (fun _ => bytes') L := by
  have hq : 2 ≤ (C.rcfg 0).cfg.quorum := (quorum_le_n C.n hS.two).1
  have hinitX : RecExact C L c2 D s0 N (fun _ => []) (σ0, []) := by
    refine ⟨fun _ m hm => by simp at hm, fun h => ?_⟩
    simp at h; omega
  obtain ⟨hfin, hfinX⟩ := deliver_pairs k C (fun j i => (j, Ev.timeout (D.tmsg C i)))
    (fun j i => j ∈ C.honest ∧ i ∈ C.honest ∧ i ≠ j) (fun rec x => RecInv k C D s0 L T0 rec x ∧ RecExact C L c2 D s0 N rec x)
    (fun rec σ acc j i h ⟨hj, hi, hij⟩ hn => ⟨rec_step k C D s0 L T0 hS rec σ acc j i h.1 hj hi hij hn,
      recx_step k C L c2 N D s0 T0 hC hl2 hS hY hlockv rec σ acc j i h.1 h.2 hj hi hij hn⟩)
    msgs (fun _ => []) (σ0, []) ⟨recInv_init hS h0, hinitX⟩ hm.nodup hm.fresh
  have hlen := recAll_full hS.nodup hS.qh hm
  obtain ⟨i, b', sL, bytes', ha⟩ := hfinX.after (hlen L hS.lmem)
  refine ⟨i, b', bytes', ha.imem, ha.top, ha.led.bview, ha.qc, ha.led.proposer,
    ⟨hfin.fresh, hfin.keys, ⟨sL, ha.look, ha.led⟩, ha.signed, ?_⟩, ha.props, ha.allProps, ha.votes⟩
  intro j hj hjL
  obtain ⟨s, q1, _, q3⟩ := hfin.others j hj hjL
  have hmv := q3 (hlen j hj)
  refine ⟨s, q1, nlReady_of_moved hS hY hlockv hfin hj hmv ha.imem ha.top ha.qc,
    fun hm' => by rw [hmv.frame.chain, hmv.frame.lastProposed]; exact hmark j hj hm' i ha.imem ha.top, ?_⟩
  rw [ha.qc]; exact ((hS.init j hj).2.2.2.qc i ha.imem).2.2.1

/-- the proposal round after the recovery round (`prop_round` from `RecEnd`): it ends in phase A at `(v + 1, b')` when the next
collector `c2` is a participant in `M`; the last clause is `CollProposed` for the first votes round of the chain -/
theorem recEnd_phaseA (M : Nat → Prop) (k : Keys) (C : SysCfg) (L c2 : Nat) (hC : RotCfg C) (D : RecData) (N i : Nat) (b' : Block)
    (bytes' : Nat) (σ1 : SysState) (hl1 : ldr C (D.v + 1) = L) (hl2 : ldr C (D.v + 1 + 1) = c2)
    (hN : N + 12 ≤ 99999) (hR : RecEnd M k C L c2 D N i b' bytes' σ1)
    (ord : List Nat) (hord : OthersOrder C L ord) :
    ∃ bt : Nat → Nat,
      (c2 ∈ C.honest → M c2 → PhaseAColl M C (D.v + 1) (N + 2) b' (D.hb i) bt
        (deliverAll k C (σ1, voteTo C c2 b'.hash (fun _ => bytes') L) (ord.map (propMsg L b'))).1) ∧
      (deliverAll k C (σ1, voteTo C c2 b'.hash (fun _ => bytes') L) (ord.map (propMsg L b'))).2 =
        voteTo C c2 b'.hash bt L ++ ord.flatMap (voteTo C c2 b'.hash bt) ∧
      (∀ j ∈ C.honest, ∃ s, (deliverAll k C (σ1, voteTo C c2 b'.hash (fun _ => bytes') L) (ord.map (propMsg L b'))).1.reps.lookup j =
        some s ∧ WalkZ b' s) ∧
      ∀ sc, (deliverAll k C (σ1, voteTo C c2 b'.hash (fun _ => bytes') L) (ord.map (propMsg L b'))).1.reps.lookup L = some sc →
        sc.lastProposed = D.v + 1 := by
  obtain ⟨sL, hlL, hled⟩ := hR.leader
  obtain ⟨bt', hz⟩ := prop_round k C L c2 b' (fun _ => [])
    (fun j _ s => SyncR (D.v + 1) (N + 2) b' (D.hb i) s ∧ (M j → SyncM (D.v + 1) (N + 2) b' (D.hb i) s) ∧ WalkZ b' s)
    σ1 bytes' hC.scheme hR.fresh hR.keys (fun _ => hR.lbytes) (fun j hj hjL => let ⟨s, h, _⟩ := hR.others j hj hjL; ⟨s, h⟩)
    (by
      intro j s0 T nb hj hjL hl0 hT hfT
      obtain ⟨s0', hl0', hS0, hmk0, hqb⟩ := hR.others j hj hjL
      rw [hl0] at hl0'; cases hl0'
      have hS1 := hS0.table T nb (fun b a hb => hT b a hb)
      obtain ⟨P, hP1, hP2⟩ := hS1.par
      let sT : RState := { s0 with truth := T, nextBytes := nb }
      have hnewB : sT.chain.blocks.lookup b'.hash = none := by rw [hled.bhash]; exact (hS1.names (D.v + 1) (by omega)).1
      obtain ⟨n1, n2, n5, n6, n7, ⟨bytes, n8, nself, nsend⟩⟩ := nl_step_cur_next k (C.rcfg j) L c2 D.v N (D.hb i) P b' sT
        hC.scheme hC.agg hC.rules hl1 hl2 (fun _ => ⟨hC.has j j hj, (hC.quorum j).1⟩)
        hS1.view hS1.lastVoted hS1.queue hS1.wvc hS1.wprop hS1.fetch hfT hN hled.bhash hled.parent hled.bview
        (by rw [hqb]; have := hS1.hbv; omega)
        hS1.ver hS1.hasHb hS1.hbv hP1 hP2 hS1.ready hS1.hq hS1.lock hS1.committed hS1.names hS1.small hS1.walk
      refine ⟨bytes, ⟨n1, fun hm => ⟨n1, mark_step sT _ (D.hb i) b' n6 hS1.fetch n1.fetch n5 hnewB hS1.hasHb (hmk0 hm), n7 hqb⟩, n2⟩,
        n8, fun e => (nself e).1, ?_⟩
      unfold voteTo
      by_cases hjc2 : j = c2
      · rw [if_pos hjc2]; exact (nself hjc2).2 C
      · rw [if_neg hjc2]; exact nsend hjc2 C)
    ord hord.nodup hord.mem
  generalize deliverAll k C (σ1, voteTo C c2 b'.hash (fun _ => bytes') L) (ord.map (propMsg L b')) = z at hz ⊢
  have hlk : z.1.reps.lookup L = some sL := hz.coll.trans hlL
  refine ⟨bt', fun hc2m hc2M => hz.phaseA hord.full (fun _ _ _ h => ⟨h.1, h.2.1⟩) hl2 hc2m hc2M hlL hled.sync
    (fun hcc => ⟨_, hled.own hcc.symm, Or.inl ⟨hC.scheme, bytes', rfl, hR.lbytes⟩⟩), hz.pool, ?_, ?_⟩
  · intro j hj
    by_cases hjL : j = L
    · subst hjL; exact ⟨sL, hlk, hled.walk⟩
    · obtain ⟨_, s, _, d2, ⟨_, _, d4⟩, _⟩ := hz.did j (hord.full j hj hjL)
      exact ⟨s, d2, d4⟩
  · intro sc hsc
    rw [hlk] at hsc
    rw [← Option.some.inj hsc]; exact hled.lastProposed

theorem votesFly_map (C : SysCfg) (L : Nat) (h : Hash) (bt : Nat → Nat) (ord : List Nat)
    (hfull : ∀ j ∈ C.honest, j ≠ L → j ∈ ord) : VotesFly C L h bt (ord.map (voteMsg C L h bt)) := by
  intro j hj hjL
  rw [List.map_eq_flatMap]
  exact find?_flatMap_of_mem _ _ j _ (by simp [voteMsg, fromVote]) ord (hfull j hj hjL)
    (fun i _ hij => by simp [voteMsg, fromVote, hij])

theorem flatMap_voteTo (C : SysCfg) (c2 : Nat) (h : Hash) (bt : Nat → Nat) (ord : List Nat) (hord : ∀ j ∈ ord, j ≠ c2) :
    ord.flatMap (voteTo C c2 h bt) = ord.map (voteMsg C c2 h bt) := by
  rw [List.map_eq_flatMap]
  exact flatMap_congr' _ _ _ (fun j hj => if_neg (hord j hj))

theorem recovery_reaches_phaseA (k : Keys) (C : SysCfg) (L : Nat) (hC : HappyLive C L) (D : RecData) (s0 : Nat → RState)
    (σ0 : SysState) (blk : Hash → Block) (hk : KeysOK k) (hr : Reach k C σ0) (hca : CA' σ0 blk)
    (hP : RecPreLive k C D s0 L σ0.truth) (h0 : RecStart C s0 σ0.truth σ0)
    (msgs : List (Nat × Nat)) (hm : FullOrder C msgs) (N : Nat) (hY : SyncPre C D s0 N)
    (ordP : List Nat) (hordP : OthersOrder C L ordP) :
    ∃ (i : Nat) (b' : Block) (bt : Nat → Nat),
      i ∈ C.honest ∧ Top C D i ∧ b'.view = D.v + 1 ∧ b'.qc = D.hq i ∧ b'.proposer = L ∧
      PhaseA C L (D.v + 1) (N + 2) b' (D.hb i) bt (proposalRound k C ordP (recoveryRound k C D σ0 msgs)).1 ∧
      (proposalRound k C ordP (recoveryRound k C D σ0 msgs)).2 = ordP.map (voteMsg C L b'.hash bt) ∧
      ∀ j ∈ C.honest, ∃ s, (proposalRound k C ordP (recoveryRound k C D σ0 msgs)).1.reps.lookup j = some s ∧ WalkZ b' s := by
  have hS := hP.setup hk hr hca h0.reps
  have hlockv : ∀ j ∈ C.honest, ∀ i ∈ C.honest, Top C D i → (s0 j).lock.view ≤ (D.hb i).view :=
    fun j hj i hi ht => (hP.top_ge_lock hk hr hca h0.reps j i hj hi ht).1
  obtain ⟨i, b', bytes', g1, g2, g3, g4, g5, g6, g7, g8, _⟩ := recovery_round_end (· = L) k C L L N D s0 σ0.truth hC.toRot
    (hC.ldr _) hS hY (fun j _ hm' i hi _ => by subst hm'; exact hS.mark i hi) hlockv σ0 h0 msgs hm
  have hpi := propsIn_of_pool L b' (recoveryRound k C D σ0 msgs).2 ordP g7 (fun j hj => g8 j (hordP.mem j hj).1 (hordP.mem j hj).2)
  obtain ⟨bt, p1, p2, p3, p4⟩ := recEnd_phaseA (· = L) k C L L hC.toRot D N i b' bytes' _ (hC.ldr _) (hC.ldr _)
    (by have := hY.bound; omega) g6 ordP hordP
  rw [voteTo_self] at p1 p2 p3 p4
  rw [voteTo_self, List.nil_append, flatMap_voteTo C L _ bt ordP (fun j hj => (hordP.mem j hj).2)] at p2
  unfold proposalRound
  rw [hpi]
  exact ⟨i, b', bt, g1, g2, g3, g4, g5, (p1 hS.lmem rfl).toPhaseA hC p4, p2, p3⟩

/-- fixed leader, a participating quorum: the recovery round, the proposals, three views of the chain -/
theorem commit_after_recovery_fixed (k : Keys) (C : SysCfg) (L : Nat) (hC : HappyLive C L) (D : RecData) (s0 : Nat → RState)
    (σ0 : SysState) (blk : Hash → Block) (hk : KeysOK k) (hr : Reach k C σ0) (hca : CA' σ0 blk)
    (hP : RecPreLive k C D s0 L σ0.truth) (h0 : RecStart C s0 σ0.truth σ0)
    (msgs : List (Nat × Nat)) (hm : FullOrder C msgs) (N : Nat) (hY : SyncPre C D s0 N)
    (ordP v1 p1 v2 p2 v3 p3 : List Nat) (hordP : OthersOrder C L ordP)
    (hv1 : OthersOrder C L v1) (hp1 : OthersOrder C L p1) (hv2 : OthersOrder C L v2)
    (hp2 : OthersOrder C L p2) (hv3 : OthersOrder C L v3) (hp3 : OthersOrder C L p3) :
    ∃ (i : Nat) (b' : Block), i ∈ C.honest ∧ Top C D i ∧ b'.view = D.v + 1 ∧ b'.qc = D.hq i ∧ b'.proposer = L ∧
      ∀ j ∈ C.honest, ∃ s,
        (chainView k C v3 p3 (chainView k C v2 p2 (chainView k C v1 p1
          (proposalRound k C ordP (recoveryRound k C D σ0 msgs))))).1.reps.lookup j = some s ∧
        s.committed = b' ∧ s.committed.view = D.v + 1 ∧ (s0 j).committed.view < s.committed.view := by
  obtain ⟨i, b', bt, r1, r2, r3, r4, r5, a1, a2, a3⟩ := recovery_reaches_phaseA k C L hC D s0 σ0 blk hk hr hca hP h0 msgs hm N hY
    ordP hordP
  obtain ⟨B1, B2, B3, bt3, _, _, _, _, _, c6⟩ := synced_commits_fixed k C L (D.v + 1) (N + 2) hC b' (D.hb i) bt _
    (by have := hY.bound; omega) a1 (a2 ▸ votesFly_map C L b'.hash bt ordP hordP.full) a3 v1 p1 v2 p2 v3 p3 hv1 hp1 hv2 hp2 hv3 hp3
  exact ⟨i, b', r1, r2, r3, r4, r5, committed_after_recovery c6 r3 hY.committed⟩

theorem recovery_reaches_phaseA_rot (k : Keys) (C : SysCfg) (L c2 : Nat) (hC : RotCfg C) (D : RecData) (s0 : Nat → RState)
    (σ0 : SysState) (blk : Hash → Block) (hk : KeysOK k) (hr : Reach k C σ0) (hca : CA' σ0 blk)
    (hl1 : ldr C (D.v + 1) = L) (hl2 : ldr C (D.v + 1 + 1) = c2) (hc2m : c2 ∈ C.honest)
    (hP : RecPreLive k C D s0 L σ0.truth) (h0 : RecStart C s0 σ0.truth σ0)
    (msgs : List (Nat × Nat)) (hm : FullOrder C msgs) (N : Nat) (hY : SyncPreRot C D s0 N)
    (ordP : List Nat) (hordP : OthersOrder C L ordP) :
    ∃ (i : Nat) (b' : Block) (bt : Nat → Nat),
      i ∈ C.honest ∧ Top C D i ∧ b'.view = D.v + 1 ∧ b'.qc = D.hq i ∧ b'.proposer = L ∧
      PhaseARot C (D.v + 1) (N + 2) b' (D.hb i) bt (proposalRoundR k C ordP (recoveryRound k C D σ0 msgs)).1 ∧
      VotesFly C (ldr C (D.v + 1 + 1)) b'.hash bt (proposalRoundR k C ordP (recoveryRound k C D σ0 msgs)).2 ∧
      ∀ j ∈ C.honest, ∃ s, (proposalRoundR k C ordP (recoveryRound k C D σ0 msgs)).1.reps.lookup j = some s ∧ WalkZ b' s := by
  have hS := hP.setup hk hr hca h0.reps
  have hlockv : ∀ j ∈ C.honest, ∀ i ∈ C.honest, Top C D i → (s0 j).lock.view ≤ (D.hb i).view :=
    fun j hj i hi ht => (hP.top_ge_lock hk hr hca h0.reps j i hj hi ht).1
  obtain ⟨i, b', bytes', g1, g2, g3, g4, g5, g6, g7, g8, g9⟩ := recovery_round_end (fun _ => True) k C L c2 N D s0 σ0.truth hC
    hl2 hS hY.pre (fun j hj _ i hi ht => hY.mark j hj i hi ht) hlockv σ0 h0 msgs hm
  have hpi := propsIn_of_pool L b' (recoveryRound k C D σ0 msgs).2 ordP g7 (fun j hj => g8 j (hordP.mem j hj).1 (hordP.mem j hj).2)
  obtain ⟨bt, p1, p2, p3, _⟩ := recEnd_phaseA (fun _ => True) k C L c2 hC D N i b' bytes' _ hl1 hl2
    (by have := hY.pre.bound; omega) g6 ordP hordP
  unfold proposalRoundR
  rw [hpi, g9, hl2]
  refine ⟨i, b', bt, g1, g2, g3, g4, g5, (p1 hc2m trivial).toPhaseARot, ?_, p3⟩
  rw [p2]
  exact votesFly_pool C L c2 b'.hash bt (fun _ => []) (fun _ _ => rfl) ordP hordP.full

theorem commit_after_recovery_rot_core (k : Keys) (C : SysCfg) (hC : RotCfg C) (D : RecData) (s0 : Nat → RState)
    (σ0 : SysState) (blk : Hash → Block) (hk : KeysOK k) (hr : Reach k C σ0) (hca : CA' σ0 blk)
    (hl2 : ldr C (D.v + 1 + 1) ∈ C.honest) (hl3 : ldr C (D.v + 1 + 2) ∈ C.honest) (hl4 : ldr C (D.v + 1 + 3) ∈ C.honest)
    (hP : RecPreLive k C D s0 (ldr C (D.v + 1)) σ0.truth) (h0 : RecStart C s0 σ0.truth σ0)
    (msgs : List (Nat × Nat)) (hm : FullOrder C msgs) (N : Nat) (hY : SyncPreRot C D s0 N)
    (ordP v1 p1 v2 p2 v3 p3 : List Nat) (hordP : OthersOrder C (ldr C (D.v + 1)) ordP)
    (hv1 : OthersOrder C (ldr C (D.v + 1 + 1)) v1) (hp1 : OthersOrder C (ldr C (D.v + 1 + 1)) p1)
    (hv2 : OthersOrder C (ldr C (D.v + 1 + 2)) v2) (hp2 : OthersOrder C (ldr C (D.v + 1 + 2)) p2)
    (hv3 : OthersOrder C (ldr C (D.v + 1 + 3)) v3) (hp3 : OthersOrder C (ldr C (D.v + 1 + 3)) p3) :
    ∃ (i : Nat) (b' : Block), i ∈ C.honest ∧ Top C D i ∧ b'.view = D.v + 1 ∧ b'.qc = D.hq i ∧ b'.proposer = ldr C (D.v + 1) ∧
      ∀ j ∈ C.honest, ∃ s,
        (chainViewRot k C v3 p3 (chainViewRot k C v2 p2 (chainViewRot k C v1 p1
          (proposalRoundR k C ordP (recoveryRound k C D σ0 msgs))))).1.reps.lookup j = some s ∧
        s.committed = b' ∧ s.committed.view = D.v + 1 ∧ (s0 j).committed.view < s.committed.view := by
  obtain ⟨i, b', bt, r1, r2, r3, r4, r5, a1, a2, a3⟩ := recovery_reaches_phaseA_rot k C _ _ hC D s0 σ0 blk hk hr hca rfl rfl hl2
    hP h0 msgs hm N hY ordP hordP
  obtain ⟨B1, B2, B3, _, _, _, c6⟩ := synced_commits_rot' k C (D.v + 1) (N + 2) hC b' (D.hb i) bt _
    (by have := hY.pre.bound; omega) a1 a2 a3 hl3 hl4 v1 p1 v2 p2 v3 p3 hv1 hp1 hv2 hp2 hv3 hp3
  exact ⟨i, b', r1, r2, r3, r4, r5, committed_after_recovery c6 r3 hY.pre.committed⟩

/-! ## named readings of the invariants for a fixed leader (`c2 = L`) and for two different leaders (`c2 ≠ L`)

What `RecExact`, `RecEnd` and the `PropInv` of `recEnd_phaseA` say in the two cases, written out as structures.  No proof uses them
and no lemma relates them to the invariants above. -/

/-- `RecExact` at `c2 = L`: the leader's `SyncM`, `lastProposed` and own vote read as `SyncL`; no vote in flight -/
structure RecX (C : SysCfg) (L : Nat) (D : RecData) (s0 : Nat → RState) (N : Nat) (rec : Nat → List Nat)
    (x : SysState × Msgs) : Prop where
  before : (rec L).length + 1 < (C.rcfg 0).cfg.quorum → ∀ m ∈ x.2, isProp m = false
  after : (C.rcfg 0).cfg.quorum ≤ (rec L).length + 1 → ∃ (i : Nat) (b' : Block) (sL : RState) (sgL : Sig),
    i ∈ C.honest ∧ Top C D i ∧ b'.hash = pname (D.v + 1) ∧ b'.parent = b'.qc.hash ∧ b'.view = D.v + 1 ∧
    b'.qc = D.hq i ∧ b'.proposer = L ∧ x.1.reps.lookup L = some sL ∧
    SyncL (C.rcfg L) (D.v + 1) (N + 2) b' (D.hb i) [(L, sgL)] { sL with truth := x.1.truth, nextBytes := x.1.nextBytes } ∧
    WalkZ b' sL ∧ sL.timeouts = [] ∧ StoreLe (s0 L).chain.blocks sL.chain.blocks ∧
    (∀ m ∈ x.2, isProp m = true → ∃ j, m = propMsg L b' j) ∧ (∀ j ∈ C.honest, j ≠ L → propMsg L b' j ∈ x.2)



/-- `RecExact` at `c2 ≠ L`: the one vote in flight is the leader's -/
structure RecXR (C : SysCfg) (L c2 : Nat) (D : RecData) (s0 : Nat → RState) (N : Nat) (rec : Nat → List Nat)
    (x : SysState × Msgs) : Prop where
  before : (rec L).length + 1 < (C.rcfg 0).cfg.quorum → ∀ m ∈ x.2, isProp m = false ∧ isVoteEv m = false
  after : (C.rcfg 0).cfg.quorum ≤ (rec L).length + 1 → ∃ (i : Nat) (b' : Block) (sL : RState) (bytes' : Nat),
    i ∈ C.honest ∧ Top C D i ∧ b'.hash = pname (D.v + 1) ∧ b'.parent = b'.qc.hash ∧ b'.view = D.v + 1 ∧
    b'.qc = D.hq i ∧ b'.proposer = L ∧ x.1.reps.lookup L = some sL ∧
    SyncM (D.v + 1) (N + 2) b' (D.hb i) sL ∧
    WalkZ b' sL ∧ sL.timeouts = [] ∧ StoreLe (s0 L).chain.blocks sL.chain.blocks ∧
    x.1.truth.lookup bytes' = some ⟨L, blkMsg b'.hash⟩ ∧
    (∀ m ∈ x.2, isProp m = true → ∃ j, m = propMsg L b' j) ∧ (∀ j ∈ C.honest, j ≠ L → propMsg L b' j ∈ x.2) ∧
    (∀ m ∈ x.2, isVoteEv m = true → m = ownVoteMsg C c2 L b'.hash bytes') ∧ ownVoteMsg C c2 L b'.hash bytes' ∈ x.2

/-- `RecEnd` at `c2 = L`, `M = (· = L)` -/
structure RecDone (k : Keys) (C : SysCfg) (L : Nat) (D : RecData) (N : Nat) (i : Nat) (b' : Block) (σ1 : SysState) : Prop where
  fresh : FreshL σ1.truth σ1.nextBytes
  keys : σ1.reps.map (·.1) = C.honest
  blk : b'.hash = pname (D.v + 1) ∧ b'.parent = b'.qc.hash ∧ b'.view = D.v + 1
  leader : ∃ sL sgL, σ1.reps.lookup L = some sL ∧
    SyncL (C.rcfg L) (D.v + 1) (N + 2) b' (D.hb i) [(L, sgL)] { sL with truth := σ1.truth, nextBytes := σ1.nextBytes } ∧
    WalkZ b' sL
  others : ∀ j ∈ C.honest, j ≠ L → ∃ s, σ1.reps.lookup j = some s ∧
    NLReady k (C.rcfg j) D.v N (D.hb i) b' { s with truth := σ1.truth, nextBytes := σ1.nextBytes }

/-- `RecEnd` at `c2 ≠ L` with every participant in `M` -/
structure RecDoneRot (k : Keys) (C : SysCfg) (L : Nat) (D : RecData) (N : Nat) (i : Nat) (b' : Block) (bytes' : Nat)
    (σ1 : SysState) : Prop where
  fresh : FreshL σ1.truth σ1.nextBytes
  keys : σ1.reps.map (·.1) = C.honest
  blk : b'.hash = pname (D.v + 1) ∧ b'.parent = b'.qc.hash ∧ b'.view = D.v + 1
  leader : ∃ sL, σ1.reps.lookup L = some sL ∧ SyncM (D.v + 1) (N + 2) b' (D.hb i) sL ∧ WalkZ b' sL
  lbytes : σ1.truth.lookup bytes' = some ⟨L, blkMsg b'.hash⟩
  others : ∀ j ∈ C.honest, j ≠ L → ∃ s, σ1.reps.lookup j = some s ∧
    NLReady k (C.rcfg j) D.v N (D.hb i) b' { s with truth := σ1.truth, nextBytes := σ1.nextBytes } ∧
    markWalk (s.chain.fuel + 1) s.chain.blocks s.lastProposed (D.hb i) = true ∧ b'.qc.view = (D.hb i).view

/-- `PropInv` of `recEnd_phaseA` at `c2 = L`, `M = (· = L)`: the pool is the votes of `done` -/
structure PAInv (C : SysCfg) (L : Nat) (D : RecData) (N i : Nat) (b' : Block) (σ1 : SysState) (bt' : Nat → Nat)
    (done : List Nat) (x : SysState × Msgs) : Prop where
  fresh : FreshL x.1.truth x.1.nextBytes
  keys : x.1.reps.map (·.1) = C.honest
  table : ∀ b a, σ1.truth.lookup b = some a → x.1.truth.lookup b = some a
  leader : x.1.reps.lookup L = σ1.reps.lookup L
  undone : ∀ j, j ≠ L → j ∉ done → x.1.reps.lookup j = σ1.reps.lookup j
  did : ∀ j ∈ done, ∃ s, x.1.reps.lookup j = some s ∧ SyncR (D.v + 1) (N + 2) b' (D.hb i) s ∧ WalkZ b' s ∧
    x.1.truth.lookup (bt' j) = some ⟨j, blkMsg b'.hash⟩
  pool : x.2 = done.map (voteMsg C L b'.hash bt')

/-- who has a vote for `B'` in flight to `c2` during the proposal round: the proposer `c` (if it is not `c2`), and the replicas
`done` other than `c2`; used by `PAInvR` only -/
def VotedR (c c2 : Nat) (done : List Nat) (j : Nat) : Prop := (j = c ∧ c ≠ c2) ∨ (j ∈ done ∧ j ≠ c2)

/-- `PropInv` of `recEnd_phaseA` at `c2 ≠ L` with every participant in `M`, the pool read through `find?` -/
structure PAInvR (C : SysCfg) (L c2 : Nat) (D : RecData) (N i : Nat) (b' : Block) (σ1 : SysState) (bt' : Nat → Nat)
    (done : List Nat) (x : SysState × Msgs) : Prop where
  fresh : FreshL x.1.truth x.1.nextBytes
  keys : x.1.reps.map (·.1) = C.honest
  table : ∀ b a, σ1.truth.lookup b = some a → x.1.truth.lookup b = some a
  leader : x.1.reps.lookup L = σ1.reps.lookup L
  undone : ∀ j, j ≠ L → j ∉ done → x.1.reps.lookup j = σ1.reps.lookup j
  did : ∀ j ∈ done, ∃ s, x.1.reps.lookup j = some s ∧ SyncM (D.v + 1) (N + 2) b' (D.hb i) s ∧ WalkZ b' s ∧
    (j ≠ c2 → x.1.truth.lookup (bt' j) = some ⟨j, blkMsg b'.hash⟩) ∧
    (j = c2 → ∃ sg, s.votes.lookup b'.hash = some [(c2, sg)] ∧
      HonestSig (fun b => x.1.truth.lookup b) (C.rcfg c2).cfg c2 (blkMsg b'.hash) sg)
  btc : x.1.truth.lookup (bt' L) = some ⟨L, blkMsg b'.hash⟩
  flyd : ∀ j, VotedR L c2 done j → x.2.find? (fromVote j) = some (voteMsg C c2 b'.hash bt' j)
  flyn : ∀ j, ¬ VotedR L c2 done j → x.2.find? (fromVote j) = none

end HsVerif.Model
