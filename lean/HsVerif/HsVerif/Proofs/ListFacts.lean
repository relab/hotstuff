/-! List facts shared by several proof files: insertion sort, for every insertion function of the shape
the model uses (put the new element in front of the first `b` with `p a b`), small facts about `Nodup`,
`getElem?` and `lookup`, and induction over a list from the back. -/
namespace HsVerif

structure IsInsert {α} (p : α → α → Prop) [DecidableRel p] (ins : α → List α → List α) : Prop where
  nil : ∀ a, ins a [] = [a]
  cons : ∀ a b l, ins a (b :: l) = if p a b then a :: b :: l else b :: ins a l

namespace IsInsert
variable {α} {p : α → α → Prop} [DecidableRel p] {ins : α → List α → List α}

theorem perm (h : IsInsert p ins) (a : α) : ∀ l, (ins a l).Perm (a :: l)
  | [] => h.nil a ▸ .refl _
  | b :: l => by
    rw [h.cons]
    split
    · exact .refl _
    · exact ((h.perm a l).cons b).trans (.swap a b l)

theorem foldr_perm (h : IsInsert p ins) : ∀ l : List α, (l.foldr ins []).Perm l
  | [] => .nil
  | a :: l => (h.perm a _).trans ((h.foldr_perm l).cons a)

theorem foldl_perm (h : IsInsert p ins) : ∀ l acc : List α, (l.foldl (fun acc a => ins a acc) acc).Perm (acc ++ l)
  | [], acc => by simp
  | a :: l, acc => (h.foldl_perm l _).trans (((h.perm a acc).append_right l).trans List.perm_middle.symm)

theorem pairwise (h : IsInsert p ins) {r : α → α → Prop} (htr : ∀ a b c, r a b → r b c → r a c)
    (hp : ∀ a b, p a b → r a b) (hn : ∀ a b, ¬ p a b → r b a) (a : α) :
    ∀ l, l.Pairwise r → (ins a l).Pairwise r
  | [], _ => h.nil a ▸ List.pairwise_singleton r a
  | b :: l, hl => by
    have ⟨hb, hl'⟩ := List.pairwise_cons.mp hl
    rw [h.cons]
    split
    · rename_i hab
      exact List.pairwise_cons.mpr ⟨fun z hz => (List.mem_cons.mp hz).elim (· ▸ hp a b hab) fun hz => htr a b z (hp a b hab) (hb z hz), hl⟩
    · rename_i hab
      refine List.pairwise_cons.mpr ⟨fun z hz => ?_, h.pairwise htr hp hn a l hl'⟩
      exact (List.mem_cons.mp ((h.perm a l).mem_iff.mp hz)).elim (· ▸ hn a b hab) (hb z)

theorem foldr_pairwise (h : IsInsert p ins) {r : α → α → Prop} (htr : ∀ a b c, r a b → r b c → r a c)
    (hp : ∀ a b, p a b → r a b) (hn : ∀ a b, ¬ p a b → r b a) : ∀ l : List α, (l.foldr ins []).Pairwise r
  | [] => .nil
  | a :: l => h.pairwise htr hp hn a _ (h.foldr_pairwise htr hp hn l)

end IsInsert

theorem nodup_map_on {α β} {f : α → β} {l : List α}
    (hinj : ∀ x ∈ l, ∀ y ∈ l, f x = f y → x = y) (h : l.Nodup) : (l.map f).Nodup :=
  List.pairwise_map.2 (h.imp_of_mem fun hx hy hne e => hne (hinj _ hx _ hy e))

theorem nodup_of_map {α β} (f : α → β) {l : List α} (h : (l.map f).Nodup) : l.Nodup :=
  (List.pairwise_map.1 h).imp fun hne e => hne (congrArg f e)

theorem nodup_snoc_map {α β} {f : α → β} {l : List α} {x : α} (h : (l.map f).Nodup) (hx : ∀ y ∈ l, f y ≠ f x) :
    ((l ++ [x]).map f).Nodup := by
  rw [List.map_append, List.nodup_append]
  refine ⟨h, by simp, fun a ha b hb e => ?_⟩
  obtain ⟨y, hy, rfl⟩ := List.mem_map.mp ha
  exact hx y hy (e.trans (by simpa using hb))

theorem eq_of_nodup_map {α β} (f : α → β) {l : List α} (hn : (l.map f).Nodup) {x y : α} (hx : x ∈ l) (hy : y ∈ l)
    (h : f x = f y) : x = y :=
  have hp := List.pairwise_map.mp hn
  List.Pairwise.forall_of_forall_of_flip (R := fun a b => f a = f b → a = b) (fun _ _ _ => rfl)
    (hp.imp fun hne e => absurd e hne) (hp.imp fun hne e => absurd e.symm hne) hx hy h

theorem split_at_index {α} (l : List α) (j : Nat) (a : α) (h : l[j]? = some a) :
    l = l.take j ++ a :: l.drop (j + 1) := by
  obtain ⟨hj, ha⟩ := List.getElem?_eq_some_iff.mp h
  rw [← ha, ← List.drop_eq_getElem_cons hj, List.take_append_drop]

theorem mem_take_of_index {α} (l : List α) (i j : Nat) (a : α) (hij : i < j) (h : l[i]? = some a) :
    a ∈ l.take j := by
  have : (l.take j)[i]? = some a := by rw [List.getElem?_take_of_lt hij]; exact h
  exact List.mem_of_getElem? this

theorem nodup_length_le (l : List Nat) : ∀ (l' : List Nat), l.Nodup → (∀ x ∈ l, x ∈ l') → l.length ≤ l'.length := by
  induction l with
  | nil => intro l' _ _; simp
  | cons a rest ih =>
    intro l' hn hs
    rw [List.nodup_cons] at hn
    have ha : a ∈ l' := hs a (by simp)
    have := ih (l'.erase a) hn.2 (by
      intro x hx
      have hxa : x ≠ a := fun e => hn.1 (e ▸ hx)
      exact (List.mem_erase_of_ne hxa).mpr (hs x (by simp [hx])))
    rw [List.length_erase_of_mem ha] at this
    have hpos : 0 < l'.length := List.length_pos_of_mem ha
    simp only [List.length_cons]
    omega

theorem mem_of_lookup {α β} [BEq α] [LawfulBEq α] (l : List (α × β)) (i : α) (v : β) (h : l.lookup i = some v) :
    (i, v) ∈ l := by
  obtain ⟨l1, l2, rfl, _⟩ := List.lookup_eq_some_iff.mp h
  simp

theorem all_of_lookup {α β} [BEq α] [LawfulBEq α] {l : List (α × β)} {p : α × β → Bool} {i : α} {v : β}
    (h : l.all p = true) (hl : l.lookup i = some v) : p (i, v) = true :=
  List.all_eq_true.mp h _ (mem_of_lookup l i v hl)

theorem snoc_induction {α} (P : List α → Prop) (h0 : P []) (hs : ∀ l a, P l → P (l ++ [a])) : ∀ l, P l := by
  have : ∀ n (l : List α), l.length = n → P l := by
    intro n
    induction n with
    | zero => intro l hl; rw [List.length_eq_zero_iff.mp hl]; exact h0
    | succ n ih =>
      intro l hl
      rcases List.eq_nil_or_concat l with rfl | ⟨l', a, rfl⟩
      · exact h0
      · rw [List.concat_eq_append] at hl ⊢
        exact hs l' a (ih l' (by simpa using hl))
  exact fun l => this _ l rfl

end HsVerif
