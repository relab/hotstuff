import HsVerif.Proofs.Cert
/-! Completeness half of C02: certificates honestly assembled with `Combine` verify.  `combine_bls` / `combine_multi` say
what `Combine` returns on signatures with jointly distinct signers; the rest are their instances for one signer each. -/
namespace HsVerif.Model
open Bitfield

/-- what `Sign` of replica `i` over `m` returns under configuration `c` -/
def HonestSig (T : Truth) (c : Cfg) (i : Nat) (m : Msg) (s : Sig) : Prop :=
  (c.scheme ≠ .bls12 ∧ ∃ b, s = .multi c.scheme [⟨i, b⟩] ∧ T b = some ⟨i, m⟩) ∨
  (c.scheme = .bls12 ∧ s = blsSign i m)

/-- a valid signature of exactly replica `i` over `m`, in the shape the verifier accepts: one
genuine entry attributed to `i` (ECDSA/EdDSA), or the single atom with a bit-field whose only
member is `i` (BLS; the bit-field's byte length is immaterial) -/
def SingleSig (T : Truth) (c : Cfg) (i : Nat) (m : Msg) (s : Sig) (bits : Bitfield) : Prop :=
  (c.scheme ≠ .bls12 ∧ ∃ b, s = .multi c.scheme [⟨i, b⟩] ∧ T b = some ⟨i, m⟩) ∨
  (c.scheme = .bls12 ∧ s = .bls [⟨i, m⟩] [] bits ∧ bits.ids = [i])

theorem Cfg.one_le_of_has {c : Cfg} {i : Nat} (h : c.has i = true) : 1 ≤ i := by
  simp only [Cfg.has, Bool.and_eq_true, decide_eq_true_eq] at h; exact h.1

theorem ids_single (i : Nat) (hi : 1 ≤ i) : (Bitfield.empty.add i).ids = [i] := by
  have := ids_add_perm Bitfield.empty i hi
  rw [bitAt_false_of_ge _ _ (Nat.zero_le _)] at this
  exact List.perm_singleton.mp this

theorem blsCombineOne_complete : ∀ (xs : List Nat) (acc : Bitfield), (∀ x ∈ xs, 1 ≤ x) → xs.Nodup →
    (∀ x ∈ xs, x ∉ acc.ids) → ∃ r, blsCombineOne acc xs = some r
  | [], acc, _, _, _ => ⟨acc, rfl⟩
  | x :: xs, acc, h1, hn, hd => by
    have hx1 : 1 ≤ x := h1 x (by simp)
    have hc : acc.contains x = false := by simpa [contains_eq acc x hx1] using hd x (by simp)
    have hn' := List.nodup_cons.mp hn
    rw [blsCombineOne, hc]
    refine blsCombineOne_complete xs (acc.add x) (fun y hy => h1 y (by simp [hy])) hn'.2 fun y hy => ?_
    rw [mem_ids_add _ _ _ hx1]
    rintro (rfl | h)
    · exact hn'.1 hy
    · exact hd y (by simp [hy]) h

theorem blsCombineAux_complete : ∀ (bs : List Bitfield) (acc : Bitfield), Inv acc →
    (acc.ids ++ bs.flatMap (·.ids)).Nodup → ∃ r, blsCombineAux acc bs = some r
  | [], acc, _, _ => ⟨acc, rfl⟩
  | b :: bs, acc, hi, hn => by
    rw [List.flatMap_cons, ← List.append_assoc] at hn
    have hab := List.nodup_append.mp (List.nodup_append.mp hn).1
    obtain ⟨r1, hr1⟩ := blsCombineOne_complete b.ids acc (ids_ge_one b) (ids_nodup b) fun x hx ha => hab.2.2 x ha x hx rfl
    obtain ⟨hi1, hm1⟩ := blsCombineOne_spec _ _ _ hr1 hi (ids_ge_one b)
    have hp : r1.ids.Perm (acc.ids ++ b.ids) :=
      (List.perm_ext_iff_of_nodup (ids_nodup _) (List.nodup_append.mp hn).1).mpr fun j => by rw [hm1, List.mem_append]
    obtain ⟨r, hr⟩ := blsCombineAux_complete bs r1 hi1 ((hp.append_right _).nodup_iff.mpr hn)
    exact ⟨r, by simp [blsCombineAux, hr1, hr]⟩

theorem allBls_map {α} (l : List α) (fa : α → List Atom) (fj : α → List Nat) (g : α → Bitfield) :
    allBls (l.map fun x => Sig.bls (fa x) (fj x) (g x)) = some (l.map fun x => (fa x, fj x, g x)) := by
  induction l with
  | nil => rfl
  | cons x xs ih => simp only [List.map_cons, allBls, ih, Option.map_some]

theorem combine_bls {α} (c : Cfg) (hb : c.scheme = .bls12) (l : List α)
    (fa : α → List Atom) (fj : α → List Nat) (g : α → Bitfield) (h2 : 2 ≤ l.length)
    (hn : (l.flatMap fun x => (g x).ids).Nodup) :
    ∃ bits, combine c (l.map fun x => .bls (fa x) (fj x) (g x)) = .ok (.bls (l.flatMap fa) (l.flatMap fj) bits) ∧
      Inv bits ∧ bits.ids.Perm (l.flatMap fun x => (g x).ids) := by
  obtain ⟨bits, hbits⟩ := blsCombineAux_complete (l.map g) Bitfield.empty inv_empty
    (by simpa [List.flatMap_map] using hn)
  obtain ⟨hinv, hmem⟩ := blsCombineAux_spec _ _ _ hbits inv_empty
  refine ⟨bits, ?_, hinv, (List.perm_ext_iff_of_nodup (ids_nodup _) hn).mpr fun j => ?_⟩
  · have : ¬ l.length < 2 := by omega
    simp [combine, this, hb, allBls_map, Function.comp_def, hbits, List.flatMap_map]
  · simp only [hmem, ids_empty, List.not_mem_nil, false_or, List.mem_flatMap, List.mem_map]
    exact ⟨fun ⟨_, ⟨a, ha, e⟩, h⟩ => ⟨a, ha, e ▸ h⟩, fun ⟨a, ha, h⟩ => ⟨_, ⟨a, ha, rfl⟩, h⟩⟩

theorem combine_bls_singles {α} (c : Cfg) (hb : c.scheme = .bls12) (idOf : α → Nat) (l : List α)
    (fa : α → List Atom) (fj : α → List Nat) (g : α → Bitfield)
    (hn : (l.map idOf).Nodup) (h2 : 2 ≤ l.length) (hg : ∀ x ∈ l, (g x).ids = [idOf x]) :
    ∃ bits, combine c (l.map fun x => .bls (fa x) (fj x) (g x)) = .ok (.bls (l.flatMap fa) (l.flatMap fj) bits) ∧
      Inv bits ∧ bits.ids.Perm (l.map idOf) := by
  have e : (l.flatMap fun x => (g x).ids) = l.map idOf := by
    rw [List.flatMap_def, List.map_congr_left hg, ← List.flatMap_def, ← List.map_eq_flatMap]
  exact e ▸ combine_bls c hb l fa fj g h2 (e ▸ hn)

theorem multiAppendE_complete : ∀ (s acc : List Entry), ((acc ++ s).map (·.claimed)).Nodup →
    multiAppendE acc s = some (acc ++ s)
  | [], acc, _ => by simp [multiAppendE]
  | e :: es, acc, hn => by
    have hne : e.claimed ∉ acc.map (·.claimed) := fun hm => by
      rw [List.map_append, List.nodup_append] at hn
      exact hn.2.2 _ hm _ (by simp) rfl
    have := multiAppendE_complete es (acc ++ [e]) (by simpa using hn)
    simpa [multiAppendE, hne] using this

theorem multiCombineE_complete : ∀ (ss : List (List Entry)) (acc : List Entry),
    ((acc ++ ss.flatten).map (·.claimed)).Nodup → multiCombineE acc ss = some (acc ++ ss.flatten)
  | [], acc, _ => by simp [multiCombineE]
  | s :: ss, acc, hn => by
    rw [List.flatten_cons, ← List.append_assoc] at hn
    have h1 := multiAppendE_complete s acc (by rw [List.map_append] at hn; exact (List.nodup_append.mp hn).1)
    rw [multiCombineE, h1]
    simpa using multiCombineE_complete ss (acc ++ s) hn

theorem allMulti_map {α} (k : Scheme) (l : List α) (f : α → List Entry) :
    allMulti k (l.map fun x => Sig.multi k (f x)) = some (l.map f) := by
  induction l with
  | nil => rfl
  | cons x xs ih => simp [allMulti, ih]

theorem combine_multi {α} (c : Cfg) (hb : c.scheme ≠ .bls12) (l : List α) (f : α → List Entry) (h2 : 2 ≤ l.length)
    (hn : ((l.flatMap f).map (·.claimed)).Nodup) :
    combine c (l.map fun x => .multi c.scheme (f x)) = .ok (.multi c.scheme (l.flatMap f)) := by
  have : ¬ l.length < 2 := by omega
  have hcomb := multiCombineE_complete (l.map f) [] (by simpa [List.flatMap_def] using hn)
  unfold combine
  cases hk : c.scheme with
  | bls12 => exact absurd hk hb
  | ecdsa => simp [this, allMulti_map, hcomb, List.flatMap_def]
  | eddsa => simp [this, allMulti_map, hcomb, List.flatMap_def]

theorem combine_multi_singles {α} (c : Cfg) (hb : c.scheme ≠ .bls12) (l : List α) (e : α → Entry)
    (hn : (l.map fun x => (e x).claimed).Nodup) (h2 : 2 ≤ l.length) :
    combine c (l.map fun x => .multi c.scheme [e x]) = .ok (.multi c.scheme (l.map e)) := by
  have h := combine_multi c hb l (fun x => [e x]) h2 (by rwa [← List.map_eq_flatMap, List.map_map])
  rwa [← List.map_eq_flatMap] at h

theorem choose_on {α β} (d : β) {l : List α} {p : α → β → Prop} (h : ∀ a ∈ l, ∃ b, p a b) :
    ∃ g : α → β, ∀ a ∈ l, p a (g a) :=
  have : ∀ a, ∃ b, a ∈ l → p a b := fun a =>
    (Classical.em (a ∈ l)).elim (fun ha => (h a ha).imp fun _ hb _ => hb) fun ha => ⟨d, fun h => absurd h ha⟩
  Classical.skolem.mp this

theorem distinctCount_nodup {l : List Msg} (h : l.Nodup) : distinctCount l = l.length := by
  induction l with
  | nil => rfl
  | cons x xs ih =>
    rw [List.nodup_cons] at h
    simp [distinctCount, ih h.2, h.1]

theorem lookup_keyed {α} (idOf : α → Nat) (msg : α → Msg) : ∀ (l : List α), (l.map idOf).Nodup →
    ∀ x ∈ l, (l.map fun y => (idOf y, msg y)).lookup (idOf x) = some (msg x)
  | y :: ys, hn, x, hx => by
    rw [List.map_cons, List.nodup_cons] at hn
    rcases List.mem_cons.mp hx with rfl | hx
    · simp
    · have : (idOf x == idOf y) = false := beq_eq_false_iff_ne.mpr fun e => hn.1 (e ▸ List.mem_map_of_mem hx)
      simpa [List.lookup_cons, this] using lookup_keyed idOf msg ys hn.2 x hx

theorem filterMap_congr_mem {α β} (f g : α → Option β) (l : List α) (h : ∀ x ∈ l, f x = g x) :
    l.filterMap f = l.filterMap g := by
  induction l with
  | nil => rfl
  | cons x xs ih =>
    rw [List.filterMap_cons, List.filterMap_cons, h x (by simp), ih (fun y hy => h y (by simp [hy]))]

theorem combine_singles {α} (T : Truth) (c : Cfg) (idOf : α → Nat) (msg : α → Msg) (f : α → Sig) (l : List α)
    (hn : (l.map idOf).Nodup) (hh : ∀ x ∈ l, c.has (idOf x) = true) (h2 : 2 ≤ l.length)
    (hs : ∀ x ∈ l, ∃ bits, SingleSig T c (idOf x) (msg x) (f x) bits) :
    ∃ s, combine c (l.map f) = .ok s ∧ s.len = l.length ∧ s.WF ∧
      (∀ j, j ∈ s.participants ↔ j ∈ l.map idOf) ∧
      (∀ m, (∀ x ∈ l, msg x = m) → verify T c s m = true) ∧
      ((l.map msg).Nodup → batchVerify T c s (l.map fun x => (idOf x, msg x)) = true) := by
  have hne : l ≠ [] := by rintro rfl; simp at h2
  by_cases hb : c.scheme = .bls12
  · obtain ⟨g, hg⟩ := choose_on Bitfield.empty fun x hx =>
      (hs x hx).imp fun bits h => (h.resolve_left fun h' => h'.1 hb).2
    obtain ⟨bits, hc, hinv, hp⟩ := combine_bls_singles c hb idOf l (fun x => [⟨idOf x, msg x⟩]) (fun _ => []) g hn
      h2 (fun x hx => (hg x hx).2)
    simp only [← List.map_eq_flatMap, List.flatMap_eq_nil_iff.mpr fun _ _ => rfl] at hc
    have hl : bits.len = l.length := by rw [hinv, hp.length_eq, List.length_map]
    refine ⟨.bls (l.map fun x => ⟨idOf x, msg x⟩) [] bits, (List.map_congr_left fun x hx => (hg x hx).1) ▸ hc,
      hl, hinv, fun j => hp.mem_iff, fun m hm => ?_, fun hmn => ?_⟩
    · refine (verify_bls _ _ _ _ _ _ hinv).mpr ⟨hb, fun h => hne ?_, fun i hi => ?_, rfl, ?_⟩
      · exact List.map_eq_nil_iff.mp (h ▸ hp.symm).eq_nil
      · obtain ⟨x, hx, rfl⟩ := List.mem_map.mp (hp.mem_iff.mp hi)
        exact hh x hx
      · rw [List.map_congr_left fun x hx => show (⟨idOf x, msg x⟩ : Atom) = ⟨idOf x, m⟩ by rw [hm x hx]]
        exact ((hp.map _).trans (by rw [List.map_map]; rfl)).symm
    · refine (batchVerify_bls _ _ _ _ _ _).mpr
        ⟨hb, by simpa using hl, by simpa using hh, fun _ => ?_, rfl, by simp [Function.comp_def]⟩
      simpa [Function.comp_def, distinctCount_nodup hmn] using Nat.le_of_succ_le h2
  · obtain ⟨β, hβ⟩ := choose_on 0 fun x hx => (hs x hx).elim fun _ h => (h.resolve_right fun h' => hb h'.1).2
    have hes : (l.map fun x => (⟨idOf x, β x⟩ : Entry)).map (·.claimed) = l.map idOf := by simp [Function.comp_def]
    have hall : ∀ e ∈ l.map fun x => (⟨idOf x, β x⟩ : Entry), ∃ x ∈ l, e.claimed = idOf x ∧
        c.has e.claimed = true ∧ T e.bytes = some ⟨e.claimed, msg x⟩ := fun e he => by
      obtain ⟨x, hx, rfl⟩ := List.mem_map.mp he
      exact ⟨x, hx, rfl, hh x hx, (hβ x hx).2⟩
    have hnd : ((l.map fun x => (⟨idOf x, β x⟩ : Entry)).map (·.claimed)).Nodup := by rw [hes]; exact hn
    have hc := combine_multi_singles c hb l (fun x => ⟨idOf x, β x⟩) hn h2
    refine ⟨.multi c.scheme (l.map fun x => ⟨idOf x, β x⟩), (List.map_congr_left fun x hx => (hβ x hx).1) ▸ hc,
      by simp [Sig.len], trivial, by simp [Sig.participants, hes], fun m hm => ?_, fun hmn => ?_⟩
    · refine (verify_multi _ _ _ _ _).mpr ⟨rfl, hb, by simpa using hne, hnd, fun e he => ?_⟩
      obtain ⟨x, hx, _, h⟩ := hall e he
      exact hm x hx ▸ h
    · refine (batchVerify_multi _ _ _ _ _).mpr ⟨rfl, hb, by simpa using hne, hnd, fun e he => ?_, ?_⟩
      · obtain ⟨x, hx, he, h⟩ := hall e he
        exact ⟨_, he ▸ lookup_keyed idOf msg l hn x hx, h⟩
      · have : (l.map fun x => (⟨idOf x, β x⟩ : Entry)).filterMap
            (fun e => (l.map fun x => (idOf x, msg x)).lookup e.claimed) = l.map msg := by
          rw [List.filterMap_map]
          exact (filterMap_congr_mem _ _ _ (lookup_keyed idOf msg l hn)).trans (congrFun List.filterMap_eq_map' _)
        rw [this, distinctCount_nodup hmn]
        simp

theorem combine_single_verifies (T : Truth) (c : Cfg) (m : Msg) (signers : List Nat) (f : Nat → Sig) (g : Nat → Bitfield)
    (hn : signers.Nodup) (hh : ∀ i ∈ signers, c.has i = true) (h2 : 2 ≤ signers.length)
    (hs : ∀ i ∈ signers, SingleSig T c i m (f i) (g i)) :
    ∃ s, combine c (signers.map f) = .ok s ∧ verify T c s m = true ∧ s.len = signers.length ∧ s.WF := by
  obtain ⟨s, hc, hl, hw, _, hv, _⟩ :=
    combine_singles T c id (fun _ => m) f signers (by simpa using hn) hh h2 fun i hi => ⟨g i, hs i hi⟩
  exact ⟨s, hc, hv m fun _ _ => rfl, hl, hw⟩

theorem HonestSig.single {T : Truth} {c : Cfg} {i : Nat} {m : Msg} {s : Sig} (h : HonestSig T c i m s)
    (hh : c.has i = true) : SingleSig T c i m s (Bitfield.empty.add i) :=
  h.imp id fun h => ⟨h.1, h.2, ids_single i (Cfg.one_le_of_has hh)⟩

theorem combine_honest_verifies (T : Truth) (c : Cfg) (m : Msg) (signers : List Nat) (f : Nat → Sig)
    (hn : signers.Nodup) (hh : ∀ i ∈ signers, c.has i = true) (h2 : 2 ≤ signers.length)
    (hs : ∀ i ∈ signers, HonestSig T c i m (f i)) :
    ∃ s, combine c (signers.map f) = .ok s ∧ verify T c s m = true ∧ s.len = signers.length ∧ s.WF :=
  combine_single_verifies T c m signers f (fun i => Bitfield.empty.add i) hn hh h2 fun i hi => (hs i hi).single (hh i hi)

theorem single_of_verify (T : Truth) (c : Cfg) (i : Nat) (m : Msg) (s : Sig)
    (hw : s.WF) (hl : s.len = 1) (hp : s.participants = [i]) (hv : verify T c s m = true) :
    ∃ bits, SingleSig T c i m s bits := by
  cases s with
  | multi k es =>
    obtain ⟨rfl, hnb, _, _, hall⟩ := (verify_multi T c k es m).mp hv
    obtain ⟨e, rfl, rfl⟩ := List.map_eq_singleton_iff.mp hp
    exact ⟨Bitfield.empty, Or.inl ⟨hnb, e.bytes, rfl, (hall e (by simp)).2⟩⟩
  | bls a j bits =>
    obtain ⟨hsch, _, _, rfl, ha⟩ := (verify_bls T c a j bits m hw).mp hv
    rw [show bits.ids = [i] from hp] at ha
    exact ⟨bits, Or.inr ⟨hsch, by rw [List.perm_singleton.mp ha], hp⟩⟩

end HsVerif.Model
