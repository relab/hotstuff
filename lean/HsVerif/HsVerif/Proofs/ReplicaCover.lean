import HsVerif.Proofs.ReplicaInert
import HsVerif.Proofs.ReplicaLockInv
/-!
C05, replica level: THE HIGH QC COVERS THE VOTES (`HC`), through every handler; the system-level consequences are in
Proofs/SysCover.lean.  `Dead k c q s`: `q` is rejected by the pure verifier in `s` and in every state that differs from `s`
by fetched blocks only — what `verifyQCM` leaves behind when it answers `false`.  It is needed because `onPropose` hands the
proposal's certificate to `advanceView` (`UpdateHighQC`) and only then runs `voterVerify`, each with its own verification,
with only fetches in between: rejected in `advanceView` ⇒ rejected in `voterVerify`.  `HCov` is stated on the VIEW FIELD
of the certificates: `UpdateHighQC` compares the view of the STORED block of the new certificate with the view field of the
current high QC, and the two agree for a verified certificate (genesis must be stored for the genesis certificate, hence
`Grows G0` in `HC`).
-/
open Std.Do
set_option mvcgen.warning false
namespace HsVerif.Model
open HsVerif.Proofs

def Dead (k : Keys) (c : RCfg) (q : QC) (s : RState) : Prop :=
  ∀ s' : RState, s'.truth = s.truth → Grows s.chain.blocks s' → (Absent q.hash s → Absent q.hash s') →
    verifyQC (env k c s') q = false

theorem dead_now (k : Keys) (c : RCfg) (q : QC) (s : RState) (h : Dead k c q s) : verifyQC (env k c s) q = false :=
  h s rfl (fun _ _ h => h) (fun h => h)

theorem dead_mono (k : Keys) (c : RCfg) (q : QC) (s s1 : RState) (ht : s1.truth = s.truth)
    (hg : Grows s.chain.blocks s1) (ha : Absent q.hash s → Absent q.hash s1) (h : Dead k c q s) : Dead k c q s1 := by
  intro s' ht' hg' ha'
  exact h s' (ht'.trans ht) (grows_trans hg hg') (fun h0 => ha' (ha h0))

theorem dead_frame {α} (k : Keys) (c : RCfg) (q : QC) (f : M α) (hs : StepsOf [.chain] f)
    (hab : ∀ x, ⦃fun s => ⌜Absent x s⌝⦄ f ⦃⇓ _ s => ⌜Absent x s⌝⦄) :
    ⦃fun s => ⌜Dead k c q s⌝⦄ f ⦃⇓ _ s => ⌜Dead k c q s⌝⦄ :=
  triple_of_run _ _ _ fun s hd =>
    dead_mono k c q s _ (hs s).truth_eq (hs s).chainGrows (fun ha => run_res_of_triple f _ _ (hab q.hash) s ha) hd

theorem verifyQC_false_of_lookup_none (k : Keys) (c : RCfg) (q : QC) (s : RState) (hg : q.hash ≠ genesisHash)
    (h : s.chain.blocks.lookup q.hash = none) : verifyQC (env k c s) q = false := by
  unfold verifyQC
  have : (q.hash == genesisHash) = false := by simpa using hg
  rw [this]
  simp only [Bool.false_eq_true, ↓reduceIte]
  split
  · rfl
  · split
    · rfl
    · simp [CertEnv.get, env, h]

theorem verifyQC_congr (k : Keys) (c : RCfg) (q : QC) (s s' : RState) (ht : s'.truth = s.truth)
    (hl : s'.chain.blocks.lookup q.hash = s.chain.blocks.lookup q.hash) :
    verifyQC (env k c s') q = verifyQC (env k c s) q := by
  unfold verifyQC
  simp only [CertEnv.get, env, ht, hl]
  rfl

theorem dead_of_false (k : Keys) (c : RCfg) (q : QC) (s : RState) (hv : verifyQC (env k c s) q = false)
    (hs : q.hash = genesisHash ∨ (∃ b, s.chain.blocks.lookup q.hash = some b) ∨ Absent q.hash s ∨
      q.sig = none ∨ ∃ sg, q.sig = some sg ∧ sg.len < c.cfg.quorum) : Dead k c q s := by
  intro s' ht hg ha
  rcases hs with h | ⟨b, hb⟩ | h | h | ⟨sg, h1, h2⟩
  · rw [← hv]; unfold verifyQC; simp [h]
  · rw [← hv]; exact verifyQC_congr k c q s s' ht (by rw [hb, hg _ _ hb])
  · by_cases hgen : q.hash = genesisHash
    · rw [← hv]; unfold verifyQC; simp [hgen]
    · exact verifyQC_false_of_lookup_none k c q s' hgen (ha h).1
  · unfold verifyQC at hv ⊢; simp only [h] at hv ⊢; exact hv
  · unfold verifyQC at hv ⊢
    simp only [h1] at hv ⊢
    have : sg.len < (env k c s').cfg.quorum := h2
    have h2' : sg.len < (env k c s).cfg.quorum := h2
    simp only [this, h2', ↓reduceIte] at hv ⊢
    exact hv

theorem get_stored_or_absent (c : RChain) (h : Hash) :
    (∃ b, (c.get h).1.blocks.lookup h = some b) ∨ ChainAbsent h (c.get h).1 := by
  cases hr : (c.get h).2 with
  | some b => exact Or.inl ⟨b, get_snd_some c h b hr⟩
  | none => exact Or.inr (get_snd_none c h hr)

theorem verifyQCM_false_dead (k : Keys) (c : RCfg) (q : QC) :
    ⦃fun _ => ⌜True⌝⦄ verifyQCM k c q ⦃⇓ r s => ⌜r = false → Dead k c q s⌝⦄ :=
  triple_of_run _ _ _ fun s _ => by
    rw [verifyQCM_run]
    intro hv
    refine dead_of_false k c q _ hv ?_
    rcases fetchedS_cases c q s with ⟨_, hg | hn | hl⟩ | ⟨_, _, _, _, e⟩
    · exact Or.inl hg
    · exact Or.inr (Or.inr (Or.inr (Or.inl hn)))
    · exact Or.inr (Or.inr (Or.inr (Or.inr hl)))
    · -- the block has been looked up: it is stored now, or it is neither stored nor fetchable
      rw [e]
      rcases get_stored_or_absent s.chain q.hash with h | h
      · exact Or.inr (Or.inl h)
      · exact Or.inr (Or.inr (Or.inl h))

theorem extendsM_ab (b t : Block) (x : Hash) :
    ⦃fun s => ⌜Absent x s⌝⦄ extendsM b t ⦃⇓ _ s => ⌜Absent x s⌝⦄ := by
  mvcgen [extendsM]
  all_goals (try intros)
  all_goals (try simp +zetaDelta [Absent] at *)
  all_goals (first | (apply chainAbsent_extends; assumption) | skip)

theorem voteRule_ab (c : RCfg) (v : Nat) (b : Block) (agg : Option AggQC) (x : Hash) :
    ⦃fun s => ⌜Absent x s⌝⦄ voteRule c v b agg ⦃⇓ _ s => ⌜Absent x s⌝⦄ := by
  mvcgen [voteRule, getBlock_ab, extendsM_ab]

section DeadChain
variable (k : Keys) (c : RCfg) (q : QC)

theorem voteRule_dead (v : Nat) (b : Block) (agg : Option AggQC) :
    ⦃fun s => ⌜Dead k c q s⌝⦄ voteRule c v b agg ⦃⇓ _ s => ⌜Dead k c q s⌝⦄ :=
  dead_frame k c q _ (voteRule_steps c v b agg) (voteRule_ab c v b agg)

theorem verifyAggM_dead (a : AggQC) :
    ⦃fun s => ⌜Dead k c q s⌝⦄ verifyAggM k c a ⦃⇓ _ s => ⌜Dead k c q s⌝⦄ :=
  dead_frame k c q _ (verifyAggM_steps k c a) (verifyAggM_ab k c a)

theorem verifyQCM_dead :
    ⦃fun s => ⌜Dead k c q s⌝⦄ verifyQCM k c q ⦃⇓ r s => ⌜Dead k c q s ∧ r = false⌝⦄ :=
  triple_of_run _ _ _ fun s hd => by
    have h1 := run_res_of_triple _ _ _ (dead_frame k c q _ (verifyQCM_steps k c q) (verifyQCM_ab k c q)) s hd
    rw [verifyQCM_run] at h1 ⊢
    exact ⟨h1, dead_now k c q _ h1⟩

theorem verifyAnyM_dead (agg : Option AggQC) :
    ⦃fun s => ⌜Dead k c q s⌝⦄ verifyAnyM k c q agg ⦃⇓ r _ => ⌜r ≠ .ok ()⌝⦄ :=
  triple_conseq (verifyAnyM_rule k c q agg (B := fun _ => False) (verifyAggM_dead k c q)
    (triple_conseq (verifyQCM_dead k c q) (fun _ h => h) fun _ _ h => ⟨h.1, fun hr => Bool.false_ne_true (h.2.symm.trans hr)⟩))
    (fun _ h => h) fun _ _ h => h.2.2

theorem voterVerify_dead (id : Nat) (b : Block) (agg : Option AggQC) :
    ⦃fun s => ⌜Dead k c b.qc s⌝⦄ voterVerify k c id b agg ⦃⇓ r _ => ⌜r ≠ .ok ()⌝⦄ :=
  voterVerify_rule_ok k c id b agg (B := fun _ => False)
    (triple_conseq (voteRule_dead k c b.qc b.view b agg) (fun _ h => h) fun _ _ h _ => h) (verifyAnyM_dead k c b.qc agg)

end DeadChain



def HCov (s : RState) : Prop := ∀ b id, GRec.vote b id ∈ s.ghost → b.qc.view ≤ s.highQC.view

def HC (s : RState) : Prop := HCov s ∧ Grows G0 s

def HCw (w : Nat) (s : RState) : Prop := (HCov s ∧ Grows G0 s) ∧ w ≤ s.highQC.view

theorem hc_mono {s s' : RState} (hg : ∀ b id, GRec.vote b id ∈ s'.ghost → GRec.vote b id ∈ s.ghost)
    (hq : s.highQC.view ≤ s'.highQC.view) (hc : Grows s.chain.blocks s') (h : HC s) : HC s' :=
  ⟨fun b id hm => Nat.le_trans (h.1 b id (hg b id hm)) hq, grows_trans h.2 hc⟩

theorem Upd.hc {t : Tag} {s s' : RState} (h : Upd t s s') (ht : t ∉ [Tag.voted, .highQC]) (hi : HC s) : HC s' :=
  hc_mono (h.votes_sub fun hm => ht (List.mem_cons.2 (Or.inl (List.mem_singleton.1 hm))))
    (Nat.le_of_eq (congrArg QC.view (h.highQC_eq fun hm => ht (List.mem_cons_of_mem _ hm)).symm)) h.chainGrows hi

/-- `Q`: what is known of the high QC — that it covers the certificate of the block in hand, or of the sync info -/
theorem Upd.hcq {Q : QC → Prop} {t : Tag} {s s' : RState} (h : Upd t s s') (ht : t ∉ [Tag.voted, .highQC])
    (hi : HC s ∧ Q s.highQC) : HC s' ∧ Q s'.highQC :=
  ⟨h.hc ht hi.1, (h.highQC_eq fun hm => ht (List.mem_cons_of_mem _ hm)).symm ▸ hi.2⟩

variable (w : Nat) in
theorem addEvent_hc (e : Ev) : ⦃fun s => ⌜HCw w s⌝⦄ addEvent e ⦃⇓ _ s => ⌜HCw w s⌝⦄ :=
  (addEventAny_steps e).preserves (upd_of_notin (Upd.hcq (Q := fun q => w ≤ q.view)) _)

theorem hc_vote (s : RState) (b : Block) (id : Nat) (h : HC s) (hb : b.qc.view ≤ s.highQC.view) :
    HC { s with lastVoted := b.view, ghost := s.ghost ++ [.vote b id] } :=
  ⟨fun b' id' hm => by
    rcases List.mem_append.1 hm with hm | hm
    · exact h.1 b' id' hm
    · cases List.mem_singleton.1 hm; exact hb, h.2⟩

theorem hc_update (s : RState) (q : QC) (nb : Block) (hnb : nb.view = q.view) (h : HC s) :
    HC { s with highQC := if nb.view ≤ s.highQC.view then s.highQC else q } := by
  refine hc_mono (s := s) (fun _ _ hm => hm) ?_ (fun _ _ h => h) h
  show s.highQC.view ≤ (if nb.view ≤ s.highQC.view then s.highQC else q).view
  split <;> omega

theorem StepsOf.hc {α} {L : List Tag} {f : M α} (h : StepsOf L f) (hL : ∀ t ∈ L, t ∉ [Tag.voted, .highQC] := by decide) :
    ⦃fun s => ⌜HC s⌝⦄ f ⦃⇓ _ s => ⌜HC s⌝⦄ :=
  h.preserves (upd_of_notin Upd.hc L hL)

section HCChain
variable (k : Keys) (c : RCfg)

theorem onValidPropose_hc (id : Nat) (b : Block) :
    ⦃fun s => ⌜HC s ∧ b.qc.view ≤ s.highQC.view⌝⦄ onValidPropose k c id b ⦃⇓ _ s => ⌜HC s⌝⦄ :=
  onValidPropose_rule k c id b
    ((tryCommit_steps c b).preserves (upd_of_notin (Upd.hcq (Q := fun q => b.qc.view ≤ q.view)) _))
    (voteFor_rule c b id ((signMsg_steps c _).preserves (upd_of_notin (Upd.hcq (Q := fun q => b.qc.view ≤ q.view)) _))
      fun s h => hc_vote s b id h.1 h.2)
    (upd_of_notin Upd.hc _)

/-- the leader proposes on the QC of the sync info it is handed, which the high QC covers: `advanceView` and `Start`
hand it the high QC itself -/
theorem createAndPropose_hc (si : SyncInfo) :
    ⦃fun s => ⌜HC s ∧ ∀ qc, si.qc = some qc → qc.view ≤ s.highQC.view⌝⦄ createAndPropose k c si ⦃⇓ _ s => ⌜HC s⌝⦄ := by
  have keep : ∀ {t s s'}, Upd t s s' → t ∉ [Tag.voted, .highQC] →
      (HC s ∧ ∀ qc, si.qc = some qc → qc.view ≤ s.highQC.view) →
      HC s' ∧ ∀ qc, si.qc = some qc → qc.view ≤ s'.highQC.view :=
    Upd.hcq (Q := fun q => ∀ qc, si.qc = some qc → qc.view ≤ q.view)
  refine triple_conseq (createAndPropose_rule_guard k c si
    (I := fun s => HC s ∧ ∀ qc, si.qc = some qc → qc.view ≤ s.highQC.view)
    (W := fun b s => b.qc.view ≤ s.highQC.view)
    (J := fun _ s => HC s ∧ ∀ qc, si.qc = some qc → qc.view ≤ s.highQC.view) ?_ ?_ ?_ (upd_of_notin keep _))
    (fun _ h => h) fun _ _ h => h.1
  · exact fun b agg => triple_of_run _ _ _ fun s h =>
      have h' := (voterVerify_steps k c c.id b agg s).preserves (upd_of_notin keep _) h.1
      ⟨h', fun _ => h'.2 _ h.2.2⟩
  · exact fun b => triple_conseq (voteFor_rule c b c.id
      ((signMsg_steps c _).preserves (upd_of_notin
        (Upd.hcq (Q := fun q => (∀ qc, si.qc = some qc → qc.view ≤ q.view) ∧ b.qc.view ≤ q.view)) _))
      fun s h => ⟨hc_vote s b c.id h.1 h.2.2, h.2.1⟩) (fun _ h => ⟨h.1.1, h.1.2, h.2⟩) fun _ _ h => h
  · exact fun b => (tryCommit_steps c b).preserves (upd_of_notin keep _)

theorem verifySyncInfo_qc (si : SyncInfo) :
    ⦃fun _ => ⌜True⌝⦄ verifySyncInfo k c si ⦃⇓ r _ => ⌜∀ v t, r = .ok (none, v, t) → si.qc = none⌝⦄ := by
  refine triple_conseq (verifySyncInfo_keeps k c si (I := fun _ => True) (fun _ => triple_of_run _ _ _ fun _ _ => trivial)
    (fun _ => triple_of_run _ _ _ fun _ _ => trivial) (fun _ => triple_of_run _ _ _ fun _ _ => trivial))
    (fun _ h => h) fun r s ⟨_, h⟩ v t hr => ?_
  subst hr
  obtain ⟨_, ⟨_, _, _, _, _, e, _⟩ | ⟨_, _, _, _, e, _⟩ | ⟨_, e, _⟩⟩ := h.ok_cases rfl
  · cases e
  · cases e
  · exact e

theorem verifySyncInfo_hc (si : SyncInfo) :
    ⦃fun s => ⌜HC s⌝⦄ verifySyncInfo k c si
    ⦃⇓ r s => ⌜HC s ∧ (∀ q v t, r = .ok (some q, v, t) → QCBlockView q s) ∧
      (∀ v t, r = .ok (none, v, t) → si.qc = none)⌝⦄ := by
  apply triple_of_run
  intro s h
  exact ⟨(verifySyncInfo_steps k c si s).preserves (upd_of_notin Upd.hc _) h,
    (run_res_of_triple _ (fun s' => AP s' = AP s) _ (verifySyncInfo_bv k c si (AP s)) s rfl).2,
    run_res_of_triple _ (fun _ => True) _ (verifySyncInfo_qc k c si) s trivial⟩

/-- the high QC is replaced by a certificate only if that names a stored block of its view, which is higher; and the
sync info that is passed on carries the high QC, or no QC at all -/
theorem advanceView_hc (si : SyncInfo) :
    ⦃fun s => ⌜HC s⌝⦄ advanceView k c si ⦃⇓ _ s => ⌜HC s⌝⦄ := by
  refine advanceView_rule_guard k c si
    (R := fun x s => HC s ∧ (∀ q, x.1 = some q → QCBlockView q s) ∧ (x.1 = none → si.qc = none))
    (R' := fun x s => HC s ∧ (x.1 = none → si.qc = none))
    (Q' := fun si' s => HC s ∧ ∀ qc, si'.qc = some qc → qc.view ≤ s.highQC.view)
    ?_ (fun _ tc s _ h => ⟨Upd.hc (.highTC s tc) (by decide) h.1, h.2⟩) ?_ (fun _ _ _ h => ⟨h.1, h.2.2⟩)
    (fun _ _ _ _ h _ => h.1) ?_ (createAndPropose_hc k c)
    (fun si' l s h => Upd.hc (t := .outSend) (.out s (.sendNewView l si')) (by decide) h.1)
  · exact triple_of_run _ _ _ fun s hs =>
      have h := run_res_of_triple _ _ _ (verifySyncInfo_hc k c si) s hs
      ⟨fun _ => h.1, fun x hx => ⟨h.1, fun q hq => h.2.1 q x.2.1 x.2.2 (by rw [hx, ← hq]),
        fun hn => h.2.2 x.2.1 x.2.2 (by rw [hx, ← hn])⟩⟩
  · refine fun q _ _ => triple_of_run _ _ _ fun s ⟨h, hq, _⟩ => ?_
    obtain ⟨nb, hrun, hnb⟩ := getBlock_certified h.2 (hq q rfl)
    rw [hrun]
    exact ⟨nofun, fun nb' e => by cases e; exact ⟨hc_update _ q nb hnb h, nofun⟩⟩
  · intro qc v t s h hv
    refine ⟨Upd.enter Upd.hc v t hv h.1, ?_⟩
    cases qc with
    | none => intro q hq; rw [h.2 rfl] at hq; cases hq
    | some _ => intro q hq; cases hq; exact Nat.le_refl _

theorem verifySyncInfo_qcOnly (q : QC) :
    ⦃fun s => ⌜Grows G0 s⌝⦄ verifySyncInfo k c { qc := some q }
    ⦃⇓ r s => ⌜Grows G0 s ∧ ((r = .reject ∧ Dead k c q s) ∨ ∃ v t, r = .ok (some q, v, t) ∧ QCBlockView q s)⌝⦄ := by
  refine triple_conseq (verifySyncInfo_rule k c { qc := some q } (I := fun s => Grows G0 s) (T := fun _ _ => True)
    (A := fun _ _ _ => True) (V := fun q b s => (b = false → Dead k c q s) ∧ (b = true → QCBlockView q s))
    (fun t => triple_conseq ((verifyTCM_steps k c t).grows G0) (fun _ h => h) fun _ _ h => ⟨h, trivial⟩)
    (fun a => triple_conseq ((verifyAggM_steps k c a).grows G0) (fun _ h => h) fun _ _ h => ⟨h, trivial⟩)
    (fun q => triple_of_run _ _ _ fun s h => ⟨(verifyQCM_steps k c q s).grows h,
      run_res_of_triple _ (fun _ => True) _ (verifyQCM_false_dead k c q) s trivial,
      fun hr => verifyQC_blockView k c _ q (run_res_of_triple _ (fun _ => True) _ (verifyQCM_res k c q) s trivial hr)⟩))
    (fun _ h => h) fun r s ⟨hg, h⟩ => ⟨hg, ?_⟩
  match r, h with
  | .reject, h =>
    rcases h with ⟨_, ht, _⟩ | ⟨_, _, ha, _⟩ | ⟨_, q', hq, hd⟩
    · cases ht
    · cases ha
    · cases hq; exact Or.inl ⟨rfl, hd.1 rfl⟩
  | .ok (qc, v, t), h =>
    obtain ⟨_, ⟨_, _, _, ha, _⟩ | ⟨_, _, hq, hv, rfl, _⟩ | ⟨_, hq, _⟩⟩ := h.ok_cases rfl
    · cases ha
    · cases hq; exact Or.inr ⟨_, _, rfl, hv.2 rfl⟩
    · cases hq

theorem advanceView_only (q : QC) :
    ⦃fun s => ⌜Grows G0 s⌝⦄ advanceView k c { qc := some q }
    ⦃⇓ _ s => ⌜q.view ≤ s.highQC.view ∨ Dead k c q s⌝⦄ := by
  have keep : ∀ {t s s'}, Upd t s s' → t ∉ [Tag.highQC] → HQ q.view s → HQ q.view s' := Upd.hq q.view
  refine advanceView_rule_guard k c { qc := some q } (Q := fun s => q.view ≤ s.highQC.view ∨ Dead k c q s)
    (R := fun x s => Grows G0 s ∧ x.1 = some q ∧ QCBlockView q s) (R' := fun _ => HQ q.view) (Q' := fun _ => HQ q.view)
    ?_ (fun _ _ _ ht => nomatch ht) ?_ (fun _ _ _ h => nomatch h.2.1) (fun _ _ _ _ h _ => Or.inl h.1)
    (fun _ v t _ h hv => Upd.enter keep v t hv h)
    (fun si => triple_conseq ((createAndPropose_steps k c si).preserves (upd_of_notin keep _)) (fun _ h => h)
      fun _ _ h => Or.inl h.1)
    (fun _ _ _ h => Or.inl h.1)
  · refine triple_of_run _ _ _ fun s hs => ?_
    obtain ⟨hg, hr⟩ := run_res_of_triple _ _ _ (verifySyncInfo_qcOnly k c q) s hs
    rcases hr with ⟨hr, hd⟩ | ⟨v, t, hr, hb⟩
    · exact ⟨fun _ => Or.inr hd, fun x hx => by rw [hr] at hx; cases hx⟩
    · exact ⟨fun h => (by rw [hr] at h; cases h), fun x hx => by rw [hr] at hx; cases hx; exact ⟨hg, rfl, hb⟩⟩
  · refine fun q' _ _ => triple_of_run _ _ _ fun s ⟨hg, hq, hb⟩ => ?_
    cases hq
    obtain ⟨nb, hrun, hv⟩ := getBlock_certified hg hb
    rw [hrun]
    refine ⟨nofun, fun nb' hnb => ⟨?_, hg⟩⟩
    cases hnb
    show q.view ≤ (if _ then _ else _ : QC).view
    split <;> omega

theorem advanceView_covered_or_dead (q : QC) :
    ⦃fun s => ⌜HC s⌝⦄ advanceView k c { qc := some q }
    ⦃⇓ _ s => ⌜HC s ∧ (q.view ≤ s.highQC.view ∨ Dead k c q s)⌝⦄ :=
  triple_of_run _ _ _ fun s h => ⟨run_res_of_triple _ _ _ (advanceView_hc k c _) s h,
    run_res_of_triple _ _ _ (advanceView_only k c q) s h.2⟩

theorem voterVerify_covered (id : Nat) (b : Block) (agg : Option AggQC) :
    ⦃fun s => ⌜HC s ∧ (b.qc.view ≤ s.highQC.view ∨ Dead k c b.qc s) ∧ b.view ≤ s.view⌝⦄ voterVerify k c id b agg
    ⦃⇓ r s => ⌜HC s ∧ (r = .ok () → b.qc.view ≤ s.highQC.view)⌝⦄ := by
  apply triple_of_run
  intro s ⟨h, hq, _⟩
  have hs := voterVerify_steps k c id b agg s
  rcases hq with hq | hd
  · have h' := hs.preserves (upd_of_notin (Upd.hcq (Q := fun q => b.qc.view ≤ q.view)) _) ⟨h, hq⟩
    exact ⟨h'.1, fun _ => h'.2⟩
  · exact ⟨hs.preserves (upd_of_notin Upd.hc _) h,
      fun hr => absurd hr (run_res_of_triple _ _ _ (voterVerify_dead k c id b agg) s hd)⟩

theorem runLoop_hc (fuel : Nat) :
    ⦃fun s => ⌜HC s⌝⦄ runLoop k c fuel ⦃⇓ _ s => ⌜HC s⌝⦄ :=
  runLoop_of_guard k c (advanceView_hc k c) (fun b => advanceView_covered_or_dead k c b.qc) (voterVerify_covered k c)
    (onValidPropose_hc k c) (fun _ => (signMsg_steps c _).hc) (fun _ _ _ => (signMsg_steps c _).hc)
    (fun s t w _ h => Upd.hc (.timedOut s t w) (by decide) h)
    (hand_of_upd (upd_of_notin Upd.hc _)) Upd.hc fuel

end HCChain

theorem hc_init : HC {} :=
  ⟨fun b id hm => (by cases hm), G0_init⟩

theorem step_hc (k : Keys) (c : RCfg) (s : RState) (e : Ev) (h : HC s) : HC (step k c s e).1 :=
  step_keeps k c (runLoop_hc k c 100000) (fun _ h => h) s e h

theorem start_hc (k : Keys) (c : RCfg) (s : RState) (h : HC s) : HC (start k c s).1 :=
  start_keeps_guard k c (I := HC) (fun si => triple_conseq (createAndPropose_hc k c si)
    (fun s h => ⟨h.1, fun qc e => by rw [h.2] at e; cases e; exact Nat.le_refl _⟩) fun _ _ h => h)
    (runLoop_hc k c 100000) (fun _ h => h) s h
end HsVerif.Model
