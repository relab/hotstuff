import HsVerif.Proofs.Cert
import HsVerif.Proofs.ReplicaVote
/-!
C10, last sentence, replica level: INPUT IN WHICH NOTHING VERIFIES LEAVES THE PROTOCOL STATE UNCHANGED — the direct
statement about one delivered event.

"Fails" (`QCFails` / `TCFails` / `AggFails` / `VoteFails k c T x`) means: the pure verifier of Model/Cert.lean rejects
`x` against `env k c s'` for EVERY state `s'` whose signature table is `T` — the monadic verifiers (`verifyQCM`,
`verifyAggM`) fetch blocks before they verify, so the block store in which the check is finally made is not the one the
event arrived in; configuration and keys are fixed.  `Steps [.chain] s0 s` ("only blocks were fetched since `s0`") is
the footprint of the verifiers (Proofs/ReplicaSteps.lean), so the signature table in which they finally check is that
of `s0`.  A rejected input may fetch blocks, defer a vote or a proposal (both unverified) and prune the timeout
collector (`inertT`); such updates leave the `Kept` fields, the effects and the queue alone.

`advanceView_rej` and `onPropose_rej` are the rules of Proofs/ReplicaSteps.lean with `False` for what lies behind the failed
check; the verifiers' `_rej` / `_nc` lemmas read their equations and rules there, `voterVerify_rej` reads `voterVerify_facts`,
`collectVote_rej` the equation `verifyCertM_run`, and `onRemoteTimeout_rej` the run along the one path (`onRemoteTimeout_stop`).
`advanceView_rej` needs `1 ≤ view` for the sync info without QC: its certified view is 0, and `0 < s.view` is what stops
`advanceView`.
-/
open Std.Do
set_option linter.unusedVariables false
namespace HsVerif.Model
open HsVerif.Proofs

def QCFails (k : Keys) (c : RCfg) (T : List (Nat × Atom)) (q : QC) : Prop :=
  ∀ s' : RState, s'.truth = T → verifyQC (env k c s') q = false
def TCFails (k : Keys) (c : RCfg) (T : List (Nat × Atom)) (t : TC) : Prop :=
  ∀ s' : RState, s'.truth = T → verifyTC (env k c s') t = false
/-- the aggregate QC is not accepted in any state with signature table `T` (rejected, or no signature) -/
def AggFails (k : Keys) (c : RCfg) (T : List (Nat × Atom)) (a : AggQC) : Prop :=
  ∀ s' : RState, s'.truth = T → ∀ q, verifyAggQC (env k c s') a ≠ .ok q
/-- the vote's signature is absent, or is not a single signature, or is not accepted as a partial
certificate for `h` in any state with signature table `T`.  The sender id of the vote message plays no role:
the voting machine counts the SIGNER of the signature (`Sig.first`). -/
def VoteFails (k : Keys) (c : RCfg) (T : List (Nat × Atom)) (sig : Option Sig) (h : Hash) : Prop :=
  ∀ sg, sig = some sg → sg.len = 1 → ∀ s' : RState, s'.truth = T → verifyPC (env k c s') sig h ≠ .ok ()

/-- the fields no rejected input touches: everything but the block store, the two deferred lists, the
timeout collector, the event queue and the effects -/
@[reducible] def Kept (s : RState) :=
  (s.view, s.highQC, s.highTC, s.committed, s.lastVoted, s.lastProposed, s.lock, s.lastTimeout, s.votes,
   s.nextCmd, s.truth, s.nextBytes, s.ghost)

/-- what a rejected input may do: fetch blocks, defer a vote or a proposal (both unverified), prune the timeout
collector -/
abbrev inertT : List Tag := [.chain, .deferProp, .deferVC, .timeouts]

theorem Upd.inert {t : Tag} {s s' : RState} (h : Upd t s s') (ht : t ∈ inertT) :
    Kept s' = Kept s ∧ s'.out = s.out ∧ s'.queue = s.queue ∧ (t ≠ .deferProp → s'.waitingProp = s.waitingProp) := by
  cases h with
  | out s o => cases o <;> simp [Out.tag] at ht
  | enq s e => cases e <;> simp [Ev.tag] at ht
  | deferProp => exact ⟨rfl, rfl, rfl, fun h => absurd rfl h⟩
  | _ => first | exact ⟨rfl, rfl, rfl, fun _ => rfl⟩ | simp at ht

theorem Steps.inert {L : List Tag} {s s' : RState} (h : Steps L s s') (hL : ∀ t ∈ L, t ∈ inertT := by decide) :
    Kept s' = Kept s ∧ s'.out = s.out ∧ s'.queue = s.queue ∧ (Tag.deferProp ∉ L → s'.waitingProp = s.waitingProp) := by
  induction h with
  | refl => exact ⟨rfl, rfl, rfl, fun _ => rfl⟩
  | snoc _ ht hu ih =>
    obtain ⟨h1, h2, h3, h4⟩ := hu.inert (hL _ ht)
    exact ⟨h1.trans ih.1, h2.trans ih.2.1, h3.trans ih.2.2.1,
      fun hn => (h4 fun e => hn (e ▸ ht)).trans (ih.2.2.2 hn)⟩

theorem Steps.truth_eq {L : List Tag} {s s' : RState} (h : Steps L s s') (hL : ∀ t ∈ L, t ∈ inertT := by decide) :
    s'.truth = s.truth :=
  congrArg (fun x => x.2.2.2.2.2.2.2.2.2.2.1) (h.inert hL).1

theorem Steps.view_eq {L : List Tag} {s s' : RState} (h : Steps L s s') (hL : ∀ t ∈ L, t ∈ inertT := by decide) :
    s'.view = s.view :=
  congrArg (fun x => x.1) (h.inert hL).1

/-! ## what the verifiers answer

`s0` is the state the event arrived in; the verifiers fetch, so they run in states `s` with `Steps [.chain] s0 s`. -/
section Verifiers
variable (k : Keys) (c : RCfg) (s0 : RState)

theorem verifyQCM_nc (q : QC) :
    ⦃fun s => ⌜Steps [.chain] s0 s⌝⦄ verifyQCM k c q
    ⦃⇓ r s => ⌜Steps [.chain] s0 s ∧ (r = true → verifyQC (env k c s) q = true)⌝⦄ :=
  triple_and ((verifyQCM_steps k c q).spec [.chain] s0) (verifyQCM_res k c q)

theorem verifyQCM_rej (q : QC) :
    ⦃fun s => ⌜Steps [.chain] s0 s⌝⦄ verifyQCM k c q
    ⦃⇓ r s => ⌜Steps [.chain] s0 s ∧ (QCFails k c s0.truth q → r = false)⌝⦄ :=
  triple_of_run _ _ _ fun s hs =>
    have ⟨h1, h2⟩ := run_res_of_triple _ _ _ (verifyQCM_nc k c s0 q) s hs
    ⟨h1, fun hf => Bool.eq_false_iff.mpr fun hr => Bool.false_ne_true ((hf _ h1.truth_eq).symm.trans (h2 hr))⟩

theorem verifyTCM_rej (t : TC) :
    ⦃fun s => ⌜Steps [.chain] s0 s⌝⦄ verifyTCM k c t
    ⦃⇓ r s => ⌜Steps [.chain] s0 s ∧ (TCFails k c s0.truth t → r = false)⌝⦄ :=
  triple_of_run _ _ _ fun s h => by rw [verifyTCM_run]; exact ⟨h, fun hf => hf s h.truth_eq⟩

theorem env_T_truth (s s' : RState) (h : s'.truth = s.truth) :
    (env k c s').T = (env k c s).T := by simp [env, h]

/-- `verifyAggM`: only the block store changes; a panic needs an absent signature; an aggregate QC that `verifyAggM` accepts
is accepted by the pure verifier in the state it leaves, whose signature table is that of `s0`: the signature was checked
against that table, and the QC picked verifies there, so `findHighestValidQC` finds one -/
theorem verifyAggM_nc (a : AggQC) :
    ⦃fun s => ⌜Steps [.chain] s0 s⌝⦄ verifyAggM k c a
    ⦃⇓ r s => ⌜Steps [.chain] s0 s ∧ (a.sig ≠ none → r ≠ .panic) ∧
      (AggFails k c s0.truth a → ∀ q, r ≠ .ok q)⌝⦄ :=
  triple_conseq (verifyAggM_rule k c a (B := fun q s => verifyQC (env k c s) q = true) (verifyQCM_nc k c s0))
    (fun _ h => h) fun r s ⟨hs, hp, h⟩ => ⟨hs, hp, fun hf q hq => by
      obtain ⟨hm, hv, sg, s1, hs1, hsg, hlen, hb⟩ := h q hq
      have hT : (env k c s).T = (env k c s1).T := env_T_truth k c s1 s (hs.truth_eq.trans hs1.truth_eq.symm)
      have hb' : batchVerify (env k c s).T (env k c s).cfg sg
          (a.qcs.map (fun p => (p.1, (env k c s).tmoMsg p.1 a.view p.2))) = true := by rw [hT]; exact hb
      obtain ⟨q', hq'⟩ := findHighestValidQC_isSome (env k c s) _ q ((mem_sortDesc _ _).mp hm) hv
      apply hf s hs.truth_eq q'
      have hlen' : ¬ sg.len < (env k c s).cfg.quorum := Nat.not_lt.mpr hlen
      simp [verifyAggQC, hsg, hlen', hb', hq']⟩

def SIFails (k : Keys) (c : RCfg) (T : List (Nat × Atom)) (si : SyncInfo) : Prop :=
  (∀ q, si.qc = some q → QCFails k c T q) ∧ (∀ t, si.tc = some t → TCFails k c T t) ∧
  (∀ a, si.agg = some a → AggFails k c T a)

/-- the voter says no to a block whose certificate fails: a yes means the certificate verifies in the state the verifier
leaves (`voterVerify_facts`), whose signature table is that of `s0` -/
theorem voterVerify_rej (id : Nat) (b : Block) (agg : Option AggQC) :
    ⦃fun s => ⌜Steps [.chain] s0 s⌝⦄ voterVerify k c id b agg
    ⦃⇓ r s => ⌜Steps [.chain] s0 s ∧ (QCFails k c s0.truth b.qc → r = .reject)⌝⦄ :=
  triple_of_run _ _ _ fun s hs =>
    have h1 := hs.trans (voterVerify_steps k c id b agg s)
    ⟨h1, fun hf => by
      have h2 := (run_res_of_triple _ _ _ (voterVerify_facts k c id b agg s.ghost s.lastVoted) s rfl).2
      match hr : ((voterVerify k c id b agg).run s).1 with
      | .reject => rfl
      | .panic => exact absurd hr (voterVerify_ne_panic k c id b agg s)
      | .ok () => exact absurd ((hf _ h1.truth_eq).symm.trans (h2 hr).cert) (by decide)⟩

theorem verifySyncInfo_rej (si : SyncInfo) :
    ⦃fun s => ⌜Steps [.chain] s0 s⌝⦄ verifySyncInfo k c si
    ⦃⇓ r s => ⌜Steps [.chain] s0 s ∧
      (SIFails k c s0.truth si → r = .reject ∨ (r = .ok (none, 0, false) ∧ si.tc = none ∧ si.qc = none))⌝⦄ := by
  refine triple_conseq (verifySyncInfo_rule k c si (I := Steps [.chain] s0) (T := fun tc b => TCFails k c s0.truth tc → b = false)
    (A := fun a r _ => (a.sig ≠ none → r ≠ .panic) ∧ (AggFails k c s0.truth a → ∀ q, r ≠ .ok q))
    (V := fun q b _ => QCFails k c s0.truth q → b = false) (verifyTCM_rej k c s0) (verifyAggM_nc k c s0)
    (verifyQCM_rej k c s0)) (fun _ h => h) fun r s ⟨hs, h⟩ => ⟨hs, fun ⟨fq, ft, fa⟩ => ?_⟩
  match r, h with
  | .reject, _ => exact Or.inl rfl
  | .ok (qc, v, t), h =>
    obtain ⟨htc, hc⟩ := h.ok_cases rfl
    -- a TC would have been rejected: there is none, and the view it certifies is 0
    have hnt : si.tc = none := by
      cases ht : si.tc with
      | none => rfl
      | some tc => exact absurd (htc tc ht (ft tc ht)) (by decide)
    rcases hc with ⟨_, a, high, ha, hA, _⟩ | ⟨_, q, hq, hV, _⟩ | ⟨_, hq, rfl, rfl, rfl⟩
    · exact absurd rfl (hA.2 (fa _ ha) high)
    · exact absurd (hV (fq _ hq)) (by decide)
    · exact Or.inr ⟨by rw [hnt]; rfl, hnt, hq⟩

end Verifiers

section Handlers
variable (k : Keys) (c : RCfg) (s0 : RState)

/-- when the verification says no, or certifies nothing in a view that has begun, `advanceView` stops there: read off
the rule, with `False` for what follows an entry into a view -/
theorem advanceView_rej (si : SyncInfo) (hv : 1 ≤ s0.view ∨ si.qc ≠ none) (hsi : SIFails k c s0.truth si) :
    ⦃fun s => ⌜Steps [.chain] s0 s⌝⦄ advanceView k c si ⦃⇓ _ s => ⌜Steps [.chain] s0 s⌝⦄ :=
  advanceView_rule_guard k c si (Q := Steps [.chain] s0)
    (R := fun x s => Steps [.chain] s0 s ∧ x = (none, 0, false) ∧ si.tc = none ∧ si.qc = none)
    (R' := fun x s => Steps [.chain] s0 s ∧ x.2.1 = 0 ∧ si.qc = none) (Q' := fun _ _ => False)
    (triple_conseq (verifySyncInfo_rej k c s0 si) (fun _ h => h) fun r s h =>
      ⟨fun _ => h.1, fun x e => ⟨h.1, ((h.2 hsi).resolve_left (by rw [e]; nofun)).imp_left
        (fun e' => VRes.ok.inj (e.symm.trans e'))⟩⟩)
    (fun _ tc _ e h => by rw [h.2.2.1] at e; cases e)
    (fun q v t => triple_of_run _ _ _ fun s h => by cases h.2.1)
    (fun _ _ _ h => ⟨h.1, by rw [h.2.1], h.2.2.2⟩)
    (fun _ _ _ _ h _ => h.1)
    (fun _ v _ s h hn => hn (by
      have := h.1.view_eq; have := hv.resolve_right (fun x => x h.2.2); have h0 : v = 0 := h.2.1; omega))
    (fun _ => triple_of_run _ _ _ fun _ h => h.elim) (fun _ _ _ h => h.elim)

theorem SIFails.qcOnly {k : Keys} {c : RCfg} {T : List (Nat × Atom)} {q : QC} (hq : QCFails k c T q) :
    SIFails k c T { qc := some q } := by
  refine ⟨?_, ?_, ?_⟩
  · intro q' h; cases h; exact hq
  · intro t h; cases h
  · intro a h; cases h

/-- a proposal whose certificate fails: `onPropose_rule_guard` with `False` for a positive answer of the voter; the
verifiers are used from the state they start in (same signature table) -/
theorem onPropose_rej (id : Nat) (b : Block) (agg : Option AggQC) (hq : QCFails k c s0.truth b.qc) :
    ⦃fun s => ⌜Steps [.chain] s0 s⌝⦄ onPropose k c id b agg ⦃⇓ _ s => ⌜Steps [.chain, .deferVC] s0 s⌝⦄ :=
  triple_conseq
    (onPropose_rule_guard k c id b agg (I := fun s => Steps [.chain, .deferVC] s0 s) (G := fun _ => True) (W := fun _ => False)
      (triple_of_run _ _ _ fun s hs => ⟨hs.trans ((run_res_of_triple _ _ _
        (advanceView_rej k c s { qc := some b.qc } (Or.inr (by simp)) (SIFails.qcOnly (hs.truth_eq ▸ hq))) s (.refl _)).weaken
          (by decide)), trivial⟩)
      (triple_of_run _ _ _ fun s hs =>
        have h := run_res_of_triple _ _ _ (voterVerify_rej k c s id b agg) s (.refl _)
        ⟨hs.1.trans (h.1.weaken (by decide)), fun e => by cases (h.2 (hs.1.truth_eq ▸ hq)).symm.trans e⟩)
      (triple_of_run _ _ _ fun _ h => h.2.elim)
      (fun _ ht _ _ hu h => h.step hu (List.mem_cons_of_mem _ ht)))
    (fun _ h => h.weaken (by decide)) fun _ _ h => h

/-- a vote whose signature fails: the first piece of `collectVote` may fetch or defer, the second is the last line of
`verifyCertM_run` -/
theorem collectVote_rej (id : Nat) (sig : Option Sig) (hash : Hash) (d : Bool)
    (hp : VoteFails k c s0.truth sig hash) :
    ⦃fun s => ⌜Steps [.chain] s0 s⌝⦄ collectVote k c id sig hash d
    ⦃⇓ _ s => ⌜Steps [.chain, .deferProp] s0 s⌝⦄ :=
  triple_of_run _ _ _ fun s hs => by
    obtain ⟨h1, h2⟩ := run_res_of_triple _ _ _ (collectVotePre_spec id sig hash d s0) s (hs.weaken (by decide))
    rw [collectVote_run]
    rcases hr : (collectVotePre id sig hash d).run s with ⟨_ | b, s1⟩ <;> rw [hr] at h1 h2
    · exact h1
    · obtain ⟨sg, rfl, hl⟩ := h2 b rfl
      show Steps _ s0 ((verifyCertM k c (some sg) hash b).run s1).2
      rw [verifyCertM_run]
      have := hp sg rfl hl s1 h1.truth_eq
      split
      · exact absurd ‹_› this
      · exact h1

def viewSigOK (k : Keys) (c : RCfg) (T : List (Nat × Atom)) (t : TimeoutMsg) : Bool :=
  match t.viewSig with
  | none => false
  | some vs => signedBy t.viewSig t.id && verify (fun b => T.lookup b) c.cfg vs (viewMsg t.view)

theorem onRemoteTimeout_stop (t : TimeoutMsg) (s : RState) (ht : viewSigOK k c s.truth t = false) :
    ((onRemoteTimeout k c t).run s).2 = { s with timeouts := s.timeouts.filter (fun x => !(x.view < s.view)) } := by
  unfold viewSigOK at ht
  unfold onRemoteTimeout
  cases hvs : t.viewSig with
  | none =>
    simp [signedBy, bind, StateT.bind, StateT.run, get, getThe, MonadStateOf.get, StateT.get, pure, StateT.pure,
      modify, modifyGet, MonadStateOf.modifyGet, StateT.modifyGet]
  | some vs =>
    simp only [hvs] at ht
    cases hsb : signedBy (some vs) t.id with
    | false =>
      simp [bind, StateT.bind, StateT.run, get, getThe, MonadStateOf.get, StateT.get, pure, StateT.pure,
        modify, modifyGet, MonadStateOf.modifyGet, StateT.modifyGet]
    | true =>
      have hv : verify (env k c s).T (env k c s).cfg vs (viewMsg t.view) = false := by
        rw [hsb, Bool.true_and] at ht; exact ht
      simp [hv, bind, StateT.bind, StateT.run, get, getThe, MonadStateOf.get, StateT.get, pure, StateT.pure,
        modify, modifyGet, MonadStateOf.modifyGet, StateT.modifyGet]

theorem onRemoteTimeout_rej (t : TimeoutMsg) (ht : viewSigOK k c s0.truth t = false) :
    ⦃fun s => ⌜Steps [.chain] s0 s⌝⦄ onRemoteTimeout k c t ⦃⇓ _ s => ⌜Steps [.chain, .timeouts] s0 s⌝⦄ := by
  apply triple_of_run
  intro s hs
  rw [onRemoteTimeout_stop k c t s (hs.truth_eq ▸ ht)]
  exact (hs.weaken (by decide)).step (.timeouts _ _)

end Handlers

/-- what is enough for an event to be dropped (weaker than `NothingVerifies`): the certificate / signature
the handler checks FIRST fails -/
def Rejected (k : Keys) (c : RCfg) (T : List (Nat × Atom)) : Ev → Prop
  | .propose _ b _ => QCFails k c T b.qc
  | .vote _ sig hash _ => VoteFails k c T sig hash
  | .timeout t => viewSigOK k c T t = false
  | .newview _ si => SIFails k c T si
  | _ => False

def Ev.isPropose : Ev → Bool
  | .propose _ _ _ => true
  | _ => false

def Ev.isNewview : Ev → Bool
  | .newview _ _ => true
  | _ => false

/-- the deferred events that `tick` puts back into the queue after handling `e` -/
def requeued (e : Ev) (s : RState) : List Ev := if e.isPropose then s.waitingProp else []

structure InertTick (s : RState) (e : Ev) (rest : List Ev) (s1 : RState) : Prop where
  core : Kept s1 = Kept s
  out : s1.out = s.out
  queue : s1.queue = rest ++ requeued e s
  wprop : e.isPropose = true → s1.waitingProp = []

/-- **One tick on a rejected event**: the event is popped, nothing but the block store (fetches), the
deferred lists (a proposal for a later view, a vote for an unknown block: both unverified) and the timeout
collector (stale entries are dropped) changes, nothing is emitted, nothing is queued — except that ANY
proposal re-queues the votes deferred until a proposal arrives. -/
theorem tick_inert (k : Keys) (c : RCfg) (s : RState) (e : Ev) (rest : List Ev)
    (hr : Rejected k c s.truth e) (hq : s.queue = e :: rest) (hv : 1 ≤ s.view ∨ e.isNewview = false) :
    ((tick k c).run s).1 = true ∧ InertTick s e rest ((tick k c).run s).2 := by
  cases e with
  | propose id b agg =>
    rw [show (tick k c).run s = (true, _) from
      tick_propose k c (s' := ((onPropose k c id b agg).run { s with queue := rest }).2) hq rfl]
    obtain ⟨h1, h2, h3, h4⟩ := (run_res_of_triple _ _ _
      (onPropose_rej k c { s with queue := rest } id b agg hr) _ (.refl _)).inert
    exact ⟨rfl, h1, h2, by simp [h3, h4, requeued, Ev.isPropose], fun _ => rfl⟩
  | vote id sig hash d =>
    rw [show (tick k c).run s = (true, _) from
      tick_vote k c (s' := ((collectVote k c id sig hash d).run { s with queue := rest }).2) hq rfl]
    obtain ⟨h1, h2, h3, _⟩ := (run_res_of_triple _ _ _
      (collectVote_rej k c { s with queue := rest } id sig hash d hr) _ (.refl _)).inert
    exact ⟨rfl, h1, h2, by simp [h3, requeued, Ev.isPropose], fun h => by simp [Ev.isPropose] at h⟩
  | timeout t =>
    rw [show (tick k c).run s = (true, _) from
      tick_timeout k c (s' := ((onRemoteTimeout k c t).run { s with queue := rest }).2) hq rfl]
    obtain ⟨h1, h2, h3, _⟩ := (run_res_of_triple _ _ _
      (onRemoteTimeout_rej k c { s with queue := rest } t hr) _ (.refl _)).inert
    exact ⟨rfl, h1, h2, by simp [h3, requeued, Ev.isPropose], fun h => by simp [Ev.isPropose] at h⟩
  | newview id si =>
    rw [show (tick k c).run s = (true, _) from
      tick_newview k c (s' := ((advanceView k c si).run { s with queue := rest }).2) hq rfl]
    have hv' : 1 ≤ ({ s with queue := rest } : RState).view ∨ si.qc ≠ none := by
      rcases hv with h | h
      · exact Or.inl h
      · simp [Ev.isNewview] at h
    obtain ⟨h1, h2, h3, _⟩ := (run_res_of_triple _ _ _
      (advanceView_rej k c { s with queue := rest } si hv' hr) _ (.refl _)).inert
    exact ⟨rfl, h1, h2, by simp [h3, requeued, Ev.isPropose], fun h => by simp [Ev.isPropose] at h⟩
  | _ => exact hr.elim

/-- **Rejected input, general form** (no hypothesis on the deferred lists): delivering a rejected event to a
replica with an empty queue is the same as running the event loop on from a state `s1` that agrees with `s`
on every kept field, has emitted nothing, and whose queue holds exactly the events the tick re-queued —
nothing for a vote, timeout or new-view; the votes deferred until a proposal arrives (`s.waitingProp`,
earlier input that waited for its block) for a proposal. -/
theorem step_inert (k : Keys) (c : RCfg) (s : RState) (e : Ev)
    (hr : Rejected k c s.truth e) (hq : s.queue = []) (hv : 1 ≤ s.view ∨ e.isNewview = false) :
    ∃ s1, Kept s1 = Kept s ∧ s1.out = [] ∧ s1.queue = requeued e s ∧
      (e.isPropose = true → s1.waitingProp = []) ∧ step k c s e = drain k c s1 := by
  obtain ⟨h1, h2⟩ := tick_inert k c { s with out := [], queue := [e] } e [] hr rfl hv
  refine ⟨_, h2.core, h2.out, ?_, h2.wprop, step_tick k c s _ e hq (Prod.ext h1 rfl)⟩
  rw [h2.queue]; simp [requeued]

/-- **Rejected input changes nothing**: with an empty queue and — for a proposal — no votes deferred until
a proposal, the step ends after its first tick: every kept field is as before, the queue is empty again and
there are NO effects at all. -/
theorem step_inert_quiet (k : Keys) (c : RCfg) (s : RState) (e : Ev)
    (hr : Rejected k c s.truth e) (hq : s.queue = []) (hw : e.isPropose = true → s.waitingProp = [])
    (hv : 1 ≤ s.view ∨ e.isNewview = false) :
    Kept (step k c s e).1 = Kept s ∧ (step k c s e).1.queue = [] ∧ (step k c s e).2 = [] := by
  obtain ⟨s1, h1, h2, h3, _, h5⟩ := step_inert k c s e hr hq hv
  have h3' : s1.queue = [] := by
    rw [h3]; unfold requeued; split
    · next h => exact hw h
    · rfl
  rw [h5]
  simp only [drain, runLoop_idle k c 99998 h3']
  exact ⟨h1, h3', h2⟩

/-- the replica's protocol state: view, highest QC, highest TC, lock, committed block, the ghost history
of what it signed and why it moved, the vote history (`lastVoted`), the last timeout message it sent and the
last view it proposed in -/
@[reducible] def PS (s : RState) :=
  (s.view, s.highQC, s.highTC, s.lock, s.committed, s.ghost, s.lastVoted, s.lastTimeout, s.lastProposed)

/-- **Nothing the message carries verifies**, in any state with the signature table of `s` (verification may
fetch blocks, so the block store is quantified over; the configuration is fixed).  Local events and the
loop's internal events are not peer input. -/
def NothingVerifies (k : Keys) (c : RCfg) (s : RState) : Ev → Prop
  | .propose _ b agg => QCFails k c s.truth b.qc ∧ ∀ a, agg = some a → AggFails k c s.truth a
  | .vote _ sig hash _ => VoteFails k c s.truth sig hash
  | .timeout t => viewSigOK k c s.truth t = false ∧ SIFails k c s.truth t.si
  | .newview _ si => SIFails k c s.truth si
  | _ => False

theorem NothingVerifies.rejected {k : Keys} {c : RCfg} {s : RState} {e : Ev} (h : NothingVerifies k c s e) :
    Rejected k c s.truth e := by
  cases e with
  | propose id b agg => exact h.1
  | vote id sig hash d => exact h
  | timeout t => exact h.1
  | newview id si => exact h
  | _ => exact h.elim

theorem ps_of_kept {s s' : RState} (h : Kept s' = Kept s) : PS s' = PS s := by
  simp only [Kept, Prod.mk.injEq] at h
  simp [PS, h]

/-! ### sufficient conditions (used for the non-vacuity examples) -/

def BadEntry (T : List (Nat × Atom)) (e : Entry) : Prop := ∀ a, T.lookup e.bytes = some a → a.signer ≠ e.claimed

theorem badEntry_of_unknown {T : List (Nat × Atom)} {e : Entry} (h : T.lookup e.bytes = none) : BadEntry T e := by
  intro a ha; rw [h] at ha; cases ha

theorem badEntry_of_other {T : List (Nat × Atom)} {e : Entry} (a : Atom) (h : T.lookup e.bytes = some a)
    (hne : a.signer ≠ e.claimed) : BadEntry T e := by
  intro a' ha; rw [h] at ha; cases ha; exact hne

theorem verify_multi_false (T : List (Nat × Atom)) (cf : Cfg) (kk : Scheme) (es : List Entry) (m : Msg) (e : Entry)
    (he : e ∈ es) (hb : BadEntry T e) : verify (fun b => T.lookup b) cf (.multi kk es) m = false := by
  have h1 : verifySingle (fun b => T.lookup b) cf e m = false := by
    have hne : T.lookup e.bytes ≠ some ⟨e.claimed, m⟩ := fun h => hb _ h rfl
    simp [verifySingle, hne]
  have h2 : es.all (fun e => verifySingle (fun b => T.lookup b) cf e m) = false := by
    apply Bool.eq_false_iff.mpr
    intro h
    have := List.all_eq_true.mp h e he
    rw [h1] at this; cases this
  simp [verify, h2]

theorem qcFails_of_bad_entry (k : Keys) (c : RCfg) (T : List (Nat × Atom)) (q : QC) (kk : Scheme) (es : List Entry)
    (e : Entry) (hh : q.hash ≠ genesisHash) (hs : q.sig = some (.multi kk es)) (he : e ∈ es) (hb : BadEntry T e) :
    QCFails k c T q := by
  intro s' ht
  have hv : ∀ m, verify (env k c s').T (env k c s').cfg (.multi kk es) m = false := by
    intro m; simp only [env, ht]; exact verify_multi_false T _ kk es m e he hb
  unfold verifyQC
  simp only [hs, hv]
  simp [hh]
  intros; split <;> simp

theorem voteFails_of_bad_entry (k : Keys) (c : RCfg) (T : List (Nat × Atom)) (kk : Scheme) (es : List Entry)
    (h : Hash) (e : Entry) (he : e ∈ es) (hb : BadEntry T e) : VoteFails k c T (some (.multi kk es)) h := by
  intro sg hsg _ s' ht
  have hv : ∀ m, verify (env k c s').T (env k c s').cfg (.multi kk es) m = false := by
    intro m; simp only [env, ht]; exact verify_multi_false T _ kk es m e he hb
  unfold verifyPC
  split
  · simp
  · simp [hv]

theorem tcFails_of_short (k : Keys) (c : RCfg) (T : List (Nat × Atom)) (t : TC) (sg : Sig)
    (hv : t.view ≠ 0) (hs : t.sig = some sg) (hl : sg.len < c.cfg.quorum) : TCFails k c T t := by
  intro s' _
  have : sg.len < (env k c s').cfg.quorum := hl
  simp [verifyTC, hv, hs, this]

end HsVerif.Model

