import HsVerif.Model.Queue
/-! Helper lemmas for C14 (queue): the ring buffer refines the bounded deque. -/
namespace HsVerif.Model.Queue
variable {α : Type} {c : Nat} {i j k : Int}

/-- `head + k` wrapped once into a buffer of length `c` -/
def w (c : Nat) (i : Int) : Int := if i < (c : Int) then i else i - c

theorem w_of_lt (h : i < c) : w c i = i := if_pos h
theorem w_of_ge (h : (c : Int) ≤ i) : w c i = i - c := if_neg (Int.not_lt.mpr h)

theorem w_range (c : Nat) (i : Int) (h0 : 0 ≤ i) (h1 : i < 2 * (c : Int)) : 0 ≤ w c i ∧ w c i < c := by
  unfold w; split <;> omega

/-- Go's `i++; if i == len(entries) { i = 0 }` moves a wrapped index one step on. -/
theorem w_succ (h : i + 1 < 2 * (c : Int)) : (if w c i + 1 = (c : Int) then 0 else w c i + 1) = w c (i + 1) := by
  by_cases hi : i < (c : Int)
  · rw [w_of_lt hi]
    split
    · rw [w_of_ge (by omega)]; omega
    · rw [w_of_lt (by omega)]
  · rw [w_of_ge (Int.not_lt.mp hi), if_neg (by omega), w_of_ge (by omega)]; omega

theorem w_w_add (hk : 0 ≤ k) (h : i + k < 2 * (c : Int)) : w c (w c i + k) = w c (i + k) := by
  by_cases hi : i < (c : Int)
  · rw [w_of_lt hi]
  · rw [w_of_ge (Int.not_lt.mp hi), w_of_lt (by omega), w_of_ge (by omega)]; omega

theorem w_ne (hij : i < j) (hji : j < i + c) : w c i ≠ w c j := by
  unfold w; split <;> split <;> omega

theorem getI_setI (l : List (Option α)) (x : Option α) (hi : 0 ≤ i) (hj : 0 ≤ j) (hil : i < l.length) :
    getI (setI l i x) j = if j = i then x else getI l j := by
  unfold getI setI
  rw [List.getD_eq_getElem?_getD, List.getD_eq_getElem?_getD, List.getElem?_set]
  have : i.toNat = j.toNat ↔ j = i := by omega
  have h2 : i.toNat < l.length := by omega
  simp only [this, h2, if_true]
  split <;> rfl

theorem setI_length (l : List (Option α)) (i : Int) (x : Option α) : (setI l i x).length = l.length :=
  List.length_set

/-- Simulation relation between the ring buffer and the ideal deque content (oldest first). -/
structure Rel (c : Nat) (q : Queue α) (l : List α) : Prop where
  hlen : q.entries.length = c
  hle : l.length ≤ c
  hempty : l = [] → q.head = -1 ∧ q.tail = -1
  hne : l ≠ [] → 0 ≤ q.head ∧ q.head < c ∧ q.tail = w c (q.head + l.length - 1) ∧
        ∀ k (h : k < l.length), getI q.entries (w c (q.head + k)) = some l[k]

/-- The part of `Rel` that does not mention `tail` or the sentinel -1: the `c` slots `es` hold the
entries of `l`, in order, from slot `h` on (wrapping once). -/
structure Ring (c : Nat) (es : List (Option α)) (h : Int) (l : List α) : Prop where
  hlen : es.length = c
  hle : l.length ≤ c
  h0 : 0 ≤ h
  hc : h < c
  get : ∀ k (hk : k < l.length), getI es (w c (h + k)) = some l[k]

variable {es : List (Option α)} {h : Int} {q : Queue α} {l t : List α} {a : α}

theorem Ring.head (R : Ring c es h (a :: t)) : getI es h = some a := by
  simpa [w_of_lt R.hc] using R.get 0 (Nat.zero_lt_succ _)

/-- Go's `h++; if h == len(entries) { h = 0 }` -/
theorem Ring.inc (R : Ring c es h l) : (if h + 1 = (c : Int) then 0 else h + 1) = w c (h + 1) := by
  have := w_succ (c := c) (i := h) (by have := R.h0; have := R.hc; omega)
  rwa [w_of_lt R.hc] at this

theorem Ring.tail (R : Ring c es h (a :: t)) : Ring c es (w c (h + 1)) t := by
  obtain ⟨hlen, (hle : t.length + 1 ≤ c), h0, hc, get⟩ := R
  have hr := w_range c (h + 1) (by omega) (by omega)
  refine ⟨hlen, by omega, hr.1, hr.2, fun k hk => ?_⟩
  rw [w_w_add (Int.natCast_nonneg k) (by omega), Int.add_assoc, Int.add_comm 1]
  exact get (k + 1) (Nat.succ_lt_succ hk)

theorem Ring.push (R : Ring c es h l) (hl : l.length < c) (x : α) {pos : Int} (hp : pos = w c (h + l.length)) :
    Ring c (setI es pos (some x)) h (l ++ [x]) := by
  subst hp
  obtain ⟨hlen, _, h0, hc, get⟩ := R
  refine ⟨(setI_length ..).trans hlen, by rw [List.length_append]; exact hl, h0, hc, fun k hk => ?_⟩
  have hk' : k ≤ l.length := by simpa [Nat.lt_succ_iff] using hk
  have hr := fun (j : Nat) (hj : j ≤ l.length) => w_range c (h + j) (by omega) (by omega)
  rw [getI_setI _ _ (hr _ (Nat.le_refl _)).1 (hr k hk').1 (hlen ▸ (hr _ (Nat.le_refl _)).2)]
  by_cases hk1 : k < l.length
  · rw [if_neg (w_ne (by omega) (by omega)), List.getElem_append_left hk1]
    exact get k hk1
  · obtain rfl : k = l.length := by omega
    simp

theorem Rel.ring (r : Rel c q (a :: t)) : Ring c q.entries q.head (a :: t) ∧ q.tail = w c (q.head + t.length) :=
  have ⟨h0, hc, ht, get⟩ := r.hne (List.cons_ne_nil a t)
  ⟨⟨r.hlen, r.hle, h0, hc, get⟩, ht.trans (congrArg (w c) (by simp only [List.length_cons]; omega))⟩

theorem Ring.rel (R : Ring c es h l) {n : Nat} (hn : l.length = n + 1) {t : Int} (ht : t = w c (h + n)) :
    Rel c ⟨es, h, t⟩ l :=
  ⟨R.hlen, R.hle, fun e => by simp [e] at hn,
    fun _ => ⟨R.h0, R.hc, ht.trans (congrArg (w c) (by omega : h + (n : Int) = h + l.length - 1)), R.get⟩⟩

theorem rel_nil (hlen : es.length = c) : Rel c ⟨es, -1, -1⟩ ([] : List α) :=
  ⟨hlen, Nat.zero_le c, fun _ => ⟨rfl, rfl⟩, fun h => absurd rfl h⟩

theorem rel_new (c : Nat) : Rel c (Queue.new c : Queue α) [] := rel_nil List.length_replicate

theorem Rel.cap (r : Rel c q l) : q.cap = c := congrArg Int.ofNat r.hlen

theorem filterMap_range'_eq (l : List α) (f : Nat → Option α) (s : Nat)
    (h : ∀ k (hk : k < l.length), f (s + k) = some l[k]) :
    (List.range' s l.length).filterMap f = l := by
  induction l generalizing s with
  | nil => rfl
  | cons a t ih =>
    rw [List.length_cons, List.range'_succ, List.filterMap_cons, show f s = some a from h 0 (Nat.zero_lt_succ _)]
    exact congrArg (a :: ·) (ih (s + 1) fun k hk => by rw [Nat.add_right_comm]; exact h (k + 1) (Nat.succ_lt_succ hk))

theorem rel_len (r : Rel c q l) : q.len = l.length := by
  unfold Queue.len
  cases l with
  | nil => rw [if_pos (r.hempty rfl).1]; rfl
  | cons a t =>
    obtain ⟨⟨_, (hle : t.length + 1 ≤ c), h0, hc, _⟩, ht⟩ := r.ring
    rw [if_neg (by omega), r.cap, ht, List.length_cons]
    by_cases hw : q.head + t.length < c
    · rw [w_of_lt hw, if_pos (by omega)]; omega
    · rw [w_of_ge (by omega), if_neg (by omega)]; omega

theorem rel_abs (r : Rel c q l) : q.abs = l := by
  unfold Queue.abs
  rw [rel_len r, Int.toNat_natCast]
  apply filterMap_range'_eq
  intro k hk
  simpa [wrapIdx, w, r.cap] using (r.hne (List.ne_nil_of_length_pos (Nat.zero_lt_of_lt hk))).2.2.2 k hk

theorem Rel.abs_self (r : Rel c q l) : Rel c q q.abs := (rel_abs r).symm ▸ r

theorem rel_pop (r : Rel c q l) : Rel c q.pop.1 (Deque.pop l).1 ∧ q.pop.2 = (Deque.pop l).2 := by
  unfold Queue.pop Deque.pop
  cases l with
  | nil => rw [if_pos (r.hempty rfl).1]; exact ⟨r, rfl⟩
  | cons a t =>
    have ⟨R, ht⟩ := r.ring
    have ⟨_, (hle : t.length + 1 ≤ c), h0, hc, _⟩ := R
    rw [if_neg (by omega)]
    dsimp only [List.tail_cons, List.head?_cons]
    rw [R.head, r.cap, R.inc]
    by_cases ht0 : t = []
    · subst ht0
      rw [if_pos (by simpa [w_of_lt hc] using ht.symm)]
      exact ⟨rel_nil r.hlen, rfl⟩
    · have hpos : 0 < t.length := List.length_pos_iff.mpr ht0
      rw [if_neg fun e => w_ne (by omega) (by omega) ((w_of_lt hc).trans (e.trans ht))]
      refine ⟨R.tail.rel (n := t.length - 1) (by omega) ?_, rfl⟩
      rw [ht, w_w_add (by omega) (by omega)]; congr 1; omega

theorem _root_.HsVerif.Model.Deque.push_of_lt (h : l.length < c) (x : α) : Deque.push c l x = (l ++ [x], none) := by
  simp only [Deque.push, List.length_append, List.length_singleton, if_neg (Nat.not_lt.mpr h)]

theorem _root_.HsVerif.Model.Deque.push_of_eq (h : (a :: t).length = c) (x : α) :
    Deque.push c (a :: t) x = (t ++ [x], some a) := by
  simp [Deque.push, ← h]

theorem push_of_ne {pos : Int} (x : α) (hpos : (if q.tail + 1 = q.cap then 0 else q.tail + 1) = pos)
    (hne : pos ≠ q.head) :
    q.push x = (⟨setI q.entries pos (some x), if q.head = -1 then pos else q.head, pos⟩, none) := by
  simp only [push, hpos, if_neg hne]

theorem push_of_eq {h' : Int} (x : α) (hpos : (if q.tail + 1 = q.cap then 0 else q.tail + 1) = q.head)
    (hinc : (if q.head + 1 = q.cap then 0 else q.head + 1) = h') (hne : h' ≠ -1) :
    q.push x = (⟨setI q.entries q.head (some x), h', q.head⟩, getI q.entries q.head) := by
  simp only [push, hpos, hinc, if_true, if_neg hne]

theorem rel_push (hc1 : 1 ≤ c) (r : Rel c q l) (x : α) :
    Rel c (q.push x).1 (Deque.push c l x).1 ∧ (q.push x).2 = (Deque.push c l x).2 := by
  cases l with
  | nil =>
    obtain ⟨h1, h2⟩ := r.hempty rfl
    have h00 : 0 = w c (0 + ([] : List α).length) := (w_of_lt (by simp; omega)).symm
    have R : Ring c q.entries 0 [] := ⟨r.hlen, r.hle, Int.le_refl 0, by omega, nofun⟩
    rw [Deque.push_of_lt (c := c) (l := []) hc1,
      push_of_ne x (pos := 0) (by rw [h2, r.cap, if_neg (by omega)]; rfl) (by omega), if_pos h1]
    exact ⟨(R.push hc1 x h00).rel rfl h00, rfl⟩
  | cons a t =>
    have ⟨R, ht⟩ := r.ring
    have ⟨_, (hle : t.length + 1 ≤ c), h0, hc, _⟩ := R
    have hpos : (if q.tail + 1 = q.cap then 0 else q.tail + 1) = w c (q.head + (a :: t).length) := by
      rw [ht, r.cap, w_succ (by omega)]; congr 1; simp only [List.length_cons]; omega
    by_cases hfull : t.length + 1 = c
    · -- the slot after `tail` is `head`, and also the slot after the last of `t` counted from the new head
      have hposh : w c (q.head + (a :: t).length) = q.head := by
        rw [List.length_cons, hfull, w_of_ge (by omega)]; omega
      have hwrap : q.head = w c (w c (q.head + 1) + t.length) := by
        rw [w_w_add (by omega) (by omega), w_of_ge (by omega)]; omega
      rw [Deque.push_of_eq hfull, push_of_eq x (hpos.trans hposh) (r.cap.symm ▸ R.inc) (by have := R.tail.h0; omega), R.head]
      exact ⟨(R.tail.push (by omega) x hwrap).rel List.length_append hwrap, rfl⟩
    · have hlt : (a :: t).length < c := Nat.lt_of_le_of_ne hle hfull
      rw [Deque.push_of_lt hlt, push_of_ne x hpos fun e =>
        w_ne (by simp; omega) (by simp only [List.length_cons]; omega) ((w_of_lt hc).trans e.symm), if_neg (by omega)]
      exact ⟨(R.push hlt x rfl).rel List.length_append rfl, rfl⟩

theorem push_abs_of_lt (hc : 1 ≤ c) (r : Rel c q l) (x : α) (hlt : l.length < c) :
    (q.push x).2 = none ∧ (q.push x).1.abs = l ++ [x] := by
  have ⟨h1, h2⟩ := rel_push hc r x
  rw [Deque.push_of_lt hlt] at h1 h2
  exact ⟨h2, rel_abs h1⟩

theorem push_abs_of_eq (hc : 1 ≤ c) (r : Rel c q l) (x : α) (heq : l.length = c) :
    (q.push x).2 = l.head? ∧ (q.push x).1.abs = l.tail ++ [x] := by
  have ⟨h1, h2⟩ := rel_push hc r x
  cases l with
  | nil => cases heq; exact absurd hc (Nat.not_succ_le_zero 0)
  | cons a t =>
    rw [Deque.push_of_eq heq] at h1 h2
    exact ⟨h2, rel_abs h1⟩

theorem step_refines (hc : 1 ≤ c) (r : Rel c q l) (o : QOp α) :
    (q.step o).2 = (Deque.step c l o).2 ∧ Rel c (q.step o).1 (Deque.step c l o).1 := by
  cases o with
  | push x => exact ⟨congrArg QOut.pushed (rel_push hc r x).2, (rel_push hc r x).1⟩
  | pop => exact ⟨congrArg QOut.popped (rel_pop r).2, (rel_pop r).1⟩
  | len => exact ⟨congrArg QOut.len (rel_len r), r⟩

theorem run_refines (hc : 1 ≤ c) (w : List (QOp α)) (r : Rel c q l) :
    (q.run w).2 = (Deque.run c l w).2 ∧ Rel c (q.run w).1 (Deque.run c l w).1 := by
  induction w generalizing q l with
  | nil => exact ⟨rfl, r⟩
  | cons o os ih =>
    have ⟨h1, h2⟩ := step_refines hc r o
    have ⟨i1, i2⟩ := ih h2
    exact ⟨congr (congrArg List.cons h1) i1, i2⟩

end HsVerif.Model.Queue
