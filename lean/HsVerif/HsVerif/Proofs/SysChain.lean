import HsVerif.Proofs.ReplicaSync
import HsVerif.Proofs.SysRecovery
/-!
From a synchronised view to a NEW COMMIT (C05), for ANY state that satisfies the phase predicates and ANY leader schedule
(chained or simplified HotStuff, plain timeout rule, ECDSA / EdDSA; the replicas of `C.honest`, at least a quorum, run the
model: `RotCfg`).  What one replica's step does is in Proofs/ReplicaSync.lean.

`ldr C u` leads view `u`.  The votes for the block `B` of view `w` go to the COLLECTOR `c = ldr C (w + 1)`, which certifies `B`,
proposes `B'` and keeps its own vote for `B'` or sends it to the next collector `c2 = ldr C (w + 2)`.  Phase A at `(w, B)` is
`PhaseAColl M`: every participant is synchronised at `(w, B)` (`SyncR`), and those in `M` — the ones that collect votes later —
also carry what a collector needs (`SyncM`: the `markWalk` bookkeeping of `createAndPropose`, a high QC not below the
certificate of `B`).  A view is two rounds: the votes reach the collector, then its proposals reach the others.  With every
participant in `M` phase A is `PhaseARot`; for a fixed leader `L` (the constant schedule, `M = (· = L)`, `c2 = c = L`, no vote ever
in flight during a proposal round) it is `PhaseA` / `PhaseB`.

Replica states in the invariants are stored WITHOUT the global table.  Existential witnesses for states in `refine ⟨…⟩` are written
out: a later component such as `hch : sc.chain = …` otherwise fixes the witness by unification.
-/
namespace HsVerif.Model

/-- the leader of view `u` (the same for every replica of the configuration) -/
def ldr (C : SysCfg) (u : Nat) : Nat := (C.rcfg 0).leader u
theorem ldr_eq (C : SysCfg) (j u : Nat) : (C.rcfg j).leader u = ldr C u := rfl

theorem HappyLive.ldr {C : SysCfg} {L : Nat} (h : HappyLive C L) (u : Nat) : ldr C u = L := h.lead 0 u

/-- an order of the replicas other than the collector `L`: each exactly once -/
structure OthersOrder (C : SysCfg) (L : Nat) (ord : List Nat) : Prop where
  nodup : ord.Nodup
  mem : ∀ j ∈ ord, j ∈ C.honest ∧ j ≠ L
  full : ∀ j ∈ C.honest, j ≠ L → j ∈ ord

theorem OthersOrder.quorum_rot {C : SysCfg} {L : Nat} {ord : List Nat} (h : OthersOrder C L ord) (hC : RotCfg C) :
    (C.rcfg 0).cfg.quorum ≤ ord.length + 1 := by
  have h1 : C.honest.length ≤ (L :: ord).length := by
    apply nodup_length_le _ _ hC.nodup
    intro x hx
    by_cases hxl : x = L
    · simp [hxl]
    · exact List.mem_cons_of_mem _ (h.full x hx hxl)
  have := hC.qh
  simp only [List.length_cons] at h1
  omega

theorem OthersOrder.quorum {C : SysCfg} {L : Nat} {ord : List Nat} (h : OthersOrder C L ord) (hC : HappyCfg C L) :
    (C.rcfg L).cfg.quorum ≤ ord.length + 1 :=
  h.quorum_rot hC.toLive.toRot

/-- the vote of replica `j` (signature bytes `bt j`) for the block named `h`, on its way to the collector `L` -/
def voteMsg (C : SysCfg) (L : Nat) (h : Hash) (bt : Nat → Nat) (j : Nat) : Nat × Ev :=
  (L, Ev.vote j (some (.multi C.scheme [⟨j, bt j⟩])) h false)

def propMsg (L : Nat) (B' : Block) (j : Nat) : Nat × Ev := (j, Ev.propose L B' none)

/-- the vote of `c` for the block named `h`, on its way to `c2` -/
def ownVoteMsg (C : SysCfg) (c2 c : Nat) (h : Hash) (bytes : Nat) : Nat × Ev :=
  (c2, Ev.vote c (some (.multi C.scheme [⟨c, bytes⟩])) h false)

/-- the vote message of `j` for the block named `h`: none when `j` is the collector `c2` itself (it keeps its vote) -/
def voteTo (C : SysCfg) (c2 : Nat) (h : Hash) (bt : Nat → Nat) (j : Nat) : Msgs :=
  if j = c2 then [] else [voteMsg C c2 h bt j]

/-- what replica `j` sends to the fixed leader after the proposal `B'`: its new view and its vote -/
def ackMsgs (C : SysCfg) (L : Nat) (B' : Block) (bt : Nat → Nat) (j : Nat) : Msgs :=
  [(L, Ev.newview j { qc := some B'.qc }), voteMsg C L B'.hash bt j]

theorem voteTo_self (C : SysCfg) (c : Nat) (h : Hash) (bt : Nat → Nat) : voteTo C c h bt c = [] := if_pos rfl

theorem voteTo_congr (C : SysCfg) (c2 : Nat) (h : Hash) (bt bt' : Nat → Nat) (j : Nat) (e : bt' j = bt j) :
    voteTo C c2 h bt' j = voteTo C c2 h bt j := by
  unfold voteTo voteMsg; rw [e]

/-- replica `c` holds exactly its own valid vote for the block named `h` -/
def OwnVote (C : SysCfg) (c : Nat) (h : Hash) (σ : SysState) : Prop :=
  ∃ sc sg, σ.reps.lookup c = some sc ∧ sc.votes.lookup h = some [(c, sg)] ∧
    HonestSig (fun b => σ.truth.lookup b) (C.rcfg c).cfg c (blkMsg h) sg

/-- **phase A at `(w, B)`**, any leader schedule: every participant is synchronised at `(w, B)` (`SyncR`), those in `M` can
collect votes and propose later (`SyncM`); the COLLECTOR of the votes for `B` is the leader of view `w + 1` — a participant in
`M`, holding its own vote —; the signature `bt j` of every other participant `j` over `B` is in the global table -/
structure PhaseAColl (M : Nat → Prop) (C : SysCfg) (w N : Nat) (B P : Block) (bt : Nat → Nat) (σ : SysState) : Prop where
  fresh : FreshL σ.truth σ.nextBytes
  keys : σ.reps.map (·.1) = C.honest
  cmem : ldr C (w + 1) ∈ C.honest
  cM : M (ldr C (w + 1))
  reps : ∀ j ∈ C.honest, ∃ s, σ.reps.lookup j = some s ∧ SyncR w N B P s ∧ (M j → SyncM w N B P s)
  own : OwnVote C (ldr C (w + 1)) B.hash σ
  bytes : ∀ j ∈ C.honest, j ≠ ldr C (w + 1) → σ.truth.lookup (bt j) = some ⟨j, blkMsg B.hash⟩

/-- **phase A at `(w, B)` with rotating leaders**: every participant is synchronised at `(w, B)` (`SyncM`); the COLLECTOR of the
votes for `B` is the leader of view `w + 1` — a participant, holding its own vote —; the signature `bt j` of every other
participant `j` over `B` is in the global table -/
structure PhaseARot (C : SysCfg) (w N : Nat) (B P : Block) (bt : Nat → Nat) (σ : SysState) : Prop where
  fresh : FreshL σ.truth σ.nextBytes
  keys : σ.reps.map (·.1) = C.honest
  cmem : ldr C (w + 1) ∈ C.honest
  reps : ∀ j ∈ C.honest, ∃ s, σ.reps.lookup j = some s ∧ SyncM w N B P s
  own : OwnVote C (ldr C (w + 1)) B.hash σ
  bytes : ∀ j ∈ C.honest, j ≠ ldr C (w + 1) → σ.truth.lookup (bt j) = some ⟨j, blkMsg B.hash⟩

/-- **phase A at `(w, B)`, fixed leader** (the states): every replica is synchronised at view `w` on block `B` (`SyncR`); the
leader `L` proposed `B` and holds its own vote; the signature `bt j` of every other replica `j` over `B` is
in the global table -/
structure PhaseA (C : SysCfg) (L w N : Nat) (B P : Block) (bt : Nat → Nat) (σ : SysState) : Prop where
  fresh : FreshL σ.truth σ.nextBytes
  keys : σ.reps.map (·.1) = C.honest
  others : ∀ j ∈ C.honest, j ≠ L → ∃ s, σ.reps.lookup j = some s ∧ SyncR w N B P s
  leader : ∃ sL sgL, σ.reps.lookup L = some sL ∧
    SyncL (C.rcfg L) w N B P [(L, sgL)] { sL with truth := σ.truth, nextBytes := σ.nextBytes }
  bytes : ∀ j ∈ C.honest, j ≠ L → σ.truth.lookup (bt j) = some ⟨j, blkMsg B.hash⟩

/-- **phase B at `(w + 1, B')`, fixed leader** (the states): the leader has certified `B`, is synchronised at view `w + 1` on
its proposal `B'` (parent `B`, certificate `QC(B)`, which verifies against the global table) and holds its
own vote for it; everybody else is still synchronised at `(w, B)` -/
structure PhaseB (C : SysCfg) (L w N : Nat) (B' B P : Block) (σ : SysState) : Prop where
  fresh : FreshL σ.truth σ.nextBytes
  keys : σ.reps.map (·.1) = C.honest
  others : ∀ j ∈ C.honest, j ≠ L → ∃ s, σ.reps.lookup j = some s ∧ SyncR w N B P s
  leader : ∃ sL sgL, σ.reps.lookup L = some sL ∧
    SyncL (C.rcfg L) (w + 1) (N + 3) B' B [(L, sgL)] { sL with truth := σ.truth, nextBytes := σ.nextBytes }
  blk : B'.hash = pname (w + 1) ∧ B'.parent = B.hash ∧ B'.view = w + 1
  qc : ∃ sgq, B'.qc = ⟨some sgq, B.view, B.hash⟩ ∧
    verify (fun b => σ.truth.lookup b) (C.rcfg L).cfg sgq (blkMsg B.hash) = true ∧ (C.rcfg L).cfg.quorum ≤ sgq.len

section
variable {M : Nat → Prop} {C : SysCfg} {L w N : Nat} {B P : Block} {bt : Nat → Nat} {σ : SysState}

theorem PhaseARot.toColl (h : PhaseARot C w N B P bt σ) : PhaseAColl (fun _ => True) C w N B P bt σ :=
  ⟨h.fresh, h.keys, h.cmem, trivial, fun j hj => let ⟨s, h1, h2⟩ := h.reps j hj; ⟨s, h1, h2.core, fun _ => h2⟩, h.own, h.bytes⟩

theorem PhaseAColl.toPhaseARot (h : PhaseAColl (fun _ => True) C w N B P bt σ) : PhaseARot C w N B P bt σ :=
  ⟨h.fresh, h.keys, h.cmem, fun j hj => let ⟨s, h1, _, h3⟩ := h.reps j hj; ⟨s, h1, h3 trivial⟩, h.own, h.bytes⟩

/-- fewer later collectors -/
theorem PhaseAColl.imp {M' : Nat → Prop} (hM : ∀ j, M' j → M j) (hc : M' (ldr C (w + 1))) (h : PhaseAColl M C w N B P bt σ) :
    PhaseAColl M' C w N B P bt σ :=
  ⟨h.fresh, h.keys, h.cmem, hc, fun j hj => let ⟨s, h1, h2, h3⟩ := h.reps j hj; ⟨s, h1, h2, fun hm => h3 (hM j hm)⟩, h.own, h.bytes⟩

/-- the fixed leader's phase A is `PhaseAColl` for the constant schedule, with the leader the only collector: its `SyncL` is `SyncM`
(it proposed `B`, so the marking walk stops at once) and `OwnVote` -/
theorem PhaseA.toColl (hC : HappyLive C L) (h : PhaseA C L w N B P bt σ) : PhaseAColl (· = L) C w N B P bt σ := by
  have e := hC.ldr (w + 1)
  obtain ⟨sL, sgL, hl, hS⟩ := h.leader
  have hc := hS.core
  have hR : SyncR w N B P sL :=
    ⟨hc.view, hc.lastVoted, hc.queue, hc.wvc, hc.wprop, hc.fetch, hc.bhash, hc.bview, hc.hasB, hc.hasP, hc.pview, hc.hq, hc.lock,
      hc.names, hc.small⟩
  refine ⟨h.fresh, h.keys, e ▸ hC.leader, e, ?_, ?_, fun j hj hjL => h.bytes j hj (e ▸ hjL)⟩
  · intro j hj
    by_cases hjL : j = L
    · subst hjL
      exact ⟨sL, hl, hR, fun _ => ⟨hR, hS.toC.mark, hS.hqge⟩⟩
    · obtain ⟨s, h1, h2⟩ := h.others j hj hjL
      exact ⟨s, h1, h2, fun hm => absurd hm hjL⟩
  · rw [e]
    exact ⟨sL, sgL, hl, hS.votes, (hS.valid (L, sgL) (by simp)).2⟩

/-- … and back: `SyncL` asks in addition for the view of the leader's last proposal -/
theorem PhaseAColl.toPhaseA (hC : HappyLive C L) (h : PhaseAColl (· = L) C w N B P bt σ)
    (hlp : ∀ sc, σ.reps.lookup L = some sc → sc.lastProposed = w) : PhaseA C L w N B P bt σ := by
  have e := hC.ldr (w + 1)
  obtain ⟨sc, sg, h1, h2, h3⟩ := h.own
  rw [e] at h1 h2 h3
  obtain ⟨sc', h1', _, hM⟩ := h.reps L hC.leader
  rw [h1] at h1'; cases h1'
  have hM := hM rfl
  refine ⟨h.fresh, h.keys, ?_, ⟨sc, sg, h1, syncR_with_table hM.core _ _, hlp sc h1, h2, ?_, by simp, hM.hqge⟩,
    fun j hj hjL => h.bytes j hj (e ▸ hjL)⟩
  · intro j hj _
    obtain ⟨s, q1, q2, _⟩ := h.reps j hj
    exact ⟨s, q1, q2⟩
  · intro x hx
    simp only [List.mem_singleton] at hx
    subst hx
    exact ⟨hC.has L L hC.leader, h3⟩

theorem PhaseAColl.syncC (hC : RotCfg C) (h : PhaseAColl M C w N B P bt σ) :
    ∃ sc sg, σ.reps.lookup (ldr C (w + 1)) = some sc ∧
      SyncC (C.rcfg (ldr C (w + 1))) w N B P [(ldr C (w + 1), sg)] { sc with truth := σ.truth, nextBytes := σ.nextBytes } := by
  obtain ⟨sc, sg, h1, h2, h3⟩ := h.own
  obtain ⟨sc', h1', _, hM⟩ := h.reps _ h.cmem
  rw [h1] at h1'; cases h1'
  have hM := hM h.cM
  refine ⟨sc, sg, h1, ⟨syncR_with_table hM.core _ _, hM.mark, h2, ?_, by simp, hM.hqge⟩⟩
  intro x hx
  simp only [List.mem_singleton] at hx
  subst hx
  exact ⟨hC.has _ _ h.cmem, h3⟩

theorem PhaseAColl.hasB (h : PhaseAColl M C w N B P bt σ) (j : Nat) (hj : j ∈ C.honest) (s : RState) (hl : σ.reps.lookup j = some s) :
    s.chain.blocks.lookup B.hash = some B ∧ B.view = w := by
  obtain ⟨s', h1, h2, _⟩ := h.reps j hj
  rw [hl] at h1; cases h1
  exact ⟨h2.hasB, h2.bview⟩

end

/-- what a view of the chain does to a replica's committer, relative to its state `s0` before: the store
grows; a walk to an uncommitted block `Z` stays possible (while `w ≤ Z.view + 1`); and if `B ← P ← Z` are
consecutive certified views, `Z` is committed -/
structure CommitStep (w : Nat) (B P : Block) (s0 s : RState) : Prop where
  store : StoreLe s0.chain.blocks s.chain.blocks
  walk : ∀ Z : Block, WalkZ Z s0 → w ≤ Z.view + 1 → WalkZ Z s
  commit : ∀ Z : Block, WalkZ Z s0 → Link B P → Link P Z → s0.chain.blocks.lookup Z.hash = some Z → s.committed = Z

/-- three `CommitStep`s in a row (views `w`, `w + 1`, `w + 2`, blocks linked `B ← B1 ← B2`) commit `B` at every replica of `H` -/
theorem three_views_commit {H : List Nat} {w : Nat} {B P B1 B2 : Block} {σ0 σ1 σ2 σ3 : SysState}
    (h1 : ∀ j ∈ H, ∃ s0 s, σ0.reps.lookup j = some s0 ∧ σ1.reps.lookup j = some s ∧ CommitStep w B P s0 s)
    (h2 : ∀ j ∈ H, ∃ s0 s, σ1.reps.lookup j = some s0 ∧ σ2.reps.lookup j = some s ∧ CommitStep (w + 1) B1 B s0 s)
    (h3 : ∀ j ∈ H, ∃ s0 s, σ2.reps.lookup j = some s0 ∧ σ3.reps.lookup j = some s ∧ CommitStep (w + 1 + 1) B2 B1 s0 s)
    (l1 : Link B1 B) (l2 : Link B2 B1)
    (hasB : ∀ j ∈ H, ∀ s, σ0.reps.lookup j = some s → s.chain.blocks.lookup B.hash = some B ∧ B.view = w)
    (hwalk : ∀ j ∈ H, ∃ s, σ0.reps.lookup j = some s ∧ WalkZ B s) :
    ∀ j ∈ H, ∃ s0 s, σ0.reps.lookup j = some s0 ∧ σ3.reps.lookup j = some s ∧
      s.committed = B ∧ s0.committed.view < s.committed.view := by
  intro j hj
  obtain ⟨s0, s1, d1, d2, d3⟩ := h1 j hj
  obtain ⟨s1', s2, e1, e2, e3⟩ := h2 j hj
  obtain ⟨s2', s3, f1, f2, f3⟩ := h3 j hj
  rw [d2] at e1; cases e1
  rw [e2] at f1; cases f1
  obtain ⟨s0', g1, g2⟩ := hwalk j hj
  rw [d1] at g1; cases g1
  obtain ⟨hB0, hBv⟩ := hasB j hj s0 d1
  have w1 := d3.walk B g2 (by omega)
  have w2 := e3.walk B w1 (by omega)
  have hcm := f3.commit B w2 l2 l1 (e3.store _ _ (d3.store _ _ hB0))
  exact ⟨s0, s3, d1, f2, hcm, by rw [hcm]; exact g2.below⟩

/-- `three_views_commit` for the block `b'` of view `v + 1` proposed after a recovery, read against what the replicas `s0` of the
timed-out view `v` had committed -/
theorem committed_after_recovery {H : List Nat} {v : Nat} {b' : Block} {s0 : Nat → RState} {σ0 σ : SysState}
    (hcm : ∀ j ∈ H, ∃ t0 t, σ0.reps.lookup j = some t0 ∧ σ.reps.lookup j = some t ∧ t.committed = b' ∧
      t0.committed.view < t.committed.view)
    (hv : b'.view = v + 1) (hold : ∀ j ∈ H, (s0 j).committed.view ≤ v) :
    ∀ j ∈ H, ∃ s, σ.reps.lookup j = some s ∧ s.committed = b' ∧ s.committed.view = v + 1 ∧
      (s0 j).committed.view < s.committed.view := by
  intro j hj
  obtain ⟨_, s, _, d2, d3, _⟩ := hcm j hj
  have hsv : s.committed.view = v + 1 := by rw [d3]; exact hv
  exact ⟨s, d2, d3, hsv, by rw [hsv]; have := hold j hj; omega⟩

/-- the votes round with collector `c` (next collector `c2`) after the votes of `done` have arrived -/
structure ABInvR (C : SysCfg) (c c2 w N : Nat) (B P : Block) (σ0 : SysState) (sc0 : RState) (done : List Nat)
    (x : SysState × Msgs) : Prop where
  fresh : FreshL x.1.truth x.1.nextBytes
  keys : x.1.reps.map (·.1) = C.honest
  table : ∀ b a, σ0.truth.lookup b = some a → x.1.truth.lookup b = some a
  others : ∀ j, j ≠ c → x.1.reps.lookup j = σ0.reps.lookup j
  coll : done.length + 1 < (C.rcfg c).cfg.quorum → x.2 = [] ∧ ∃ sc vs, x.1.reps.lookup c = some sc ∧
    SyncC (C.rcfg c) w N B P vs { sc with truth := x.1.truth, nextBytes := x.1.nextBytes } ∧
    vs.map (·.1) = c :: done ∧ sc.chain = sc0.chain ∧ sc.committed = sc0.committed
  moved : (C.rcfg c).cfg.quorum ≤ done.length + 1 → ∃ (B' : Block) (sc : RState) (sgq : Sig),
    x.1.reps.lookup c = some sc ∧ SyncM (w + 1) (N + 3) B' B sc ∧
    B'.hash = pname (w + 1) ∧ B'.parent = B.hash ∧ B'.view = w + 1 ∧ B'.qc = ⟨some sgq, B.view, B.hash⟩ ∧
    verify (fun b => x.1.truth.lookup b) (C.rcfg c).cfg sgq (blkMsg B.hash) = true ∧ (C.rcfg c).cfg.quorum ≤ sgq.len ∧
    CommitStep w B P sc0 sc ∧
    (c2 = c → x.2 = (othersOf C c).map (propMsg c B') ∧ ∃ sgL, sc.votes.lookup B'.hash = some [(c, sgL)] ∧
      HonestSig (fun b => x.1.truth.lookup b) (C.rcfg c).cfg c (blkMsg B'.hash) sgL) ∧
    (c2 ≠ c → ∃ bytes', x.1.truth.lookup bytes' = some ⟨c, blkMsg B'.hash⟩ ∧
      x.2 = (othersOf C c).map (propMsg c B') ++ [ownVoteMsg C c2 c B'.hash bytes'])

/-- beside `ABInvR`: a collector that has moved on proposed in view `w + 1` (what the fixed leader's `SyncL` records) -/
def CollProposed (C : SysCfg) (c w : Nat) (done : List Nat) (x : SysState × Msgs) : Prop :=
  (C.rcfg c).cfg.quorum ≤ done.length + 1 → ∀ sc, x.1.reps.lookup c = some sc → sc.lastProposed = w + 1

/-- what arrives at a collector that has moved on and changes nothing there (a late vote, an old new-view message) keeps `ABInvR`
and `CollProposed`, whichever votes `done'` — a quorum with the collector's own — are counted as arrived -/
theorem ABInvR.late (k : Keys) {C : SysCfg} {c c2 w N : Nat} {B P : Block} {σ0 : SysState} {sc0 : RState} {done : List Nat}
    {σ : SysState} {acc : Msgs} (hinv : ABInvR C c c2 w N B P σ0 sc0 done (σ, acc)) (hlp : CollProposed C c w done (σ, acc))
    (hge : (C.rcfg c).cfg.quorum ≤ done.length + 1) (done' : List Nat) (hge' : (C.rcfg c).cfg.quorum ≤ done'.length + 1) (e : Ev)
    (hnoop : ∀ (B' : Block) (sc : RState) (sgq : Sig), σ.reps.lookup c = some sc → SyncM (w + 1) (N + 3) B' B sc →
      B'.qc = ⟨some sgq, B.view, B.hash⟩ → CommitStep w B P sc0 sc →
      step k (C.rcfg c) { sc with truth := σ.truth, nextBytes := σ.nextBytes } e =
        ({ ({ sc with truth := σ.truth, nextBytes := σ.nextBytes } : RState) with out := [] }, [])) :
    ABInvR C c c2 w N B P σ0 sc0 done' (deliverAll k C (σ, acc) [(c, e)]) ∧
    CollProposed C c w done' (deliverAll k C (σ, acc) [(c, e)]) := by
  obtain ⟨B', sc, sgq, hsc, hsync, hhash, hpar, hview, hqc, hver, hsgq, hcs, hkeep, hsend⟩ := hinv.moved hge
  obtain ⟨σ', hd, ⟨rj, ro, rk, r2, r3⟩, rf, rt⟩ := deliver_frame k C σ acc c e sc hsc hinv.fresh
  have hlate := hnoop B' sc sgq hsc hsync hqc hcs
  rw [hd, hlate]
  rw [hlate] at rj r2 r3
  dsimp only at rj r2 r3 ⊢
  refine ⟨⟨rf, rk.trans hinv.keys, fun b a hb => rt b a (hinv.table b a hb),
    fun i hi => (ro i hi).trans (hinv.others i hi), fun hlt' => by omega, ?_⟩,
    fun _ sc' h => by rw [← Option.some.inj (rj.symm.trans h)]; exact hlp hge sc hsc⟩
  intro _
  refine ⟨B', ({ sc with truth := σ.truth, nextBytes := σ.nextBytes, out := [] } : RState), sgq,
    rj, ⟨?_, hsync.mark, hsync.hqge⟩, hhash, hpar, hview, hqc, by rw [r2]; exact hver, hsgq,
    ⟨hcs.store, fun Z hZ h => ⟨(hcs.walk Z hZ h).walk, (hcs.walk Z hZ h).below⟩, hcs.commit⟩, ?_, ?_⟩
  · have hc := hsync.core
    exact ⟨hc.view, hc.lastVoted, hc.queue, hc.wvc, hc.wprop, hc.fetch, hc.bhash, hc.bview, hc.hasB, hc.hasP, hc.pview, hc.hq,
      hc.lock, hc.names, hc.small⟩
  · intro h
    obtain ⟨e1, sgL, e2, e3⟩ := hkeep h
    exact ⟨by simp [route]; exact e1, sgL, e2, by rw [r2]; exact e3⟩
  · intro h
    obtain ⟨bytes', e1, e2⟩ := hsend h
    exact ⟨bytes', by rw [r2]; exact e1, by simp [route]; exact e2⟩

/-- one vote reaches the collector `c` in the votes round at `(w, B)`: `ABInvR` and `CollProposed` are kept, `done` grows by `j` -/
theorem ab_step (k : Keys) (C : SysCfg) (c c2 w N : Nat) (hC : RotCfg C) (hcm : c ∈ C.honest) (hc1 : ldr C (w + 1) = c)
    (hc2 : ldr C (w + 1 + 1) = c2) (B P : Block) (bt : Nat → Nat)
    (σ0 : SysState) (sc0 : RState) (hN : N + 12 ≤ 99999)
    (hbt : ∀ j ∈ C.honest, j ≠ c → σ0.truth.lookup (bt j) = some ⟨j, blkMsg B.hash⟩)
    (done : List Nat) (σ : SysState) (acc : Msgs) (j : Nat)
    (hinv : ABInvR C c c2 w N B P σ0 sc0 done (σ, acc)) (hlp : CollProposed C c w done (σ, acc))
    (hj : j ∈ C.honest) (hjL : j ≠ c) (hnew : j ∉ done) :
    ABInvR C c c2 w N B P σ0 sc0 (done ++ [j]) (deliverAll k C (σ, acc) [voteMsg C c B.hash bt j]) ∧
    CollProposed C c w (done ++ [j]) (deliverAll k C (σ, acc) [voteMsg C c B.hash bt j]) := by
  have hq := hC.quorum c
  have hbj : σ.truth.lookup (bt j) = some ⟨j, blkMsg B.hash⟩ := hinv.table _ _ (hbt j hj hjL)
  have hhasj : (C.rcfg c).cfg.has j = true := hC.has j c hj
  have hsch : (C.rcfg c).scheme = C.scheme := rfl
  have hlen : (done ++ [j]).length = done.length + 1 := by simp
  by_cases hlt : done.length + 1 < (C.rcfg c).cfg.quorum
  · unfold CollProposed
    rw [hlen]
    obtain ⟨hacc, sc, vs, hl, hS, hvs, hch, hcm'⟩ := hinv.coll hlt
    obtain ⟨σ', hd, ⟨rj, ro, rk, r2, r3⟩, rf, rt⟩ := deliver_frame k C σ acc c (Ev.vote j (some (.multi C.scheme [⟨j, bt j⟩])) B.hash false) sc hl hinv.fresh
    have hacc' : acc = [] := hacc
    have hvlen : vs.length = done.length + 1 := by
      have := congrArg List.length hvs; simpa using this
    have hnewv : ∀ v ∈ vs, v.1 ≠ j := by
      intro v hv e
      have : v.1 ∈ vs.map (·.1) := List.mem_map_of_mem hv
      rw [hvs, e] at this
      simp only [List.mem_cons] at this
      rcases this with h | h
      · exact hjL h
      · exact hnew h
    have hview : sc.view = w := hS.core.view
    show ABInvR C c c2 w N B P σ0 sc0 (done ++ [j]) (deliverAll k C (σ, acc) [(c, _)]) ∧
      (_ → ∀ sc', (deliverAll k C (σ, acc) [(c, _)]).1.reps.lookup c = some sc' → _)
    rw [hd]
    by_cases hlt2 : done.length + 2 < (C.rcfg c).cfg.quorum
    · obtain ⟨V, hstep, hS'⟩ := coll_vote_add k (C.rcfg c) w N j j (bt j) B P vs
        { sc with truth := σ.truth, nextBytes := σ.nextBytes } hC.scheme hS hhasj hbj hnewv (by rw [hvlen]; exact hlt2)
      rw [hsch] at hstep
      rw [hstep] at rj r2 r3 ⊢
      dsimp only at rj r2 r3 ⊢
      refine ⟨⟨rf, rk.trans hinv.keys, fun b a hb => rt b a (hinv.table b a hb),
        fun i hi => (ro i hi).trans (hinv.others i hi), ?_, ?_⟩, fun hge => by omega⟩
      · intro _
        refine ⟨by simp [route, hacc'], ({ sc with truth := σ.truth, nextBytes := σ.nextBytes, votes := V, out := [] } : RState),
          vs ++ [(j, Sig.multi C.scheme [⟨j, bt j⟩])],
          rj, ?_, ?_, hch, hcm'⟩
        · rw [r2, r3]; exact syncC_proj rfl hS'
        · simp [hvs]
      · intro hge
        omega
    · -- the quorum
      have hZ' : ∀ Z, WalkZ Z sc0 → WalkZ Z { sc with truth := σ.truth, nextBytes := σ.nextBytes } := fun Z hZ =>
        ⟨by show cmWalk (sc.chain.blocks.length + 2) sc.chain.blocks sc.committed.view Z = true
            rw [hch, hcm']; exact hZ.walk,
         by show sc.committed.view < _; rw [hcm']; exact hZ.below⟩
      have hld1 : (C.rcfg c).leader (({ sc with truth := σ.truth, nextBytes := σ.nextBytes } : RState).view + 1) = (C.rcfg c).id := by
        show ldr C (sc.view + 1) = c; rw [hview]; exact hc1
      obtain ⟨sgq, bytes', B', q1, q2, q3, q4, q5, q6, q7, qlp, qt, q8, qself, qsend, q12⟩ :=
        coll_vote_quorum k (C.rcfg c) c2 w N j j (bt j) B P vs { sc with truth := σ.truth, nextBytes := σ.nextBytes }
          hC.scheme hC.agg hC.rules (hC.has c c hcm) hld1 (by show ldr C (sc.view + 1 + 1) = c2; rw [hview, hc2]) hq.1 hS hinv.fresh hN
          hhasj hbj hnewv (by rw [hvlen]; omega)
      rw [hsch] at q5 q7 qlp qt q8 qself qsend q12
      refine ⟨⟨rf, rk.trans hinv.keys, fun b a hb => rt b a (hinv.table b a hb),
        fun i hi => (ro i hi).trans (hinv.others i hi), ?_, ?_⟩,
        fun _ sc' h => by rw [Option.some.inj (rj.symm.trans h)] at qlp; exact qlp⟩
      · intro hlt'
        omega
      · intro _
        refine ⟨B', _, sgq, rj, ⟨q7, ?_, by rw [q8, q4]; exact Nat.le_refl _⟩, q1, q2, q3, q4,
          by rw [r2]; exact q5, q6, ?_, ?_, ?_⟩
        · unfold markWalk
          rw [if_neg (by rw [qlp, q3]; omega)]
        · refine ⟨?_, fun Z hZ => (q12 Z (hZ' Z hZ)).1, fun Z hZ l1 l2 l3 =>
            ((q12 Z (hZ' Z hZ)).2 l1 l2 (by show sc.chain.blocks.lookup _ = _; rw [hch]; exact l3)).1⟩
          intro h b hb
          exact (step_ext k (C.rcfg c) { sc with truth := σ.truth, nextBytes := σ.nextBytes } _ hinv.fresh.2).store h b
            (by show sc.chain.blocks.lookup h = some b; rw [hch]; exact hb)
        · intro hcc
          obtain ⟨g1, g2⟩ := qself hcc.symm
          refine ⟨?_, Sig.multi C.scheme [⟨c, bytes'⟩], g1, Or.inl ⟨hC.scheme, bytes', rfl, by rw [r2]; exact qt⟩⟩
          rw [hacc', List.nil_append]; exact g2 C
        · intro hcc
          refine ⟨bytes', by rw [r2]; exact qt, ?_⟩
          rw [hacc', List.nil_append]; exact qsend (fun e => hcc e.symm) C
  · exact hinv.late k hlp (by omega) (done ++ [j]) (by rw [hlen]; omega) _ fun B' sc sgq _ hsync hqc _ =>
      vote_late_noop k (C.rcfg c) { sc with truth := σ.truth, nextBytes := σ.nextBytes } j j (bt j) B.hash B
        hsync.core.queue (by have := hsync.core.hasP; rw [hqc] at this; exact this) hsync.hqge

theorem PhaseAColl.ab_init {M : Nat → Prop} {C : SysCfg} {w N : Nat} {B P : Block} {bt : Nat → Nat} {σ : SysState} (hC : RotCfg C)
    (hA : PhaseAColl M C w N B P bt σ) :
    ∃ sc0, σ.reps.lookup (ldr C (w + 1)) = some sc0 ∧
      ABInvR C (ldr C (w + 1)) (ldr C (w + 1 + 1)) w N B P σ sc0 [] (σ, []) ∧ CollProposed C (ldr C (w + 1)) w [] (σ, []) := by
  obtain ⟨sc0, sg, hl0, hS0⟩ := hA.syncC hC
  have hq2 := (hC.quorum (ldr C (w + 1))).1
  refine ⟨sc0, hl0, ⟨hA.fresh, hA.keys, fun _ _ h => h, fun _ _ => rfl, ?_, ?_⟩, fun h => by simp at h; omega⟩
  · intro _
    exact ⟨rfl, sc0, [(_, sg)], hl0, hS0, rfl, rfl, rfl⟩
  · intro h
    simp at h; omega

/-- the votes round: from phase A at `(w, B)` the votes of `ord`, in that order, lead to `ABInvR … ord` (collecting or moved on, by the
length of `ord`); `σ0`, `sc0` of `ABInvR` are the state and the collector's state at the start of the round -/
theorem chain_round_AB {M : Nat → Prop} (k : Keys) (C : SysCfg) (w N : Nat) (hC : RotCfg C) (B P : Block) (bt : Nat → Nat)
    (σ : SysState) (hN : N + 12 ≤ 99999) (hA : PhaseAColl M C w N B P bt σ)
    (ord : List Nat) (hnd : ord.Nodup) (hord : ∀ j ∈ ord, j ∈ C.honest ∧ j ≠ ldr C (w + 1)) :
    ∃ sc0, σ.reps.lookup (ldr C (w + 1)) = some sc0 ∧
      ABInvR C (ldr C (w + 1)) (ldr C (w + 1 + 1)) w N B P σ sc0 ord
        (deliverAll k C (σ, []) (ord.map (voteMsg C (ldr C (w + 1)) B.hash bt))) ∧
      CollProposed C (ldr C (w + 1)) w ord (deliverAll k C (σ, []) (ord.map (voteMsg C (ldr C (w + 1)) B.hash bt))) := by
  obtain ⟨sc0, hl0, hinit⟩ := hA.ab_init hC
  exact ⟨sc0, hl0, deliver_list k C (voteMsg C (ldr C (w + 1)) B.hash bt) (fun j => j ∈ C.honest ∧ j ≠ ldr C (w + 1))
    (fun done x => ABInvR C (ldr C (w + 1)) (ldr C (w + 1 + 1)) w N B P σ sc0 done x ∧ CollProposed C (ldr C (w + 1)) w done x)
    (fun done σ' acc j h hj hn =>
      ab_step k C _ _ w N hC hA.cmem rfl rfl B P bt σ sc0 hN hA.bytes done σ' acc j h.1 h.2 hj.1 hj.2 hn)
    ord (σ, []) hinit hnd hord⟩

/-- a proposal round (proposer `c`, next collector `c2`), the proposal of the block named `h` having reached the replicas `done`:
`Post j s0 s` is what the step did to replica `j`, `pre j` what it sent before its vote; `c2` keeps its vote; in flight are the
proposer's own vote (if it goes to another replica) and what the replicas of `done` have sent -/
structure PropInv (C : SysCfg) (c c2 : Nat) (h : Hash) (pre : Nat → Msgs) (Post : Nat → RState → RState → Prop) (y : SysState)
    (bt' : Nat → Nat) (done : List Nat) (x : SysState × Msgs) : Prop where
  fresh : FreshL x.1.truth x.1.nextBytes
  keys : x.1.reps.map (·.1) = C.honest
  table : ∀ b a, y.truth.lookup b = some a → x.1.truth.lookup b = some a
  coll : x.1.reps.lookup c = y.reps.lookup c
  undone : ∀ j, j ≠ c → j ∉ done → x.1.reps.lookup j = y.reps.lookup j
  did : ∀ j ∈ done, ∃ s0 s, y.reps.lookup j = some s0 ∧ x.1.reps.lookup j = some s ∧ Post j s0 s ∧
    (j ≠ c2 → x.1.truth.lookup (bt' j) = some ⟨j, blkMsg h⟩) ∧
    (j = c2 → ∃ sg, s.votes.lookup h = some [(c2, sg)] ∧
      HonestSig (fun b => x.1.truth.lookup b) (C.rcfg c2).cfg c2 (blkMsg h) sg)
  btc : c2 ≠ c → x.1.truth.lookup (bt' c) = some ⟨c, blkMsg h⟩
  pool : x.2 = voteTo C c2 h bt' c ++ done.flatMap (fun j => pre j ++ voteTo C c2 h bt' j)

/-- `hstep`: what the step of one replica does, from its state in `y` and any later table; `bytes'`: the signature of the proposer's
own vote when it is in flight to another replica `c2` -/
theorem prop_round (k : Keys) (C : SysCfg) (c c2 : Nat) (B' : Block) (pre : Nat → Msgs) (Post : Nat → RState → RState → Prop)
    (y : SysState) (bytes' : Nat) (hs : C.scheme ≠ .bls12)
    (hfr : FreshL y.truth y.nextBytes) (hkeys : y.reps.map (·.1) = C.honest)
    (hbc : c2 ≠ c → y.truth.lookup bytes' = some ⟨c, blkMsg B'.hash⟩)
    (hex : ∀ j ∈ C.honest, j ≠ c → ∃ s0, y.reps.lookup j = some s0)
    (hstep : ∀ (j : Nat) (s0 : RState) (T : List (Nat × Atom)) (nb : Nat), j ∈ C.honest → j ≠ c → y.reps.lookup j = some s0 →
      (∀ b a, y.truth.lookup b = some a → T.lookup b = some a) → FreshL T nb →
      ∃ bytes, Post j s0 (step k (C.rcfg j) { s0 with truth := T, nextBytes := nb } (.propose c B' none)).1 ∧
        (step k (C.rcfg j) { s0 with truth := T, nextBytes := nb } (.propose c B' none)).1.truth.lookup bytes =
          some ⟨j, blkMsg B'.hash⟩ ∧
        (j = c2 → (step k (C.rcfg j) { s0 with truth := T, nextBytes := nb } (.propose c B' none)).1.votes.lookup B'.hash =
          some [(j, .multi C.scheme [⟨j, bytes⟩])]) ∧
        route C j (step k (C.rcfg j) { s0 with truth := T, nextBytes := nb } (.propose c B' none)).2 =
          pre j ++ voteTo C c2 B'.hash (fun _ => bytes) j)
    (ord : List Nat) (hnd : ord.Nodup) (hord : ∀ j ∈ ord, j ∈ C.honest ∧ j ≠ c) :
    ∃ bt', PropInv C c c2 B'.hash pre Post y bt' ord
      (deliverAll k C (y, voteTo C c2 B'.hash (fun _ => bytes') c) (ord.map (propMsg c B'))) := by
  -- `deliver_each`, its precondition saying that the replica is in its state of `y` under some later table
  obtain ⟨bt, σ', hb0, hd, hf, hk, htab, hdid, _, hrest⟩ := deliver_each k C (.propose c B' none) (blkMsg B'.hash) ord
    (fun j s => ∃ s0 T nb, y.reps.lookup j = some s0 ∧ s = { s0 with truth := T, nextBytes := nb })
    (fun j b s => ∃ s0, y.reps.lookup j = some s0 ∧ Post j s0 s ∧
      (j = c2 → s.votes.lookup B'.hash = some [(j, .multi C.scheme [⟨j, b⟩])]))
    (fun b j => pre j ++ voteTo C c2 B'.hash (fun _ => b) j)
    (fun T => ∀ b a, y.truth.lookup b = some a → T.lookup b = some a) (fun _ _ h hT b a hb => hT b a (h b a hb))
    (by
      rintro j _ hj ⟨s0, T, nb, hl0, rfl⟩ hfT hT
      obtain ⟨bytes, h1, h2, h3, h4⟩ := hstep j s0 T nb (hord j hj).1 (hord j hj).2 hl0 hT hfT
      exact ⟨bytes, ⟨s0, hl0, h1, h3⟩, h2, h4⟩)
    (by rintro j _ T nb ⟨s0, _, _, hl0, rfl⟩; exact ⟨s0, T, nb, hl0, rfl⟩)
    y hnd hfr hkeys (fun _ _ h => h)
    (fun j hj => let ⟨s0, hl0⟩ := hex j (hord j hj).1 (hord j hj).2; ⟨s0, hl0, s0, s0.truth, s0.nextBytes, hl0, rfl⟩)
    (fun _ => bytes')
  have hbc' : bt c = bytes' := hb0 c (fun h => (hord c h).2 rfl)
  refine ⟨bt, ?_⟩
  rw [deliverAll_acc, show ord.map (propMsg c B') = ord.map (fun i => (i, Ev.propose c B' none)) from rfl, hd]
  refine ⟨hf, hk, htab, hrest c (fun h => (hord c h).2 rfl), fun j _ hjn => hrest j hjn, ?_,
    fun h => by rw [hbc']; exact htab _ _ (hbc h), ?_⟩
  · intro j hj
    obtain ⟨⟨s, hl, s0, hl0, hpost, hown⟩, hb⟩ := hdid j hj
    refine ⟨s0, s, hl0, hl, hpost, fun _ => hb, fun e => ?_⟩
    subst e
    exact ⟨_, hown rfl, Or.inl ⟨hs, bt j, rfl, hb⟩⟩
  · show voteTo C c2 B'.hash (fun _ => bytes') c ++ ord.flatMap (fun j => pre j ++ voteTo C c2 B'.hash (fun _ => bt j) j) = _
    rw [voteTo_congr C c2 _ (fun _ => bytes') bt c hbc']
    rfl

/-- a proposal round that has reached every participant but the proposer `c` ends in phase A at `(w, B)`, collector `c2`: `c` was
synchronised there before the round (`SyncM`, and it holds its own vote if it is the collector), the others by their step (`hpost`) -/
theorem PropInv.phaseA {M : Nat → Prop} {C : SysCfg} {c c2 w N : Nat} {B P : Block} {pre : Nat → Msgs}
    {Post : Nat → RState → RState → Prop} {y : SysState} {bt' : Nat → Nat} {ord : List Nat} {z : SysState × Msgs}
    (hz : PropInv C c c2 B.hash pre Post y bt' ord z) (hfull : ∀ j ∈ C.honest, j ≠ c → j ∈ ord)
    (hpost : ∀ j s0 s, Post j s0 s → SyncR w N B P s ∧ (M j → SyncM w N B P s))
    (hc2 : ldr C (w + 1) = c2) (hc2m : c2 ∈ C.honest) (hc2M : M c2)
    {sc : RState} (hsc : y.reps.lookup c = some sc) (hsync : SyncM w N B P sc)
    (hown : c2 = c → ∃ sg, sc.votes.lookup B.hash = some [(c, sg)] ∧
      HonestSig (fun b => y.truth.lookup b) (C.rcfg c).cfg c (blkMsg B.hash) sg) :
    PhaseAColl M C w N B P bt' z.1 := by
  have hlk : z.1.reps.lookup c = some sc := hz.coll.trans hsc
  subst hc2
  refine ⟨hz.fresh, hz.keys, hc2m, hc2M, ?_, ?_, ?_⟩
  · intro j hj
    by_cases hjc : j = c
    · subst hjc; exact ⟨sc, hlk, hsync.core, fun _ => hsync⟩
    · obtain ⟨s0, s, _, d2, d3, _⟩ := hz.did j (hfull j hj hjc)
      exact ⟨s, d2, hpost j s0 s d3⟩
  · by_cases hcc : ldr C (w + 1) = c
    · obtain ⟨sg, e2, e3⟩ := hown hcc
      rw [hcc]
      exact ⟨sc, sg, hlk, e2, honestSig_mono (fun b a hb => hz.table b a hb) e3⟩
    · obtain ⟨s0, s, _, d2, _, _, d6⟩ := hz.did _ (hfull _ hc2m hcc)
      obtain ⟨sg, e1, e2⟩ := d6 rfl
      exact ⟨s, sg, d2, e1, e2⟩
  · intro j hj hjc2
    by_cases hjc : j = c
    · subst hjc; exact hz.btc (fun e => hjc2 e.symm)
    · obtain ⟨s0, s, _, _, _, d5, _⟩ := hz.did j (hfull j hj hjc)
      exact d5 hjc2

/-- the proposal round: the proposals of `B'` (proposer `c`, certificate `sgq` over `B`) reach the replicas `ord`, in that order, each
synchronised at `(w, B)` before; afterwards each is synchronised at `(w + 1, B')` and has made its `CommitStep` (`PropInv` with
`done = ord`) -/
theorem chain_round_BA {M : Nat → Prop} (k : Keys) (C : SysCfg) (c c2 w N : Nat) (hC : RotCfg C) (hc1 : ldr C (w + 1) = c)
    (hc2 : ldr C (w + 1 + 1) = c2) (B' B P : Block) (sgq : Sig) (y : SysState) (bytes' : Nat)
    (hN : N + 12 ≤ 99999) (hfr : FreshL y.truth y.nextBytes) (hkeys : y.reps.map (·.1) = C.honest)
    (hpre : ∀ j ∈ C.honest, j ≠ c → ∃ s, y.reps.lookup j = some s ∧ SyncR w N B P s ∧ (M j → SyncM w N B P s))
    (hb1 : B'.hash = pname (w + 1)) (hb2 : B'.parent = B.hash) (hb3 : B'.view = w + 1)
    (hb4 : B'.qc = ⟨some sgq, B.view, B.hash⟩)
    (hv1 : verify (fun b => y.truth.lookup b) (C.rcfg c).cfg sgq (blkMsg B.hash) = true) (hv2 : (C.rcfg c).cfg.quorum ≤ sgq.len)
    (hbc : c2 ≠ c → y.truth.lookup bytes' = some ⟨c, blkMsg B'.hash⟩)
    (ord : List Nat) (hnd : ord.Nodup) (hord : ∀ j ∈ ord, j ∈ C.honest ∧ j ≠ c) :
    ∃ bt', PropInv C c c2 B'.hash (fun j => [(c, Ev.newview j { qc := some B'.qc })])
      (fun j s0 s => SyncR (w + 1) (N + 3) B' B s ∧ (M j → SyncM (w + 1) (N + 3) B' B s) ∧ CommitStep w B P s0 s) y bt' ord
      (deliverAll k C (y, voteTo C c2 B'.hash (fun _ => bytes') c) (ord.map (propMsg c B'))) := by
  refine prop_round k C c c2 B' _ _ y bytes' hC.scheme hfr hkeys hbc
    (fun j hj hjc => let ⟨s, h, _⟩ := hpre j hj hjc; ⟨s, h⟩) ?_ ord hnd hord
  intro j s0 T nb hj hjc hl0 hT hfT
  obtain ⟨s0', hl0', hS0, hM0⟩ := hpre j hj hjc
  rw [hl0] at hl0'; cases hl0'
  let sT : RState := { s0 with truth := T, nextBytes := nb }
  have hnewB : sT.chain.blocks.lookup B'.hash = none := by rw [hb1]; exact (hS0.names (w + 1) (by omega)).1
  have hqB : sT.chain.blocks.lookup B'.qc.hash = some B := by rw [hb4]; exact hS0.hasB
  obtain ⟨n1, n4, n6, n7, ⟨bytes, n8, nself, nsend⟩, n11⟩ := nl_step_next k (C.rcfg j) c c2 w N B P B' sgq sT
    hC.scheme hC.agg hC.rules hc1 hjc hc2 (fun _ => ⟨hC.has j j hj, (hC.quorum j).1⟩)
    (syncR_with_table hS0 _ _) hfT hN hb1 hb2 hb3 hb4 (verify_mono _ _ _ _ _ (fun b a hb => hT b a hb) hv1) hv2
  refine ⟨bytes, ⟨n1, fun hm => ⟨n1, mark_step sT _ B B' n7 hS0.fetch n1.fetch n6 hnewB hqB (hM0 hm).mark,
      by rw [n4, hb4]; exact Nat.le_refl _⟩,
    (step_ext k (C.rcfg j) sT (.propose c B' none) hfT.2).store, fun Z hZ => (n11 Z (walkZ_with_table hZ _ _)).1,
    fun Z hZ l1 l2 l3 => ((n11 Z (walkZ_with_table hZ _ _)).2 l1 l2 l3).1⟩, n8, fun e => (nself e).1, ?_⟩
  unfold voteTo
  by_cases hjc2 : j = c2
  · rw [if_pos hjc2]; exact (nself hjc2).2 C
  · rw [if_neg hjc2]; exact (nsend hjc2).2 C

/-! ## views of the chain: the messages are taken from the pool of messages in flight -/

def fromVote (j : Nat) (m : Nat × Ev) : Bool :=
  match m.2 with
  | .vote i _ _ _ => i == j
  | _ => false

def propTo (j : Nat) (m : Nat × Ev) : Bool :=
  m.1 == j && (match m.2 with | .propose _ _ _ => true | _ => false)

/-- the votes in flight of the senders `ord`, in that order -/
def votesIn (pool : Msgs) (ord : List Nat) : Msgs := ord.filterMap (fun j => pool.find? (fromVote j))
/-- the proposals in flight to the replicas `ord`, in that order -/
def propsIn (pool : Msgs) (ord : List Nat) : Msgs := ord.filterMap (fun j => pool.find? (propTo j))

/-- **one view of the chain, fixed leader**: the votes in flight of the senders `ordV` reach their addressee in that order;
then the proposals in flight (what the leader sent on completing the quorum) reach the replicas `ordP` in that order -/
def chainView (k : Keys) (C : SysCfg) (ordV ordP : List Nat) (x : SysState × Msgs) : SysState × Msgs :=
  deliverAll k C ((deliverAll k C (x.1, []) (votesIn x.2 ordV)).1, [])
    (propsIn (deliverAll k C (x.1, []) (votesIn x.2 ordV)).2 ordP)

/-- **one view of the chain, any leader schedule**: the votes in flight of the senders `ordV` reach the collector (the leader of
the next view); then the proposals in flight reach the replicas `ordP`, while the proposer's own vote for its proposal — if it was
sent to another replica, the leader of the view after — stays in flight -/
def chainViewRot (k : Keys) (C : SysCfg) (ordV ordP : List Nat) (x : SysState × Msgs) : SysState × Msgs :=
  deliverAll k C ((deliverAll k C (x.1, []) (votesIn x.2 ordV)).1, (deliverAll k C (x.1, []) (votesIn x.2 ordV)).2.filter isVoteEv)
    (propsIn (deliverAll k C (x.1, []) (votesIn x.2 ordV)).2 ordP)

/-- the votes for `h` (bytes `bt`) of all replicas but the collector `L` are in flight -/
def VotesFly (C : SysCfg) (L : Nat) (h : Hash) (bt : Nat → Nat) (pool : Msgs) : Prop :=
  ∀ j ∈ C.honest, j ≠ L → pool.find? (fromVote j) = some (voteMsg C L h bt j)

theorem votesIn_eq (C : SysCfg) (L : Nat) (h : Hash) (bt : Nat → Nat) (pool : Msgs) (hp : VotesFly C L h bt pool)
    (ord : List Nat) (hord : ∀ j ∈ ord, j ∈ C.honest ∧ j ≠ L) : votesIn pool ord = ord.map (voteMsg C L h bt) := by
  unfold votesIn
  induction ord with
  | nil => rfl
  | cons j rest ih =>
    rw [List.filterMap_cons, hp j (hord j (by simp)).1 (hord j (by simp)).2]
    simp only [List.map_cons]
    rw [ih (fun i hi => hord i (by simp [hi]))]

theorem find?_flatMap_of_mem {β} (f : Nat → List β) (p : β → Bool) (j : Nat) (r : β) (hj : (f j).find? p = some r) :
    ∀ l : List Nat, j ∈ l → (∀ i ∈ l, i ≠ j → (f i).find? p = none) → (l.flatMap f).find? p = some r := by
  intro l
  induction l with
  | nil => intro hmem; simp at hmem
  | cons i rest ih =>
    intro hmem hne
    rw [List.flatMap_cons, List.find?_append]
    by_cases hij : i = j
    · rw [hij, hj]; rfl
    · rw [hne i (by simp) hij]
      exact ih ((List.mem_cons.mp hmem).resolve_left (fun e => hij e.symm)) (fun x hx => hne x (List.mem_cons_of_mem _ hx))

theorem voteTo_find (C : SysCfg) (c2 : Nat) (h : Hash) (bt : Nat → Nat) (i j : Nat) :
    (voteTo C c2 h bt i).find? (fromVote j) = if i = j ∧ i ≠ c2 then some (voteMsg C c2 h bt i) else none := by
  unfold voteTo
  by_cases hic : i = c2
  · rw [if_pos hic, if_neg (fun h => h.2 hic)]; rfl
  · rw [if_neg hic]
    by_cases hij : i = j
    · rw [if_pos ⟨hij, hic⟩]; simp [voteMsg, fromVote, hij]
    · rw [if_neg (fun h => hij h.1)]; simp [voteMsg, fromVote, hij]

theorem votesFly_pool (C : SysCfg) (c c2 : Nat) (h : Hash) (bt : Nat → Nat) (pre : Nat → Msgs)
    (hpre : ∀ i j, (pre i).find? (fromVote j) = none) (ord : List Nat)
    (hfull : ∀ j ∈ C.honest, j ≠ c → j ∈ ord) :
    VotesFly C c2 h bt (voteTo C c2 h bt c ++ ord.flatMap (fun i => pre i ++ voteTo C c2 h bt i)) := by
  intro j hj hjc2
  rw [List.find?_append, voteTo_find]
  by_cases hjc : c = j
  · rw [if_pos ⟨hjc, hjc ▸ hjc2⟩, hjc]; rfl
  · rw [if_neg (fun h => hjc h.1), Option.none_or]
    refine find?_flatMap_of_mem _ _ j _ ?_ ord (hfull j hj (fun e => hjc e.symm)) ?_
    · rw [List.find?_append, hpre, Option.none_or, voteTo_find, if_pos ⟨rfl, hjc2⟩]
    · intro i _ hij
      rw [List.find?_append, hpre, Option.none_or, voteTo_find, if_neg (fun h => hij h.1)]

theorem propsIn_of_pool (L : Nat) (b' : Block) (pool : Msgs) (ord : List Nat)
    (h1 : ∀ m ∈ pool, isProp m = true → ∃ j, m = propMsg L b' j) (h2 : ∀ j ∈ ord, propMsg L b' j ∈ pool) :
    propsIn pool ord = ord.map (propMsg L b') := by
  unfold propsIn
  induction ord with
  | nil => rfl
  | cons j rest ih =>
    have hf : pool.find? (propTo j) = some (propMsg L b' j) := by
      cases hfi : pool.find? (propTo j) with
      | none =>
        have := List.find?_eq_none.mp hfi _ (h2 j (by simp))
        simp [propTo, propMsg] at this
      | some m =>
        have hm := List.mem_of_find?_eq_some hfi
        have hp := List.find?_some hfi
        have hp' : m.1 = j ∧ isProp m = true := by
          unfold propTo at hp
          simp only [Bool.and_eq_true, beq_iff_eq] at hp
          exact ⟨hp.1, hp.2⟩
        obtain ⟨j', rfl⟩ := h1 m hm hp'.2
        have : j' = j := hp'.1
        rw [this]
    rw [List.filterMap_cons, hf]
    simp only [List.map_cons]
    rw [ih (fun x hx => h2 x (by simp [hx]))]

theorem propsIn_eq (C : SysCfg) (L : Nat) (B' : Block) (ord : List Nat) (hord : ∀ j ∈ ord, j ∈ C.honest ∧ j ≠ L) :
    propsIn ((othersOf C L).map (propMsg L B')) ord = ord.map (propMsg L B') :=
  propsIn_of_pool L B' _ ord (fun m hm _ => by obtain ⟨j, _, rfl⟩ := List.mem_map.mp hm; exact ⟨j, rfl⟩)
    (fun j hj => List.mem_map_of_mem (by unfold othersOf; simp only [List.mem_filter, bne_iff_ne, ne_eq]; exact hord j hj))

theorem isProp_propMsg (L : Nat) (b' : Block) (j : Nat) : isProp (propMsg L b' j) = true := rfl

theorem pool_facts {C : SysCfg} {c c2 bytes' : Nat} {B' : Block} {pool : Msgs}
    (h : pool = (othersOf C c).map (propMsg c B') ++ voteTo C c2 B'.hash (fun _ => bytes') c) :
    pool.filter isVoteEv = voteTo C c2 B'.hash (fun _ => bytes') c ∧
    (∀ m ∈ pool, isProp m = true → ∃ j, m = propMsg c B' j) ∧
    ∀ j ∈ C.honest, j ≠ c → propMsg c B' j ∈ pool := by
  subst h
  have hv : ∀ m ∈ voteTo C c2 B'.hash (fun _ => bytes') c, isVoteEv m = true ∧ isProp m = false := by
    intro m hm
    unfold voteTo at hm
    split at hm
    · simp at hm
    · rw [List.mem_singleton.mp hm]; exact ⟨rfl, rfl⟩
  refine ⟨?_, ?_, ?_⟩
  · rw [List.filter_append, List.filter_eq_nil_iff.mpr, List.nil_append, List.filter_eq_self.mpr (fun m hm => (hv m hm).1)]
    intro m hm
    obtain ⟨j, _, rfl⟩ := List.mem_map.mp hm
    simp [propMsg, isVoteEv]
  · intro m hm hp
    rcases List.mem_append.mp hm with hm | hm
    · obtain ⟨j, _, rfl⟩ := List.mem_map.mp hm
      exact ⟨j, rfl⟩
    · rw [(hv m hm).2] at hp; cases hp
  · intro j hj hjc
    exact List.mem_append_left _ (List.mem_map_of_mem
      (by unfold othersOf; simp only [List.mem_filter, bne_iff_ne, ne_eq]; exact ⟨hj, hjc⟩))

/-- A leader that only receives the last votes of a chain of views need not take part: phase A at `(w + 1, B')` is concluded only if
`ldr C (w + 2)` is a participant in `M`.  The last two clauses serve the fixed leader: the collector of the votes for `B` proposed in
view `w + 1`, and when it also collects the votes for `B'` no vote is in flight after the votes round, so that `chainViewRot` is
`chainView`. -/
theorem chain_view {M : Nat → Prop} (k : Keys) (C : SysCfg) (w N : Nat) (hC : RotCfg C) (B P : Block) (bt : Nat → Nat)
    (x : SysState × Msgs) (hN : N + 12 ≤ 99999) (hA : PhaseAColl M C w N B P bt x.1)
    (hfly : VotesFly C (ldr C (w + 1)) B.hash bt x.2)
    (ordV ordP : List Nat) (hV : OthersOrder C (ldr C (w + 1)) ordV) (hP : OthersOrder C (ldr C (w + 1)) ordP) :
    ∃ (B' : Block) (bt' : Nat → Nat),
      (ldr C (w + 1 + 1) ∈ C.honest → M (ldr C (w + 1 + 1)) → PhaseAColl M C (w + 1) (N + 3) B' B bt' (chainViewRot k C ordV ordP x).1) ∧
      VotesFly C (ldr C (w + 1 + 1)) B'.hash bt' (chainViewRot k C ordV ordP x).2 ∧ Link B' B ∧
      (∀ j ∈ C.honest, ∃ s0 s, x.1.reps.lookup j = some s0 ∧ (chainViewRot k C ordV ordP x).1.reps.lookup j = some s ∧
        CommitStep w B P s0 s) ∧
      (∀ sc, (chainViewRot k C ordV ordP x).1.reps.lookup (ldr C (w + 1)) = some sc → sc.lastProposed = w + 1) ∧
      (ldr C (w + 1 + 1) = ldr C (w + 1) → (deliverAll k C (x.1, []) (votesIn x.2 ordV)).2.filter isVoteEv = []) := by
  have hqlen := hV.quorum_rot hC
  obtain ⟨sc0, hl0, hfin, hlpfin⟩ := chain_round_AB k C w N hC B P bt x.1 hN hA ordV hV.nodup hV.mem
  have hvi := votesIn_eq C (ldr C (w + 1)) B.hash bt x.2 hfly ordV hV.mem
  obtain ⟨B', sc, sgq, hsc, hsync, hhash, hpar, hview, hqc, hver, hsgq, hcs, hkeep, hsend⟩ := hfin.moved hqlen
  let y := deliverAll k C (x.1, []) (ordV.map (voteMsg C (ldr C (w + 1)) B.hash bt))
  obtain ⟨s, _, hs, _⟩ := hA.reps _ hA.cmem
  obtain ⟨bytes', hbc, hpool⟩ : ∃ bytes', (ldr C (w + 1 + 1) ≠ ldr C (w + 1) → y.1.truth.lookup bytes' = some ⟨_, blkMsg B'.hash⟩) ∧
      y.2 = (othersOf C (ldr C (w + 1))).map (propMsg _ B') ++ voteTo C (ldr C (w + 1 + 1)) B'.hash (fun _ => bytes') _ := by
    by_cases hcc : ldr C (w + 1 + 1) = ldr C (w + 1)
    · exact ⟨0, fun h => absurd hcc h, by rw [(hkeep hcc).1, hcc, voteTo_self, List.append_nil]⟩
    · obtain ⟨b, e1, e2⟩ := hsend hcc
      exact ⟨b, fun _ => e1, by rw [e2]; unfold voteTo; rw [if_neg (fun e => hcc e.symm)]; rfl⟩
  obtain ⟨hfilt, hprops, hpmem⟩ := pool_facts hpool
  have hpi := propsIn_of_pool (ldr C (w + 1)) B' y.2 ordP hprops (fun j hj => hpmem j (hP.mem j hj).1 (hP.mem j hj).2)
  obtain ⟨bt', hz⟩ := chain_round_BA (M := M) k C _ _ w N hC rfl rfl B' B P sgq y.1 bytes' hN hfin.fresh hfin.keys
    (fun j hj hjc => let ⟨s, h1, h2, h3⟩ := hA.reps j hj; ⟨s, by rw [hfin.others j hjc]; exact h1, h2, h3⟩)
    hhash hpar hview hqc hver hsgq hbc ordP hP.nodup hP.mem
  have hcv : chainViewRot k C ordV ordP x =
      deliverAll k C (y.1, voteTo C (ldr C (w + 1 + 1)) B'.hash (fun _ => bytes') (ldr C (w + 1)))
        (ordP.map (propMsg (ldr C (w + 1)) B')) := by
    unfold chainViewRot
    rw [hvi, hpi, hfilt]
  rw [hcv, hvi]
  generalize deliverAll k C (y.1, voteTo C (ldr C (w + 1 + 1)) B'.hash (fun _ => bytes') (ldr C (w + 1)))
    (ordP.map (propMsg (ldr C (w + 1)) B')) = z at hz ⊢
  have hlk := hz.coll.trans hsc
  refine ⟨B', bt', fun hc2m hc2M => hz.phaseA hP.full (fun _ _ _ h => ⟨h.1, h.2.1⟩) rfl hc2m hc2M hsc hsync
      (fun hcc => (hkeep hcc).2), ?_,
    ⟨hpar, by rw [hqc], by rw [hview, hs.bview], by rw [hs.bhash]; exact pname_ne_empty _⟩, ?_, ?_, ?_⟩
  · rw [hz.pool]
    exact votesFly_pool C _ _ B'.hash bt' _ (fun _ _ => rfl) ordP hP.full
  · intro j hj
    by_cases hjc : j = ldr C (w + 1)
    · subst hjc
      exact ⟨sc0, sc, hl0, hlk, hcs⟩
    · obtain ⟨s0, s, d1, d2, ⟨_, _, d4⟩, _⟩ := hz.did j (hP.full j hj hjc)
      exact ⟨s0, s, by rw [← hfin.others j hjc]; exact d1, d2, d4⟩
  · intro sc' hsc'
    rw [hlk] at hsc'
    rw [← Option.some.inj hsc']
    exact hlpfin hqlen sc hsc
  · intro hcc
    rw [hfilt, hcc, voteTo_self]


theorem chain_view_rot (k : Keys) (C : SysCfg) (w N : Nat) (hC : RotCfg C) (B P : Block) (bt : Nat → Nat)
    (x : SysState × Msgs) (hN : N + 12 ≤ 99999) (hA : PhaseARot C w N B P bt x.1)
    (hfly : VotesFly C (ldr C (w + 1)) B.hash bt x.2)
    (ordV ordP : List Nat) (hV : OthersOrder C (ldr C (w + 1)) ordV) (hP : OthersOrder C (ldr C (w + 1)) ordP) :
    ∃ (B' : Block) (bt' : Nat → Nat),
      (ldr C (w + 1 + 1) ∈ C.honest → PhaseARot C (w + 1) (N + 3) B' B bt' (chainViewRot k C ordV ordP x).1) ∧
      VotesFly C (ldr C (w + 1 + 1)) B'.hash bt' (chainViewRot k C ordV ordP x).2 ∧ Link B' B ∧
      ∀ j ∈ C.honest, ∃ s0 s, x.1.reps.lookup j = some s0 ∧ (chainViewRot k C ordV ordP x).1.reps.lookup j = some s ∧
        CommitStep w B P s0 s := by
  obtain ⟨B', bt', h1, h2, h3, h4, _, _⟩ := chain_view k C w N hC B P bt x hN hA.toColl hfly ordV ordP hV hP
  exact ⟨B', bt', fun hm => (h1 hm trivial).toPhaseARot, h2, h3, h4⟩

theorem three_views_rot (k : Keys) (C : SysCfg) (w N : Nat) (hC : RotCfg C) (B P : Block) (bt : Nat → Nat)
    (x : SysState × Msgs) (hN : N + 18 ≤ 99999) (hA : PhaseARot C w N B P bt x.1)
    (hfly : VotesFly C (ldr C (w + 1)) B.hash bt x.2)
    (hwalk : ∀ j ∈ C.honest, ∃ s, x.1.reps.lookup j = some s ∧ WalkZ B s)
    (hl2 : ldr C (w + 2) ∈ C.honest) (hl3 : ldr C (w + 3) ∈ C.honest)
    (v1 p1 v2 p2 v3 p3 : List Nat)
    (hv1 : OthersOrder C (ldr C (w + 1)) v1) (hp1 : OthersOrder C (ldr C (w + 1)) p1)
    (hv2 : OthersOrder C (ldr C (w + 2)) v2) (hp2 : OthersOrder C (ldr C (w + 2)) p2)
    (hv3 : OthersOrder C (ldr C (w + 3)) v3) (hp3 : OthersOrder C (ldr C (w + 3)) p3) :
    ∃ (B1 B2 B3 : Block) (bt3 : Nat → Nat),
      Link B1 B ∧ Link B2 B1 ∧ Link B3 B2 ∧
      (ldr C (w + 4) ∈ C.honest → PhaseARot C (w + 3) (N + 9) B3 B2 bt3
        (chainViewRot k C v3 p3 (chainViewRot k C v2 p2 (chainViewRot k C v1 p1 x))).1) ∧
      VotesFly C (ldr C (w + 4)) B3.hash bt3 (chainViewRot k C v3 p3 (chainViewRot k C v2 p2 (chainViewRot k C v1 p1 x))).2 ∧
      ∀ j ∈ C.honest, ∃ s0 s, x.1.reps.lookup j = some s0 ∧
        (chainViewRot k C v3 p3 (chainViewRot k C v2 p2 (chainViewRot k C v1 p1 x))).1.reps.lookup j = some s ∧
        s.committed = B ∧ s0.committed.view < s.committed.view := by
  obtain ⟨B1, bt1, a1, a2, a3, a4⟩ := chain_view_rot k C w N hC B P bt x (by omega) hA hfly v1 p1 hv1 hp1
  obtain ⟨B2, bt2, b1, b2, b3, b4⟩ := chain_view_rot k C (w + 1) (N + 3) hC B1 B bt1 _ (by omega) (a1 hl2) a2 v2 p2 hv2 hp2
  obtain ⟨B3, bt3, c1, c2, c3, c4⟩ := chain_view_rot k C (w + 1 + 1) (N + 3 + 3) hC B2 B1 bt2 _ (by omega) (b1 hl3) b2 v3 p3 hv3 hp3
  exact ⟨B1, B2, B3, bt3, a3, b3, c3, c1, c2, three_views_commit a4 b4 c4 a3 b3 hA.toColl.hasB hwalk⟩

theorem synced_commits_rot (k : Keys) (C : SysCfg) (w N : Nat) (hC : RotCfg C) (B P : Block) (bt : Nat → Nat)
    (x : SysState × Msgs) (hN : N + 18 ≤ 99999) (hA : PhaseARot C w N B P bt x.1)
    (hfly : VotesFly C (ldr C (w + 1)) B.hash bt x.2)
    (hwalk : ∀ j ∈ C.honest, ∃ s, x.1.reps.lookup j = some s ∧ WalkZ B s)
    (hl2 : ldr C (w + 2) ∈ C.honest) (hl3 : ldr C (w + 3) ∈ C.honest) (hl4 : ldr C (w + 4) ∈ C.honest)
    (v1 p1 v2 p2 v3 p3 : List Nat)
    (hv1 : OthersOrder C (ldr C (w + 1)) v1) (hp1 : OthersOrder C (ldr C (w + 1)) p1)
    (hv2 : OthersOrder C (ldr C (w + 2)) v2) (hp2 : OthersOrder C (ldr C (w + 2)) p2)
    (hv3 : OthersOrder C (ldr C (w + 3)) v3) (hp3 : OthersOrder C (ldr C (w + 3)) p3) :
    ∃ (B1 B2 B3 : Block) (bt3 : Nat → Nat),
      Link B1 B ∧ Link B2 B1 ∧ Link B3 B2 ∧
      PhaseARot C (w + 3) (N + 9) B3 B2 bt3
        (chainViewRot k C v3 p3 (chainViewRot k C v2 p2 (chainViewRot k C v1 p1 x))).1 ∧
      VotesFly C (ldr C (w + 4)) B3.hash bt3 (chainViewRot k C v3 p3 (chainViewRot k C v2 p2 (chainViewRot k C v1 p1 x))).2 ∧
      ∀ j ∈ C.honest, ∃ s0 s, x.1.reps.lookup j = some s0 ∧
        (chainViewRot k C v3 p3 (chainViewRot k C v2 p2 (chainViewRot k C v1 p1 x))).1.reps.lookup j = some s ∧
        s.committed = B ∧ s0.committed.view < s.committed.view := by
  obtain ⟨B1, B2, B3, bt3, a, b, c, hph, hfl, hcm⟩ :=
    three_views_rot k C w N hC B P bt x hN hA hfly hwalk hl2 hl3 v1 p1 v2 p2 v3 p3 hv1 hp1 hv2 hp2 hv3 hp3
  exact ⟨B1, B2, B3, bt3, a, b, c, hph hl4, hfl, hcm⟩

/-- `three_views_rot`, the commits only: the leader of view `w + 4`, only the destination of the last votes, need not be a
participant -/
theorem synced_commits_rot' (k : Keys) (C : SysCfg) (w N : Nat) (hC : RotCfg C) (B P : Block) (bt : Nat → Nat)
    (x : SysState × Msgs) (hN : N + 18 ≤ 99999) (hA : PhaseARot C w N B P bt x.1)
    (hfly : VotesFly C (ldr C (w + 1)) B.hash bt x.2)
    (hwalk : ∀ j ∈ C.honest, ∃ s, x.1.reps.lookup j = some s ∧ WalkZ B s)
    (hl2 : ldr C (w + 2) ∈ C.honest) (hl3 : ldr C (w + 3) ∈ C.honest)
    (v1 p1 v2 p2 v3 p3 : List Nat)
    (hv1 : OthersOrder C (ldr C (w + 1)) v1) (hp1 : OthersOrder C (ldr C (w + 1)) p1)
    (hv2 : OthersOrder C (ldr C (w + 2)) v2) (hp2 : OthersOrder C (ldr C (w + 2)) p2)
    (hv3 : OthersOrder C (ldr C (w + 3)) v3) (hp3 : OthersOrder C (ldr C (w + 3)) p3) :
    ∃ (B1 B2 B3 : Block),
      Link B1 B ∧ Link B2 B1 ∧ Link B3 B2 ∧
      ∀ j ∈ C.honest, ∃ s0 s, x.1.reps.lookup j = some s0 ∧
        (chainViewRot k C v3 p3 (chainViewRot k C v2 p2 (chainViewRot k C v1 p1 x))).1.reps.lookup j = some s ∧
        s.committed = B ∧ s0.committed.view < s.committed.view := by
  obtain ⟨B1, B2, B3, _, a, b, c, _, _, hcm⟩ :=
    three_views_rot k C w N hC B P bt x hN hA hfly hwalk hl2 hl3 v1 p1 v2 p2 v3 p3 hv1 hp1 hv2 hp2 hv3 hp3
  exact ⟨B1, B2, B3, a, b, c, hcm⟩

/-! ## a fixed leader: the constant schedule, the leader the only collector -/

theorem phaseB_of_moved {C : SysCfg} {L w N : Nat} {B P : Block} {bt : Nat → Nat} {σ : SysState} {sc0 : RState}
    {done : List Nat} {x : SysState × Msgs} (hC : HappyLive C L) (hA : PhaseA C L w N B P bt σ)
    (hl0 : σ.reps.lookup L = some sc0) (hfin : ABInvR C L L w N B P σ sc0 done x) (hlp : CollProposed C L w done x)
    (hlen : (C.rcfg L).cfg.quorum ≤ done.length + 1) :
    ∃ B' : Block,
      PhaseB C L w N B' B P x.1 ∧ x.2 = (othersOf C L).map (propMsg L B') ∧
      (∀ j, j ≠ L → x.1.reps.lookup j = σ.reps.lookup j) ∧ (∀ b a, σ.truth.lookup b = some a → x.1.truth.lookup b = some a) ∧
      ∃ sL0 sL, σ.reps.lookup L = some sL0 ∧ x.1.reps.lookup L = some sL ∧ CommitStep w B P sL0 sL := by
  obtain ⟨B', sc, sgq, hsc, hsync, hhash, hpar, hview, hqc, hver, hsgq, hcs, hkeep, _⟩ := hfin.moved hlen
  obtain ⟨mp, sgL, mv, mh⟩ := hkeep rfl
  refine ⟨B', ⟨hfin.fresh, hfin.keys, ?_, ⟨sc, sgL, hsc, syncR_with_table hsync.core _ _, hlp hlen sc hsc, mv, ?_, by simp, hsync.hqge⟩,
    ⟨hhash, hpar, hview⟩, ⟨sgq, hqc, hver, hsgq⟩⟩, mp, hfin.others, hfin.table, sc0, sc, hl0, hsc, hcs⟩
  · intro j hj hjL
    rw [hfin.others j hjL]
    exact hA.others j hj hjL
  · intro x hx
    simp only [List.mem_singleton] at hx
    subst hx
    exact ⟨hC.has L L hC.leader, mh⟩

theorem chain_round_AB_fixed (k : Keys) (C : SysCfg) (L w N : Nat) (hC : HappyLive C L) (B P : Block) (bt : Nat → Nat)
    (σ : SysState) (hN : N + 12 ≤ 99999) (hA : PhaseA C L w N B P bt σ)
    (ord : List Nat) (hnd : ord.Nodup) (hord : ∀ j ∈ ord, j ∈ C.honest ∧ j ≠ L)
    (hlen : (C.rcfg L).cfg.quorum ≤ ord.length + 1) :
    let x := deliverAll k C (σ, []) (ord.map (voteMsg C L B.hash bt))
    ∃ B' : Block,
      PhaseB C L w N B' B P x.1 ∧ x.2 = (othersOf C L).map (propMsg L B') ∧
      (∀ j, j ≠ L → x.1.reps.lookup j = σ.reps.lookup j) ∧ (∀ b a, σ.truth.lookup b = some a → x.1.truth.lookup b = some a) ∧
      ∃ sL0 sL, σ.reps.lookup L = some sL0 ∧ x.1.reps.lookup L = some sL ∧ CommitStep w B P sL0 sL := by
  intro x
  have e1 := hC.ldr (w + 1)
  have e2 := hC.ldr (w + 1 + 1)
  obtain ⟨sc0, hl0, hfin, hlp⟩ := chain_round_AB k C w N hC.toRot B P bt σ hN (hA.toColl hC) ord hnd (by rw [e1]; exact hord)
  rw [e1] at hl0 hlp
  rw [e1, e2] at hfin
  exact phaseB_of_moved hC hA hl0 hfin hlp hlen

theorem chain_round_BA_fixed (k : Keys) (C : SysCfg) (L w N : Nat) (hC : HappyLive C L) (B' B P : Block) (σ : SysState)
    (hN : N + 12 ≤ 99999) (hB : PhaseB C L w N B' B P σ)
    (ord : List Nat) (hnd : ord.Nodup) (hord : ∀ j ∈ ord, j ∈ C.honest ∧ j ≠ L)
    (hfull : ∀ j ∈ C.honest, j ≠ L → j ∈ ord) :
    let x := deliverAll k C (σ, []) (ord.map (propMsg L B'))
    ∃ bt' : Nat → Nat,
      PhaseA C L (w + 1) (N + 3) B' B bt' x.1 ∧ x.2 = ord.flatMap (ackMsgs C L B' bt') ∧
      x.1.reps.lookup L = σ.reps.lookup L ∧ (∀ b a, σ.truth.lookup b = some a → x.1.truth.lookup b = some a) ∧
      ∀ j ∈ C.honest, j ≠ L → ∃ s0 s, σ.reps.lookup j = some s0 ∧ x.1.reps.lookup j = some s ∧ CommitStep w B P s0 s := by
  intro x
  obtain ⟨sgq, g1, g2, g3⟩ := hB.qc
  obtain ⟨bt', hfin⟩ := chain_round_BA (M := (· = L)) k C L L w N hC.toRot (hC.ldr _) (hC.ldr _) B' B P sgq σ 0 hN hB.fresh hB.keys
    (fun j hj hjL => let ⟨s, h1, h2⟩ := hB.others j hj hjL; ⟨s, h1, h2, fun e => absurd e hjL⟩)
    hB.blk.1 hB.blk.2.1 hB.blk.2.2 g1 g2 g3 (fun h => absurd rfl h) ord hnd hord
  rw [voteTo_self] at hfin
  obtain ⟨sL, sgL, hlL, hSL⟩ := hB.leader
  refine ⟨bt', ⟨hfin.fresh, hfin.keys, ?_, ⟨sL, sgL, by rw [hfin.coll]; exact hlL,
    syncL_with_table hSL _ _ (fun b a hb => hfin.table b a hb)⟩, ?_⟩, ?_, hfin.coll, hfin.table, ?_⟩
  · intro j hj hjL
    obtain ⟨s0, s, _, d2, ⟨d3, _⟩, _⟩ := hfin.did j (hfull j hj hjL)
    exact ⟨s, d2, d3⟩
  · intro j hj hjL
    obtain ⟨s0, s, _, _, _, d5, _⟩ := hfin.did j (hfull j hj hjL)
    exact d5 hjL
  · rw [hfin.pool, voteTo_self, List.nil_append]
    exact flatMap_congr' _ _ _ (fun j hj => by simp [ackMsgs, voteTo, (hord j hj).2])
  · intro j hj hjL
    obtain ⟨s0, s, d1, d2, ⟨_, _, d4⟩, _⟩ := hfin.did j (hfull j hj hjL)
    exact ⟨s0, s, d1, d2, d4⟩

theorem chain_view_fixed (k : Keys) (C : SysCfg) (L w N : Nat) (hC : HappyLive C L) (B P : Block) (bt : Nat → Nat)
    (x : SysState × Msgs) (hN : N + 12 ≤ 99999) (hA : PhaseA C L w N B P bt x.1) (hfly : VotesFly C L B.hash bt x.2)
    (ordV ordP : List Nat) (hV : OthersOrder C L ordV) (hP : OthersOrder C L ordP) :
    ∃ (B' : Block) (bt' : Nat → Nat),
      PhaseA C L (w + 1) (N + 3) B' B bt' (chainView k C ordV ordP x).1 ∧
      VotesFly C L B'.hash bt' (chainView k C ordV ordP x).2 ∧ Link B' B ∧
      ∀ j ∈ C.honest, ∃ s0 s, x.1.reps.lookup j = some s0 ∧ (chainView k C ordV ordP x).1.reps.lookup j = some s ∧
        CommitStep w B P s0 s := by
  have e1 := hC.ldr (w + 1)
  have e2 := hC.ldr (w + 1 + 1)
  obtain ⟨B', bt', h1, h2, h3, h4, h5, h6⟩ := chain_view k C w N hC.toRot B P bt x hN (hA.toColl hC)
    (by rw [e1]; exact hfly) ordV ordP (by rw [e1]; exact hV) (by rw [e1]; exact hP)
  have hcv : chainView k C ordV ordP x = chainViewRot k C ordV ordP x := by
    unfold chainView chainViewRot
    rw [h6 (e2.trans e1.symm)]
  rw [hcv]
  rw [e2] at h1 h2
  rw [e1] at h5
  exact ⟨B', bt', (h1 hC.leader rfl).toPhaseA hC h5, h2, h3, h4⟩

theorem synced_commits_fixed (k : Keys) (C : SysCfg) (L w N : Nat) (hC : HappyLive C L) (B P : Block) (bt : Nat → Nat)
    (x : SysState × Msgs) (hN : N + 18 ≤ 99999) (hA : PhaseA C L w N B P bt x.1) (hfly : VotesFly C L B.hash bt x.2)
    (hwalk : ∀ j ∈ C.honest, ∃ s, x.1.reps.lookup j = some s ∧ WalkZ B s)
    (v1 p1 v2 p2 v3 p3 : List Nat) (hv1 : OthersOrder C L v1) (hp1 : OthersOrder C L p1) (hv2 : OthersOrder C L v2)
    (hp2 : OthersOrder C L p2) (hv3 : OthersOrder C L v3) (hp3 : OthersOrder C L p3) :
    ∃ (B1 B2 B3 : Block) (bt3 : Nat → Nat),
      Link B1 B ∧ Link B2 B1 ∧ Link B3 B2 ∧
      PhaseA C L (w + 3) (N + 9) B3 B2 bt3 (chainView k C v3 p3 (chainView k C v2 p2 (chainView k C v1 p1 x))).1 ∧
      VotesFly C L B3.hash bt3 (chainView k C v3 p3 (chainView k C v2 p2 (chainView k C v1 p1 x))).2 ∧
      ∀ j ∈ C.honest, ∃ s0 s, x.1.reps.lookup j = some s0 ∧
        (chainView k C v3 p3 (chainView k C v2 p2 (chainView k C v1 p1 x))).1.reps.lookup j = some s ∧
        s.committed = B ∧ s0.committed.view < s.committed.view := by
  obtain ⟨B1, bt1, a1, a2, a3, a4⟩ := chain_view_fixed k C L w N hC B P bt x (by omega) hA hfly v1 p1 hv1 hp1
  obtain ⟨B2, bt2, b1, b2, b3, b4⟩ := chain_view_fixed k C L (w + 1) (N + 3) hC B1 B bt1 _ (by omega) a1 a2 v2 p2 hv2 hp2
  obtain ⟨B3, bt3, c1, c2, c3, c4⟩ := chain_view_fixed k C L (w + 1 + 1) (N + 3 + 3) hC B2 B1 bt2 _ (by omega) b1 b2 v3 p3 hv3 hp3
  exact ⟨B1, B2, B3, bt3, a3, b3, c3, c1, c2, three_views_commit a4 b4 c4 a3 b3 (hA.toColl hC).hasB hwalk⟩

/-- the timeout messages are delivered in the order `msgs` (receiver, sender) — the round of `recovery_from_reachable` -/
def recoveryRound (k : Keys) (C : SysCfg) (D : RecData) (σ0 : SysState) (msgs : List (Nat × Nat)) : SysState × Msgs :=
  deliverAll k C (σ0, []) (msgs.map fun p => (p.1, Ev.timeout (D.tmsg C p.2)))

/-- the proposals in flight reach the replicas `ord`, in that order -/
def proposalRound (k : Keys) (C : SysCfg) (ord : List Nat) (x : SysState × Msgs) : SysState × Msgs :=
  deliverAll k C (x.1, []) (propsIn x.2 ord)

/-- the proposals in flight reach the replicas `ord`; the votes already in flight (the proposer's own) stay in flight -/
def proposalRoundR (k : Keys) (C : SysCfg) (ord : List Nat) (x : SysState × Msgs) : SysState × Msgs :=
  deliverAll k C (x.1, x.2.filter isVoteEv) (propsIn x.2 ord)

/-! ## named readings of the round invariants for a fixed leader

What `ABInvR` and the `PropInv` of `chain_round_BA` say when `c2 = c = L`, written out as structures.  No proof uses them and no
lemma relates them to the invariants above; the fixed-leader theorems read `ABInvR` and `PropInv` directly. -/

/-- `ABInvR` at `c2 = c = L`, the leader's `SyncC` / `SyncM` read as `SyncL` -/
structure ABInv (C : SysCfg) (L w N : Nat) (B P : Block) (σ0 : SysState) (sL0 : RState) (done : List Nat)
    (x : SysState × Msgs) : Prop where
  fresh : FreshL x.1.truth x.1.nextBytes
  keys : x.1.reps.map (·.1) = C.honest
  table : ∀ b a, σ0.truth.lookup b = some a → x.1.truth.lookup b = some a
  others : ∀ j, j ≠ L → x.1.reps.lookup j = σ0.reps.lookup j
  coll : done.length + 1 < (C.rcfg L).cfg.quorum → x.2 = [] ∧ ∃ sL vs, x.1.reps.lookup L = some sL ∧
    SyncL (C.rcfg L) w N B P vs { sL with truth := x.1.truth, nextBytes := x.1.nextBytes } ∧
    vs.map (·.1) = L :: done ∧ sL.chain = sL0.chain ∧ sL.committed = sL0.committed
  moved : (C.rcfg L).cfg.quorum ≤ done.length + 1 → ∃ (B' : Block) (sL : RState) (sgL : Sig) (sgq : Sig),
    x.1.reps.lookup L = some sL ∧
    SyncL (C.rcfg L) (w + 1) (N + 3) B' B [(L, sgL)] { sL with truth := x.1.truth, nextBytes := x.1.nextBytes } ∧
    B'.hash = pname (w + 1) ∧ B'.parent = B.hash ∧ B'.view = w + 1 ∧ B'.qc = ⟨some sgq, B.view, B.hash⟩ ∧
    verify (fun b => x.1.truth.lookup b) (C.rcfg L).cfg sgq (blkMsg B.hash) = true ∧ (C.rcfg L).cfg.quorum ≤ sgq.len ∧
    x.2 = (othersOf C L).map (propMsg L B') ∧ CommitStep w B P sL0 sL

/-- `PropInv` of `chain_round_BA` at `c2 = c = L` with `M = (· = L)`: nobody but the leader collects, the pool is `ackMsgs` -/
structure BAInv (C : SysCfg) (L w N : Nat) (B' B P : Block) (σ0 : SysState) (bt' : Nat → Nat) (done : List Nat)
    (x : SysState × Msgs) : Prop where
  fresh : FreshL x.1.truth x.1.nextBytes
  keys : x.1.reps.map (·.1) = C.honest
  table : ∀ b a, σ0.truth.lookup b = some a → x.1.truth.lookup b = some a
  leader : x.1.reps.lookup L = σ0.reps.lookup L
  undone : ∀ j, j ≠ L → j ∉ done → x.1.reps.lookup j = σ0.reps.lookup j
  did : ∀ j ∈ done, ∃ s0 s, σ0.reps.lookup j = some s0 ∧ x.1.reps.lookup j = some s ∧ SyncR (w + 1) (N + 3) B' B s ∧
    x.1.truth.lookup (bt' j) = some ⟨j, blkMsg B'.hash⟩ ∧ CommitStep w B P s0 s
  pool : x.2 = done.flatMap (ackMsgs C L B' bt')

end HsVerif.Model
