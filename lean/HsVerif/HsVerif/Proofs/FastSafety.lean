import HsVerif.Proofs.Safety
import HsVerif.Proofs.QuorumCount
/-!
Abstract, TIMED safety analysis of Fast-HotStuff as this code base implements it (after the repairs
02b12f6, 4f3d40f, 7d9bd97): two-chain commit, aggregate QCs after a view change, and a voter that
SKIPS the reported QCs it cannot validate (`findHighestValidQC`).

The system (`TSys`) is any block forest with views, any set of replicas some of which are honest, any
quorum family in which two quorums share an honest replica, and three families of TIMED events
(the time is a global event index).  `Discipline` states what honest replicas do, one clause per code fact.

Safety follows from the one step of the classical argument that depends on the vote rule (`one_branch_of_key`).
That step holds IF a voter abstains whenever an honest signer's reported QC cannot be validated (`StrictJust`),
or IF all voters of a block are shown the same aggregate QC (`UniformJust`; e.g. the aggregate QC is covered by
the block hash).  WITHOUT either hypothesis the discipline does NOT imply safety: `Proofs/FastCex.lean` is a
seven replica instance of `Discipline` with two conflicting two-chain commits.
-/
namespace HsVerif.FastSafety
open HsVerif.Safety

structure TSys where
  Blk : Type
  Rep : Type
  gen : Blk
  view : Blk → Nat
  par : Blk → Blk
  honest : Rep → Prop
  Quorum : (Rep → Prop) → Prop
  /-- `votedAt r b t`: `r` signed a vote for `b` at time `t` -/
  votedAt : Rep → Blk → Nat → Prop
  /-- `timedOutAt r u t R`: `r` signed its timeout message for view `u` at time `t`; the message carries `r`'s
  high QC, which certifies `R` -/
  timedOutAt : Rep → Nat → Nat → Blk → Prop
  /-- `hasAt r b t`: `r` stores (or can fetch) `b` at time `t` -/
  hasAt : Rep → Blk → Nat → Prop

/-- forgetting time: the untimed system of `Proofs/Safety.lean` (for `up`, `Ext`, `ChainLog`, `logs_prefix`) -/
def TSys.toSys (S : TSys) : Sys where
  Blk := S.Blk
  Rep := S.Rep
  gen := S.gen
  view := S.view
  par := S.par
  honest := S.honest
  voted := fun r b => ∃ t, S.votedAt r b t
  Quorum := S.Quorum

variable (S : TSys)

abbrev TExt (w b : S.Blk) : Prop := Ext S.toSys w b

def Certified (b : S.Blk) : Prop := ∃ Q, S.Quorum Q ∧ ∀ r, Q r → S.honest r → ∃ t, S.votedAt r b t

/-- a quorum whose honest members all voted for `b` strictly before time `t`: a QC for `b` can exist at `t` -/
def CertBefore (b : S.Blk) (t : Nat) : Prop :=
  ∃ Q, S.Quorum Q ∧ ∀ r, Q r → S.honest r → ∃ t', t' < t ∧ S.votedAt r b t'

def GCBefore (b : S.Blk) (t : Nat) : Prop := b = S.gen ∨ CertBefore S b t

/-- plain vote rule: `w.view = w.qc.view + 1` (`w.qc` certifies `w`'s parent) -/
def Plain (w : S.Blk) : Prop := S.view w = S.view (S.par w) + 1

/-- Aggregate vote rule, as checked by voter `r` at time `t` for block `w` against the aggregate QC
`(T, u, rep)`: signers `T`, timed out view `u`, `rep m` = the block certified by the QC reported by `m`. -/
structure AggJ (r : S.Rep) (w : S.Blk) (t : Nat) (T : S.Rep → Prop) (u : Nat) (rep : S.Rep → S.Blk) : Prop where
  /-- `VerifyAggregateQC`: a quorum of signatures -/
  quorum : S.Quorum T
  /-- repair 02b12f6: `aggQC.View() + 1 ≥ block.View()` -/
  fresh : S.view w ≤ u + 1
  /-- the signatures verify: an honest signer really signed this timeout message, earlier -/
  reports : ∀ m, T m → S.honest m → ∃ t', t' < t ∧ S.timedOutAt m u t' (rep m)
  /-- `findHighestValidQC` + repair 7d9bd97: `w.qc` certifies what the highest reported QC THAT VERIFIES
  AT THE VOTER certifies; a reported QC whose block the voter lacks does not verify and is skipped -/
  high_max : ∀ m, T m → S.hasAt r (rep m) t → GCBefore S (rep m) t → S.view (rep m) ≤ S.view (S.par w)
  /-- ... and that highest valid QC is one of the reported ones -/
  high_mem : ∃ m, T m ∧ rep m = S.par w

structure Discipline : Prop where
  gen_view : S.view S.gen = 0
  par_gen : S.par S.gen = S.gen
  /-- C20 + at most f Byzantine (`countQuorum_inter` below, from `Proofs/QuorumCount.lean`) -/
  inter : ∀ Q1 Q2, S.Quorum Q1 → S.Quorum Q2 → ∃ r, Q1 r ∧ Q2 r ∧ S.honest r
  /-- the store only grows (no pruning of uncommitted blocks within the horizon considered) -/
  has_mono : ∀ r b t t', S.hasAt r b t → t ≤ t' → S.hasAt r b t'
  /-- `lastVotedView`: at most one vote per view -/
  one_per_view : ∀ r x y t1 t2, S.honest r → S.votedAt r x t1 → S.votedAt r y t2 → S.view x = S.view y → x = y
  /-- `lastVotedView`: votes are cast in increasing view order -/
  vote_order : ∀ r x y t1 t2, S.honest r → S.votedAt r x t1 → S.votedAt r y t2 → S.view x < S.view y → t1 < t2
  /-- `Voter.Verify`: `w.qc` verifies (so `w`'s parent is certified by earlier votes, or genesis, and is
  stored or fetched), `w.parent = w.qc.hash`, `w.qc.view < w.view`; the voted block is stored -/
  wf : ∀ r w t, S.honest r → S.votedAt r w t →
    GCBefore S (S.par w) t ∧ S.view (S.par w) < S.view w ∧ S.hasAt r w t ∧ S.hasAt r (S.par w) t
  /-- `VoteRule` + `VerifyAnyQC`: plain or aggregate justification -/
  just : ∀ r w t, S.honest r → S.votedAt r w t → Plain S w ∨ ∃ T u rep, AggJ S r w t T u rep
  /-- `lastTimeout`: one timeout message per view -/
  tmo_once : ∀ m u t1 t2 R1 R2, S.honest m → S.timedOutAt m u t1 R1 → S.timedOutAt m u t2 R2 → t1 = t2 ∧ R1 = R2
  /-- `OnLocalTimeout`: the message carries the current high QC -- a verified QC (certified by earlier
  votes, block stored), at least as high as the QC of every block voted for so far; votes cast before
  were for views up to the current one; `StopVoting(u)`: no later vote in a view `≤ u` -/
  report : ∀ m u t' R, S.honest m → S.timedOutAt m u t' R →
    GCBefore S R t' ∧ S.hasAt m R t' ∧
    (∀ x tx, S.votedAt m x tx → tx < t' → S.view (S.par x) ≤ S.view R ∧ S.view x ≤ u) ∧
    (∀ x tx, S.votedAt m x tx → t' ≤ tx → u < S.view x)
  /-- the view and the high QC of a replica only grow -/
  report_mono : ∀ m u1 u2 t1 t2 R1 R2, S.honest m → S.timedOutAt m u1 t1 R1 → S.timedOutAt m u2 t2 R2 →
    t1 ≤ t2 → u1 ≤ u2 ∧ S.view R1 ≤ S.view R2

/-- EXTRA hypothesis 1 (not what the code does): a voter abstains when the QC reported by an honest signer
of the aggregate QC cannot be validated, i.e. every honest report is for a block the voter has. -/
def StrictJust : Prop := ∀ r w t, S.honest r → S.votedAt r w t →
  Plain S w ∨ ∃ T u rep, AggJ S r w t T u rep ∧ ∀ m, T m → S.honest m → S.hasAt r (rep m) t

/-- EXTRA hypothesis 2 (not what the code does): all honest voters of one block check the SAME aggregate QC
(for instance because the aggregate QC is covered by the block hash). -/
def UniformJust : Prop := ∀ w,
  Plain S w ∨ ∃ T u rep, ∀ r t, S.honest r → S.votedAt r w t → AggJ S r w t T u rep

/-- The commit condition of Fast-HotStuff for `b0`: `b0 ← b1` directly linked, consecutive views, `b1`
certified (a proposal carrying the QC of `b1` was received). -/
structure TwoChain (b0 b1 : S.Blk) : Prop where
  p : S.par b1 = b0
  v : S.view b1 = S.view b0 + 1
  cert : Certified S b1

variable {S}

theorem CertBefore.certified {b : S.Blk} {t : Nat} (h : CertBefore S b t) : Certified S b := by
  obtain ⟨Q, hQ, hv⟩ := h
  exact ⟨Q, hQ, fun r hr hh => by obtain ⟨t', _, h'⟩ := hv r hr hh; exact ⟨t', h'⟩⟩

theorem GCBefore.gc {b : S.Blk} {t : Nat} (h : GCBefore S b t) : GC S.toSys b :=
  h.imp_right CertBefore.certified

theorem CertBefore.mono {b : S.Blk} {t t' : Nat} (h : CertBefore S b t) (hle : t ≤ t') : CertBefore S b t' := by
  obtain ⟨Q, hQ, hv⟩ := h
  exact ⟨Q, hQ, fun r hr hh => by obtain ⟨t1, h1, h2⟩ := hv r hr hh; exact ⟨t1, by omega, h2⟩⟩

theorem GCBefore.mono {b : S.Blk} {t t' : Nat} (h : GCBefore S b t) (hle : t ≤ t') : GCBefore S b t' :=
  h.imp_right (·.mono hle)

section
variable (D : Discipline S)
include D

theorem Discipline.vd : VoteDiscipline S.toSys where
  gen_view := D.gen_view
  par_gen := D.par_gen
  inter := D.inter
  one_per_view := fun r x y hh ⟨t1, h1⟩ ⟨t2, h2⟩ hv => D.one_per_view r x y t1 t2 hh h1 h2 hv
  wf := fun r w hh ⟨t, hv⟩ => ⟨(D.wf r w t hh hv).1.gc, (D.wf r w t hh hv).2.1⟩

theorem cert_voter {b : S.Blk} (h : Certified S b) : ∃ r t, S.honest r ∧ S.votedAt r b t := by
  obtain ⟨r, hh, ⟨t, hv⟩, _⟩ := common_voter (S := S.toSys) D.inter h h
  exact ⟨r, t, hh, hv⟩

theorem TwoChain.gc0 {b0 b1 : S.Blk} (C : TwoChain S b0 b1) : GC S.toSys b0 :=
  C.p ▸ (D.vd.cert_par C.cert).1

/-- The classical induction, with the one step that depends on the vote rule isolated as `hkey`. -/
theorem extends_of_key {b0 b1 : S.Blk} (C : TwoChain S b0 b1)
    (hkey : ∀ w, Certified S w → S.view b0 + 2 ≤ S.view w → S.view b0 ≤ S.view (S.par w))
    (w : S.Blk) (hw : GC S.toSys w) (hge : S.view b0 ≤ S.view w) : TExt S w b0 := by
  refine extends_of_step (S := S.toSys) (Nat.le_trans (Nat.le_of_eq D.gen_view) (Nat.zero_le _))
    (fun x hx hv => D.vd.gc_unique hx (C.gc0 D) hv) (fun w hw (hlt : S.view b0 < S.view w) => ?_) w hw hge
  by_cases h1 : S.view w = S.view b1
  · obtain rfl := D.vd.gc_unique (Or.inr hw) (Or.inr C.cert) h1
    exact ⟨b0, C.gc0 D, Nat.le_refl _, hlt, Ext.step (S := S.toSys) (C.p ▸ Ext.refl (S := S.toSys) b0)⟩
  · obtain ⟨hp, hplt⟩ := D.vd.cert_par hw
    exact ⟨S.par w, hp, hkey w hw (by have := C.v; omega), hplt, Ext.step (S := S.toSys) (Ext.refl _)⟩

theorem one_branch_of_key
    (hkey : ∀ {b0 b1}, TwoChain S b0 b1 → ∀ w, Certified S w → S.view b0 + 2 ≤ S.view w → S.view b0 ≤ S.view (S.par w))
    {b0 b1 c0 c1 : S.Blk} (Cb : TwoChain S b0 b1) (Cc : TwoChain S c0 c1) : TExt S b0 c0 ∨ TExt S c0 b0 := by
  rcases Nat.le_total (S.view b0) (S.view c0) with h | h
  · exact Or.inr (extends_of_key D Cb (hkey Cb) c0 (Cc.gc0 D) h)
  · exact Or.inl (extends_of_key D Cc (hkey Cc) b0 (Cb.gc0 D) h)

/-- **What an aggregate QC guarantees**: an aggregate QC accepted for a block two or more views above a
two-chain `b0 ← b1` contains the timeout of an honest voter of `b1`, signed after that vote, so the QC it
reports is at least as high as `b0`. -/
theorem agg_report {b0 b1 : S.Blk} (C : TwoChain S b0 b1) {r : S.Rep} {w : S.Blk} {t : Nat}
    {T : S.Rep → Prop} {u : Nat} {rep : S.Rep → S.Blk} (A : AggJ S r w t T u rep)
    (hw : S.view b0 + 2 ≤ S.view w) :
    ∃ m t', T m ∧ S.honest m ∧ t' < t ∧ S.timedOutAt m u t' (rep m) ∧ S.view b0 ≤ S.view (rep m) := by
  obtain ⟨Q1, hQ1, hv1⟩ := C.cert
  obtain ⟨m, hmT, hmQ, hh⟩ := D.inter T Q1 A.quorum hQ1
  obtain ⟨t', hlt, htm⟩ := A.reports m hmT hh
  obtain ⟨tm, hvm⟩ := hv1 m hmQ hh
  obtain ⟨_, _, hbefore, hafter⟩ := D.report m u t' (rep m) hh htm
  refine ⟨m, t', hmT, hh, hlt, htm, ?_⟩
  by_cases hord : tm < t'
  · have := (hbefore b1 tm hvm hord).1
    rwa [C.p] at this
  · have := hafter b1 tm hvm (by omega)
    have := A.fresh
    have := C.v
    omega

theorem key_strict (hs : StrictJust S) {b0 b1 : S.Blk} (C : TwoChain S b0 b1)
    (w : S.Blk) (hw : Certified S w) (hge : S.view b0 + 2 ≤ S.view w) : S.view b0 ≤ S.view (S.par w) := by
  obtain ⟨r, t, hh, hv⟩ := cert_voter D hw
  rcases hs r w t hh hv with hp | ⟨T, u, rep, A, hall⟩
  · unfold Plain at hp; omega
  · obtain ⟨m, t', hmT, hmh, hlt, htm, hview⟩ := agg_report D C A hge
    have hgcb := (D.report m u t' (rep m) hmh htm).1
    have := A.high_max m hmT (hall m hmT hmh) (hgcb.mono (by omega))
    omega

/-- The honest voters of the reported block and the honest voters of `w` intersect, and the common voter has the
reported block when it checks the (common) aggregate QC. -/
theorem key_uniform (hu : UniformJust S) {b0 b1 : S.Blk} (C : TwoChain S b0 b1)
    (w : S.Blk) (hw : Certified S w) (hge : S.view b0 + 2 ≤ S.view w) : S.view b0 ≤ S.view (S.par w) := by
  rcases hu w with hp | ⟨T, u, rep, hall⟩
  · unfold Plain at hp; omega
  · obtain ⟨r0, t0, hh0, hv0⟩ := cert_voter D hw
    have A0 := hall r0 t0 hh0 hv0
    obtain ⟨m, t', hmT, hmh, hlt, htm, hview⟩ := agg_report D C A0 hge
    rcases (D.report m u t' (rep m) hmh htm).1 with hg | ⟨QR, hQR, hvR⟩
    · rw [hg, D.gen_view] at hview; omega
    · obtain ⟨Qw, hQw, hvw⟩ := hw
      obtain ⟨y, hyR, hyw, hyh⟩ := D.inter QR Qw hQR hQw
      obtain ⟨tR, htR, hvyR⟩ := hvR y hyR hyh
      obtain ⟨ty, hvyw⟩ := hvw y hyw hyh
      have Ay := hall y ty hyh hvyw
      obtain ⟨t'', hlt'', htm''⟩ := Ay.reports m hmT hmh
      have heq := (D.tmo_once m u t' t'' _ _ hmh htm htm'').1
      have hhasR : S.hasAt y (rep m) tR := (D.wf y (rep m) tR hyh hvyR).2.2.1
      have hhas : S.hasAt y (rep m) ty := D.has_mono y (rep m) tR ty hhasR (by omega)
      have hgcb : GCBefore S (rep m) ty := Or.inr (CertBefore.mono ⟨QR, hQR, hvR⟩ (by omega))
      have := Ay.high_max m hmT hhas hgcb
      omega

end

/-! ### The quorum hypothesis from the counting lemma of `Proofs/QuorumCount.lean` -/

open HsVerif.Model HsVerif.QuorumCount in
theorem countQuorum_inter (n : Nat) (byz : Nat → Bool) (hf : count byz n ≤ numFaulty n)
    (Q1 Q2 : Fin n → Prop)
    (h1 : ∃ A : Nat → Bool, quorumSize n ≤ count A n ∧ ∀ r : Fin n, A r.val = true → Q1 r)
    (h2 : ∃ A : Nat → Bool, quorumSize n ≤ count A n ∧ ∀ r : Fin n, A r.val = true → Q2 r) :
    ∃ r : Fin n, Q1 r ∧ Q2 r ∧ byz r.val = false := by
  obtain ⟨A, hA, hAQ⟩ := h1
  obtain ⟨B, hB, hBQ⟩ := h2
  obtain ⟨i, hi, hiA, hiB, hib⟩ := quorums_share_honest n A B byz hA hB hf
  exact ⟨⟨i, hi⟩, hAQ ⟨i, hi⟩ hiA, hBQ ⟨i, hi⟩ hiB, hib⟩

end HsVerif.FastSafety
