import HsVerif.Proofs.CertComplete
import HsVerif.Proofs.QuorumCount
import HsVerif.Proofs.ReplicaCur
/-!
Progress of the replica model, one handler at a time (C05): EXACT runs of the handlers on states that satisfy explicit
preconditions, as equations `(handler args).run s = pure (result, s')` (the `pure` is `Id`'s: the form in which `simp`'s monad
lemmas chain), not triples.  `tryCommit` is kept abstract (`tcS`, `tcS_upd`); the state in which a vote is handed to
`aggregateVote` is a record update of the state before (`voted_upd`, `proposed_upd`), so its fields are read off by `rfl`.
There are two families of step lemmas, and both are needed: equations for a replica with nothing deferred and a known outcome
of `aggregateVote` (what the rounds of the system use), and bounds by `Later` that hold with votes waiting and whatever
`aggregateVote` does (what the one-step theorems of Props/C05Live.lean claim for ANY such state).
-/
namespace HsVerif.Model
open HsVerif.Proofs

theorem quorum_le_n (n : Nat) (h : 2 ≤ n) : 2 ≤ quorumSize n ∧ quorumSize n ≤ n :=
  ⟨(QuorumCount.quorumSize_ge n).1 h, QuorumCount.quorumSize_le n (by omega)⟩


theorem getBlock_local (h : Hash) (b : Block) (s : RState) (hl : s.chain.blocks.lookup h = some b) :
    (getBlock h).run s = pure (some b, s) := by
  simp [getBlock, RChain.get, hl]

theorem fetchedS_of_verifies (k : Keys) (c : RCfg) (s : RState) (q : QC) (h : verifyQC (env k c s) q = true) :
    fetchedS c q s = s := by
  rcases fetchedS_cases c q s with ⟨h0, _⟩ | ⟨hg, _, _, _, h1⟩
  · exact h0
  · obtain ⟨_, b, _, _, hb, _⟩ := (verifyQC_iff _ q hg).mp h
    have hb : s.chain.blocks.lookup q.hash = some b := hb
    rw [h1]; simp [RChain.get, hb]

theorem verifyQCM_true (k : Keys) (c : RCfg) (s : RState) (q : QC) (h : verifyQC (env k c s) q = true) :
    (verifyQCM k c q).run s = pure (true, s) := by
  rw [verifyQCM_run, fetchedS_of_verifies k c s q h, h]

/-- bytes of `c.id`'s signature over `m` made in state `s` (Ed25519 reuses the bytes of an earlier
signature over the same message) -/
def signOld (c : RCfg) (m : Msg) (s : RState) : Option (Nat × Atom) :=
  if c.scheme == .eddsa then s.truth.find? (fun p => p.2 == ⟨c.id, m⟩) else none

def signBytes (c : RCfg) (m : Msg) (s : RState) : Nat :=
  match signOld c m s with | some p => p.1 | none => s.nextBytes

def signState (c : RCfg) (m : Msg) (s : RState) : RState :=
  match signOld c m s with
  | some _ => { s with out := s.out ++ [.sign m] }
  | none => { s with out := s.out ++ [.sign m], truth := (s.nextBytes, ⟨c.id, m⟩) :: s.truth, nextBytes := s.nextBytes + 1 }

theorem signMsg_run (c : RCfg) (m : Msg) (s : RState) (hs : c.scheme ≠ .bls12) :
    (signMsg c m).run s = pure (.multi c.scheme [⟨c.id, signBytes c m s⟩], signState c m s) := by
  unfold signBytes signState signOld
  simp [signMsg, emit, hs]
  split <;> rename_i h <;> simp [h]

theorem signState_lookup (c : RCfg) (m : Msg) (s : RState) (hf : FreshS s) :
    (signState c m s).truth.lookup (signBytes c m s) = some ⟨c.id, m⟩ := by
  unfold signBytes signState
  cases h : signOld c m s with
  | none => simp
  | some p =>
    simp only
    unfold signOld at h
    split at h
    · have hm := List.mem_of_find?_eq_some h
      have hp := List.find?_some h
      simp at hp
      rw [(FreshL.lookup_iff hf p.1 _)]
      rw [← hp]; exact hm
    · cases h

theorem signState_fresh (c : RCfg) (m : Msg) (s : RState) (hf : FreshS s) : FreshS (signState c m s) := by
  unfold signState
  split
  · exact hf
  · exact FreshL.cons _ hf


/-- the state after `voteFor c b id` -/
def voteS (c : RCfg) (b : Block) (id : Nat) (s : RState) : RState :=
  { signState c (blkMsg b.hash) s with lastVoted := b.view, ghost := (signState c (blkMsg b.hash) s).ghost ++ [.vote b id] }

def voteSig (c : RCfg) (b : Block) (s : RState) : Sig := .multi c.scheme [⟨c.id, signBytes c (blkMsg b.hash) s⟩]

theorem voteFor_run (c : RCfg) (b : Block) (id : Nat) (s : RState) (hs : c.scheme ≠ .bls12) :
    (voteFor c b id).run s = pure (voteSig c b s, voteS c b id s) := by
  simp [voteFor, signMsg_run c _ _ hs, voteS, voteSig]

theorem voteRule_chained_above (c : RCfg) (hc : c.rules = .chained) (s : RState) (b qb : Block) (view : Nat)
    (h1 : s.chain.blocks.lookup b.qc.hash = some qb)
    (h2 : qb.qc.hash = "" ∨ ∃ gb, s.chain.blocks.lookup qb.qc.hash = some gb)
    (h3 : qb.view > s.lock.view) :
    (voteRule c view b none).run s = pure (true, s) := by
  rcases h2 with h2 | ⟨gb, h2⟩
  · simp [voteRule, hc, getBlock_local _ _ _ h1, h2, h3]
  · by_cases he : qb.qc.hash = ""
    · simp [voteRule, hc, getBlock_local _ _ _ h1, he, h3]
    · simp [voteRule, hc, getBlock_local _ _ _ h1, getBlock_local _ _ _ h2, he, h3]

theorem voteRule_simple_ok (c : RCfg) (hc : c.rules = .simple) (s : RState) (b p : Block) (view : Nat)
    (hv : view ≤ b.view)
    (h1 : s.chain.blocks.lookup b.qc.hash = some p)
    (h2 : p.qc.hash = "" ∨ ∃ gb, s.chain.blocks.lookup p.qc.hash = some gb)
    (h3 : s.lock.view ≤ p.view) :
    (voteRule c view b none).run s = pure (true, s) := by
  have hv' : ¬ b.view < view := by omega
  have h3' : ¬ p.view < s.lock.view := by omega
  rcases h2 with h2 | ⟨gb, h2⟩
  · simp [voteRule, hc, getBlock_local _ _ _ h1, h2, h3', hv']
  · by_cases he : p.qc.hash = ""
    · simp [voteRule, hc, getBlock_local _ _ _ h1, he, h3', hv']
    · simp [voteRule, hc, getBlock_local _ _ _ h1, getBlock_local _ _ _ h2, he, h3', hv']

theorem verifyAnyM_plain (k : Keys) (c : RCfg) (s : RState) (q : QC) (h : verifyQC (env k c s) q = true) :
    (verifyAnyM k c q none).run s = pure (.ok (), s) := by
  simp [verifyAnyM, verifyQCM_true k c s q h]

theorem voterVerify_ok (k : Keys) (c : RCfg) (s : RState) (id : Nat) (b : Block)
    (hlv : s.lastVoted < b.view)
    (hrule : (voteRule c b.view b none).run s = pure (true, s))
    (hqc : verifyQC (env k c s) b.qc = true)
    (hpar : b.parent = b.qc.hash) (hqv : b.qc.view < b.view) (hid : id = c.leader b.view) :
    (voterVerify k c id b none).run s = pure (.ok (), s) := by
  have h1 : ¬ b.view ≤ s.lastVoted := by omega
  have h2 : ¬ b.qc.view ≥ b.view := by omega
  simp [voterVerify, h1, hrule, verifyAnyM_plain k c s _ hqc, hpar, h2, hid]


theorem verifySyncInfo_qc_run (k : Keys) (c : RCfg) (s : RState) (q : QC) (ha : c.agg = false)
    (hqc : verifyQC (env k c s) q = true) :
    (verifySyncInfo k c { qc := some q }).run s = pure (.ok (some q, q.view, false), s) := by
  simp [verifySyncInfo, ha, verifyQCM_true k c s q hqc]

theorem verifySyncInfo_qc_tc_run (k : Keys) (c : RCfg) (s : RState) (q : QC) (tc : TC) (ha : c.agg = false)
    (htc : verifyTC (env k c s) tc = true) (hqc : verifyQC (env k c s) q = true) :
    (verifySyncInfo k c { qc := some q, tc := some tc }).run s =
      pure (.ok (some q, max tc.view q.view, decide (q.view < tc.view)), s) := by
  simp [verifySyncInfo, ha, verifyTCM_run, htc, verifyQCM_true k c s q hqc]
  by_cases h : tc.view ≤ q.view
  · simp [h, Nat.max_eq_right h, Nat.not_lt.mpr h]
  · simp [h, Nat.max_eq_left (Nat.le_of_not_le h), Nat.lt_of_not_le h]

/-- the state after `UpdateHighTC` -/
def updHighTC (s : RState) : Option TC → RState
  | some tc => { s with highTC := if tc.view > s.highTC.view then tc else s.highTC }
  | none => s

/-- the state after `UpdateHighQC` with certificate `q` of stored block `nb` -/
def updHighQC (s : RState) (q : QC) (nb : Block) : RState :=
  { s with highQC := if nb.view ≤ s.highQC.view then s.highQC else q }

theorem updHighQC_self (s : RState) (nb : Block) : updHighQC s s.highQC nb = s := by
  simp [updHighQC]

/-- the state after `EnterViewAfter(view)` (before the new leader proposes / the new-view message is sent) -/
def enterS (s : RState) (view : Nat) (timeout : Bool) : RState :=
  { s with view := view + 1, lastTimeout := none, ghost := s.ghost ++ [.adv s.view view timeout],
           queue := s.queue ++ [.viewChange (view + 1) timeout] }

/-- the `advanceView_…` equations below are instances -/
theorem advanceView_run (k : Keys) (c : RCfg) (s : RState) (si : SyncInfo) (q : QC) (nb : Block) (view : Nat) (timeout : Bool)
    (hver : (verifySyncInfo k c si).run s = pure (.ok (some q, view, timeout), s))
    (hnb : s.chain.blocks.lookup q.hash = some nb) :
    (advanceView k c si).run s =
      if view < s.view then pure ((), updHighQC (updHighTC s si.tc) q nb) else
      (if c.leader (view + 1) = c.id then
         createAndPropose k c { si with qc := some (updHighQC (updHighTC s si.tc) q nb).highQC }
       else emit (.sendNewView (c.leader (view + 1)) { si with qc := some (updHighQC (updHighTC s si.tc) q nb).highQC })).run
        (enterS (updHighQC (updHighTC s si.tc) q nb) view timeout) := by
  have hnb' : ∀ s' : RState, s'.chain = s.chain → (getBlock q.hash).run s' = pure (some nb, s') :=
    fun s' hc => getBlock_local _ _ s' (by rw [hc]; exact hnb)
  obtain ⟨q0, tc0, a0⟩ := si
  cases tc0 <;>
  simp [advanceView, hver, hnb', updHighTC, updHighQC, enterS, addEvent] <;>
  split <;> rfl

theorem advanceView_stay (k : Keys) (c : RCfg) (s : RState) (q : QC) (nb : Block) (ha : c.agg = false)
    (hqc : verifyQC (env k c s) q = true) (hnb : s.chain.blocks.lookup q.hash = some nb) (hv : q.view < s.view) :
    (advanceView k c { qc := some q }).run s = pure ((), updHighQC s q nb) := by
  rw [advanceView_run k c s _ q nb _ _ (verifySyncInfo_qc_run k c s q ha hqc) hnb, if_pos hv]
  rfl

/-- the state after `advanceView` has left view `s.view` on the certificate `q` of stored block `nb`, for
the view AFTER THE CERTIFICATE (`EnterViewAfter`; before the new leader proposes / the new-view message
is sent) -/
def jumpedS (s : RState) (q : QC) (nb : Block) : RState :=
  { updHighQC s q nb with
    view := q.view + 1, lastTimeout := none,
    ghost := s.ghost ++ [.adv s.view q.view false],
    queue := s.queue ++ [.viewChange (q.view + 1) false] }

theorem advanceView_jump (k : Keys) (c : RCfg) (s : RState) (q : QC) (nb : Block) (ha : c.agg = false)
    (hqc : verifyQC (env k c s) q = true) (hnb : s.chain.blocks.lookup q.hash = some nb) (hv : s.view ≤ q.view) :
    (advanceView k c { qc := some q }).run s =
      (if c.leader (q.view + 1) = c.id then createAndPropose k c { qc := some (updHighQC s q nb).highQC }
       else emit (.sendNewView (c.leader (q.view + 1)) { qc := some (updHighQC s q nb).highQC })).run (jumpedS s q nb) := by
  rw [advanceView_run k c s _ q nb _ _ (verifySyncInfo_qc_run k c s q ha hqc) hnb, if_neg (Nat.not_lt.mpr hv)]
  rfl

/-- the state after `advanceView` has left view `s.view` on the certificate `q` OF THAT VIEW, of stored
block `nb` (before the new leader proposes / the new-view message is sent) -/
def movedS (s : RState) (q : QC) (nb : Block) : RState :=
  { updHighQC s q nb with
    view := s.view + 1, lastTimeout := none,
    ghost := s.ghost ++ [.adv s.view q.view false],
    queue := s.queue ++ [.viewChange (s.view + 1) false] }

theorem jumpedS_eq_movedS (s : RState) (q : QC) (nb : Block) (hv : s.view = q.view) : jumpedS s q nb = movedS s q nb := by
  simp [jumpedS, movedS, hv]

theorem advanceView_move (k : Keys) (c : RCfg) (s : RState) (q : QC) (nb : Block) (ha : c.agg = false)
    (hqc : verifyQC (env k c s) q = true) (hnb : s.chain.blocks.lookup q.hash = some nb) (hv : s.view = q.view) :
    (advanceView k c { qc := some q }).run s =
      (if c.leader (s.view + 1) = c.id then createAndPropose k c { qc := some (updHighQC s q nb).highQC }
       else emit (.sendNewView (c.leader (s.view + 1)) { qc := some (updHighQC s q nb).highQC })).run (movedS s q nb) := by
  rw [advanceView_jump k c s q nb ha hqc hnb (Nat.le_of_eq hv), jumpedS_eq_movedS s q nb hv, ← hv]

theorem advanceView_move_nl (k : Keys) (c : RCfg) (s : RState) (q : QC) (nb : Block) (ha : c.agg = false)
    (hqc : verifyQC (env k c s) q = true) (hnb : s.chain.blocks.lookup q.hash = some nb) (hv : s.view = q.view)
    (hhi : s.highQC.view < nb.view) (hnl : c.leader (s.view + 1) ≠ c.id) :
    (advanceView k c { qc := some q }).run s =
      pure ((), { s with highQC := q, view := s.view + 1, lastTimeout := none, ghost := s.ghost ++ [.adv s.view q.view false],
                         queue := s.queue ++ [.viewChange (s.view + 1) false],
                         out := s.out ++ [.sendNewView (c.leader (s.view + 1)) { qc := some q }] }) := by
  rw [advanceView_move k c s q nb ha hqc hnb hv, if_neg hnl]
  unfold movedS updHighQC
  rw [if_neg (by omega)]
  rfl

/-- the state after `advanceView` on the sync info of a timeout message whose certificates are both
older than the current view: only the high certificates are refreshed -/
def absorbS (s : RState) (q : QC) (nb : Block) (tc0 : TC) : RState :=
  { s with highTC := if tc0.view > s.highTC.view then tc0 else s.highTC,
           highQC := if nb.view ≤ s.highQC.view then s.highQC else q }

theorem advanceView_old (k : Keys) (c : RCfg) (s : RState) (q : QC) (nb : Block) (tc0 : TC) (ha : c.agg = false)
    (htc : verifyTC (env k c s) tc0 = true) (hqc : verifyQC (env k c s) q = true)
    (hnb : s.chain.blocks.lookup q.hash = some nb) (hv1 : tc0.view < s.view) (hv2 : q.view < s.view) :
    (advanceView k c { qc := some q, tc := some tc0 }).run s = pure ((), absorbS s q nb tc0) := by
  rw [advanceView_run k c s _ q nb _ _ (verifySyncInfo_qc_tc_run k c s q tc0 ha htc hqc) hnb, if_pos (Nat.max_lt.mpr ⟨hv1, hv2⟩)]
  rfl

/-- the state after `advanceView` has left view `s.view` on the timeout certificate `tc`, for the view after
the certificate's (`EnterViewAfter`) -/
def jumpedTS (s : RState) (tc : TC) : RState :=
  { s with highTC := if tc.view > s.highTC.view then tc else s.highTC,
           view := tc.view + 1, lastTimeout := none,
           ghost := s.ghost ++ [.adv s.view tc.view true],
           queue := s.queue ++ [.viewChange (tc.view + 1) true] }

theorem advanceView_tc_jump (k : Keys) (c : RCfg) (s : RState) (tc : TC) (nb : Block) (ha : c.agg = false)
    (htc : verifyTC (env k c s) tc = true) (hqc : verifyQC (env k c s) s.highQC = true)
    (hnb : s.chain.blocks.lookup s.highQC.hash = some nb) (hv1 : s.view ≤ tc.view) (hv2 : s.highQC.view < tc.view) :
    (advanceView k c { qc := some s.highQC, tc := some tc }).run s =
      (if c.leader (tc.view + 1) = c.id then createAndPropose k c { qc := some s.highQC, tc := some tc }
       else emit (.sendNewView (c.leader (tc.view + 1)) { qc := some s.highQC, tc := some tc })).run (jumpedTS s tc) := by
  have hver := verifySyncInfo_qc_tc_run k c s s.highQC tc ha htc hqc
  rw [Nat.max_eq_left (Nat.le_of_lt hv2), decide_eq_true hv2] at hver
  rw [advanceView_run k c s _ s.highQC nb _ _ hver hnb, if_neg (Nat.not_lt.mpr hv1)]
  exact congrArg (fun s' : RState => (if c.leader (tc.view + 1) = c.id then createAndPropose k c { qc := some s'.highQC, tc := some tc }
       else emit (.sendNewView (c.leader (tc.view + 1)) { qc := some s'.highQC, tc := some tc })).run (enterS s' tc.view true))
    (updHighQC_self (updHighTC s (some tc)) nb)

/-- the state after `advanceView` has left view `s.view` on the timeout certificate `tc` OF THAT VIEW -/
def movedTS (s : RState) (tc : TC) : RState :=
  { s with highTC := if tc.view > s.highTC.view then tc else s.highTC,
           view := s.view + 1, lastTimeout := none,
           ghost := s.ghost ++ [.adv s.view tc.view true],
           queue := s.queue ++ [.viewChange (s.view + 1) true] }

theorem jumpedTS_eq_movedTS (s : RState) (tc : TC) (hv : s.view = tc.view) : jumpedTS s tc = movedTS s tc := by
  simp [jumpedTS, movedTS, hv]

theorem advanceView_tc_move (k : Keys) (c : RCfg) (s : RState) (tc : TC) (nb : Block) (ha : c.agg = false)
    (htc : verifyTC (env k c s) tc = true) (hqc : verifyQC (env k c s) s.highQC = true)
    (hnb : s.chain.blocks.lookup s.highQC.hash = some nb) (hv1 : s.view = tc.view) (hv2 : s.highQC.view < tc.view) :
    (advanceView k c { qc := some s.highQC, tc := some tc }).run s =
      (if c.leader (s.view + 1) = c.id then createAndPropose k c { qc := some s.highQC, tc := some tc }
       else emit (.sendNewView (c.leader (s.view + 1)) { qc := some s.highQC, tc := some tc })).run (movedTS s tc) := by
  rw [advanceView_tc_jump k c s tc nb ha htc hqc hnb (Nat.le_of_eq hv1) hv2, jumpedTS_eq_movedTS s tc hv1, ← hv1]

/-- everything `tryCommit` leaves alone -/
@[reducible] def TCP (s : RState) :=
  (s.view, s.highQC, s.highTC, s.lastVoted, s.lastProposed, s.timeouts, s.lastTimeout, s.votes,
   s.waitingVC, s.waitingProp, s.nextCmd, s.truth, s.nextBytes, s.out, s.ghost)

/-- events whose handling only emits the corresponding effect -/
def Ev.passive : Ev → Bool
  | .commit _ | .exec _ | .abort _ => true
  | _ => false

/-- since the queue was `q0`, only passive events have been queued: what `tryCommit` does to the queue -/
def QP (q0 : List Ev) (s : RState) : Prop := ∃ q, s.queue = q0 ++ q ∧ ∀ e ∈ q, e.passive = true

theorem Upd.tcp {t : Tag} {s s' : RState} (h : Upd t s s') (ht : t ∈ tryCommitT) : TCP s' = TCP s := by
  cases h <;> first | rfl | simp at ht
  case out o => cases o <;> simp [Out.tag] at ht

/-- of the events, `tryCommit` only queues `commit`, `exec` and `abort` -/
theorem Upd.qp {t : Tag} {s s' : RState} (h : Upd t s s') (ht : t ∈ tryCommitT) {q0 : List Ev} (hq : QP q0 s) :
    QP q0 s' := by
  cases h <;> first | exact hq | simp at ht
  case enq e =>
    obtain ⟨q, h1, h2⟩ := hq
    refine ⟨q ++ [e], by simp [h1], fun x hx => ?_⟩
    rcases List.mem_append.1 hx with hx | hx
    · exact h2 x hx
    · cases e <;> simp_all [Ev.tag, Ev.passive]

/-- the effect that handling a quiet event (`Ev.quiet`, below) emits; `.panic` is a filler for the other events -/
def Ev.toOut : Ev → Out
  | .commit b => .commit b
  | .exec b => .exec b
  | .abort b => .abort b
  | .viewChange v t => .viewChange v t
  | _ => .panic

theorem run_eta {α} (x : M α) (s : RState) : x.run s = pure ((x.run s).1, (x.run s).2) := rfl

/-- events whose handling only emits when no event waits for a view change -/
def Ev.quiet : Ev → Bool
  | .commit _ | .exec _ | .abort _ | .viewChange _ _ => true
  | _ => false

theorem quiet_of_passive (e : Ev) (h : e.passive = true) : e.quiet = true := by
  cases e <;> simp [Ev.passive] at h <;> rfl

/-- `hw`: a `viewChange` re-queues what waits for it -/
theorem tick_quiet (k : Keys) (c : RCfg) (s : RState) (e : Ev) (rest : List Ev) (he : e.quiet = true)
    (hw : s.waitingVC = [] ∨ e.passive = true) (hq : s.queue = e :: rest) :
    (tick k c).run s = pure (true, { s with queue := rest, out := s.out ++ [e.toOut] }) := by
  cases e <;> simp [Ev.quiet] at he
  case viewChange v t =>
    have hw : s.waitingVC = [] := by simpa [Ev.passive] using hw
    unfold tick
    simp only [bind, StateT.bind, get, getThe, MonadStateOf.get, StateT.get, StateT.run, hq, set, StateT.set, pure,
      StateT.pure, emit, modify, modifyGet, MonadStateOf.modifyGet, StateT.modifyGet, Ev.toOut, hw, List.append_nil]
  all_goals
    unfold tick
    simp only [bind, StateT.bind, get, getThe, MonadStateOf.get, StateT.get, StateT.run, hq, set, StateT.set, pure,
      StateT.pure, emit, modify, modifyGet, MonadStateOf.modifyGet, StateT.modifyGet, Ev.toOut]

/-- the second hypothesis: a `viewChange` would re-queue what waits for it, so nothing waits, or none is queued -/
theorem runLoop_quiet (k : Keys) (c : RCfg) : ∀ (q : List Ev) (fuel : Nat) (s : RState),
    (∀ e ∈ q, e.quiet = true) → (s.waitingVC = [] ∨ ∀ e ∈ q, e.passive = true) →
    (runLoop k c fuel).run { s with queue := q } =
      pure ((), { s with queue := q.drop fuel, out := s.out ++ (q.take fuel).map Ev.toOut }) := by
  intro q
  induction q with
  | nil =>
    intro fuel s _ _
    cases fuel with
    | zero => simp [runLoop]
    | succ n => rw [runLoop_idle k c n (s := { s with queue := [] }) rfl]; simp
  | cons e rest ih =>
    intro fuel s hp hw
    cases fuel with
    | zero => simp [runLoop]
    | succ n =>
      have ht : (tick k c).run { s with queue := e :: rest } =
          pure (true, { s with queue := rest, out := s.out ++ [e.toOut] }) :=
        tick_quiet k c _ e rest (hp e (by simp)) (hw.imp id fun h => h e (by simp)) rfl
      have := ih n { s with out := s.out ++ [e.toOut] } (fun e' h => hp e' (by simp [h]))
        (hw.imp id (fun h e' he => h e' (by simp [he])))
      exact (runLoop_succ k c n ht).trans (this.trans (by simp))

theorem runLoop_drain (k : Keys) (c : RCfg) (fuel : Nat) (s : RState) (hquiet : ∀ e ∈ s.queue, e.quiet = true)
    (hw : s.waitingVC = []) (hlen : s.queue.length < fuel) :
    (runLoop k c fuel).run s = pure ((), { s with queue := [], out := s.out ++ s.queue.map Ev.toOut }) := by
  have h := runLoop_quiet k c s.queue fuel s hquiet (Or.inl hw)
  rw [List.drop_eq_nil_of_le (Nat.le_of_lt hlen), List.take_of_length_le (Nat.le_of_lt hlen)] at h
  exact h

theorem step_tick_noop (k : Keys) (c : RCfg) (s : RState) (e : Ev) (hq : s.queue = [])
    (ht : (tick k c).run { s with out := [], queue := [e] } = pure (true, { s with out := [], queue := [] })) :
    step k c s e = ({ s with out := [] }, []) := by
  rw [step_tick_idle k c s _ e hq ht rfl]
  show (({ s with out := [], queue := [] } : RState), ([] : List Out)) = _
  rw [← hq]

theorem step_tick_drain (k : Keys) (c : RCfg) (s s' : RState) (e : Ev) (hq : s.queue = [])
    (ht : (tick k c).run { s with out := [], queue := [e] } = pure (true, s'))
    (hquiet : ∀ x ∈ s'.queue, x.quiet = true) (hw : s'.waitingVC = [] ∨ ∀ x ∈ s'.queue, x.passive = true) :
    step k c s e = ({ s' with queue := s'.queue.drop 99999, out := [] }, s'.out ++ (s'.queue.take 99999).map Ev.toOut) := by
  rw [step_tick k c s s' e hq ht, drain, runLoop_quiet k c s'.queue 99999 s' hquiet hw]
  rfl

theorem step_tick_quiet (k : Keys) (c : RCfg) (s s' : RState) (e : Ev) (hq : s.queue = [])
    (ht : (tick k c).run { s with out := [], queue := [e] } = pure (true, s'))
    (hquiet : ∀ x ∈ s'.queue, x.quiet = true) (hw : s'.waitingVC = []) (hlen : s'.queue.length < 99999) :
    step k c s e = ({ s' with queue := [], out := [] }, s'.out ++ s'.queue.map Ev.toOut) := by
  rw [step_tick_drain k c s s' e hq ht hquiet (Or.inl hw), List.drop_eq_nil_of_le (Nat.le_of_lt hlen),
    List.take_of_length_le (Nat.le_of_lt hlen)]

def tcS (c : RCfg) (b : Block) (s : RState) : RState := ((tryCommit c b).run s).2

/-- (deliberately not a `rfl` lemma for `simp`: as a definitional rewrite it makes the kernel compare
`tryCommit` runs on syntactically different states by unfolding them) -/
theorem tryCommit_tcS (c : RCfg) (b : Block) (s : RState) : (tryCommit c b).run s = pure ((), tcS c b s) := by
  have h : ∀ x : Id (Unit × RState), x = pure ((), x.2) := fun _ => rfl
  exact h _

theorem tcS_upd (c : RCfg) (b : Block) (s : RState) :
    ∃ evs, tcS c b s = { s with chain := (tcS c b s).chain, lock := (tcS c b s).lock, committed := (tcS c b s).committed,
                                queue := s.queue ++ evs } ∧ ∀ e ∈ evs, e.passive = true := by
  obtain ⟨evs, hq, hp⟩ : QP s.queue (tcS c b s) :=
    (tryCommit_steps c b s).preserves (fun _ ht _ _ hu => hu.qp ht) ⟨[], by simp, by simp⟩
  have h : TCP (tcS c b s) = TCP s :=
    (tryCommit_steps c b s).preserves (P := fun s' => TCP s' = TCP s) (fun _ ht _ _ hu hp => (hu.tcp ht).trans hp) rfl
  simp only [TCP, Prod.mk.injEq] at h
  refine ⟨evs, ?_, hp⟩
  generalize tcS c b s = x at *
  cases x; cases s; simp_all

theorem tcS_has (c : RCfg) (b : Block) (s : RState) : Has b.hash (tcS c b s) :=
  run_res_of_triple _ (fun _ => True) (fun _ s' => Has b.hash s') (tryCommit_has c b) s trivial

theorem tcS_grows (c : RCfg) (b : Block) (s : RState) : Grows s.chain.blocks (tcS c b s) :=
  grows_run _ (tryCommit_gr c b) s

theorem voteS_eq (c : RCfg) (b : Block) (id : Nat) (s : RState) :
    ∃ T n, voteS c b id s = { s with out := s.out ++ [.sign (blkMsg b.hash)], truth := T, nextBytes := n, lastVoted := b.view,
                                     ghost := s.ghost ++ [.vote b id] } := by
  unfold voteS signState; split <;> exact ⟨_, _, rfl⟩

/-- the state after `onValidPropose k c id b` at a replica that is not the next leader -/
def votedS (c : RCfg) (b : Block) (id : Nat) (s : RState) : RState :=
  let s3 := voteS c b id (tcS c b s)
  { s3 with out := s3.out ++ [.sendVote (c.leader (b.view + 1)) (voteSig c b (tcS c b s)) b.hash] }

theorem aggregateVote_send (k : Keys) (c : RCfg) (b : Block) (sg : Sig) (s : RState) (hl : c.leader (b.view + 1) ≠ c.id) :
    (aggregateVote k c b sg).run s = pure ((), { s with out := s.out ++ [.sendVote (c.leader (b.view + 1)) sg b.hash] }) := by
  simp [aggregateVote, hl, emit]

theorem aggregateVote_send_to (k : Keys) (c : RCfg) (b : Block) (sg : Sig) (s : RState) (L : Nat)
    (hL : c.leader (b.view + 1) = L) (hne : L ≠ c.id) :
    (aggregateVote k c b sg).run s = pure ((), { s with out := s.out ++ [.sendVote L sg b.hash] }) := by
  subst hL; exact aggregateVote_send k c b sg s hne

theorem onValidPropose_run (k : Keys) (c : RCfg) (id : Nat) (b : Block) (s : RState) (hs : c.scheme ≠ .bls12) :
    (onValidPropose k c id b).run s =
      (aggregateVote k c b (voteSig c b (tcS c b s))).run (voteS c b id (tcS c b s)) := by
  simp [onValidPropose, tryCommit_tcS, voteFor_run c b id _ hs, voteS, voteSig]

theorem onPropose_run_after (k : Keys) (c : RCfg) (s s1 : RState) (ld : Nat) (b : Block)
    (hs : c.scheme ≠ .bls12)
    (h1 : (advanceView k c { qc := some b.qc }).run s = pure ((), s1))
    (hv : b.view = s1.view) (hlv : s1.lastVoted < b.view) (hld : ld = c.leader b.view)
    (hpar : b.parent = b.qc.hash) (hqv : b.qc.view < b.view)
    (hqc : verifyQC (env k c s1) b.qc = true)
    (hrule : (voteRule c b.view b none).run s1 = pure (true, s1)) :
    (onPropose k c ld b none).run s =
      (aggregateVote k c b (voteSig c b (tcS c b s1))).run (voteS c b ld (tcS c b s1)) := by
  have h2 : ¬ b.view > s1.view + 10 := by omega
  have h3 : ¬ b.view > s1.view := by omega
  have h4 := voterVerify_ok k c s1 ld b hlv hrule hqc hpar hqv hld
  simp [onPropose, h1, h2, h3, h4, onValidPropose_run k c ld b _ hs]

theorem verify_single (T : Truth) (cfg : Cfg) (i bytes : Nat) (m : Msg) (hs : cfg.scheme ≠ .bls12)
    (hi : cfg.has i = true) (hT : T bytes = some ⟨i, m⟩) :
    verify T cfg (.multi cfg.scheme [⟨i, bytes⟩]) m = true := by
  simp [verify, verifySingle, hT, hi, hasDup, hs]

theorem verify_own (c : RCfg) (T : Truth) (bytes : Nat) (m : Msg) (hs : c.scheme ≠ .bls12)
    (hid : 1 ≤ c.id ∧ c.id ≤ c.n) (hT : T bytes = some ⟨c.id, m⟩) :
    verify T c.cfg (.multi c.scheme [⟨c.id, bytes⟩]) m = true :=
  verify_single T c.cfg c.id bytes m hs (by simp [Cfg.has, RCfg.cfg, hid.1, hid.2]) hT

theorem votedS_sig (k : Keys) (c : RCfg) (b : Block) (id : Nat) (s : RState) (hs : c.scheme ≠ .bls12)
    (hid : 1 ≤ c.id ∧ c.id ≤ c.n) (hf : FreshS s) :
    verify (env k c (votedS c b id s)).T c.cfg (voteSig c b (tcS c b s)) (blkMsg b.hash) = true := by
  have hf' : FreshS (tcS c b s) := by
    obtain ⟨_, he, _⟩ := tcS_upd c b s
    rw [he]; exact hf
  apply verify_own c _ _ _ hs hid
  show (votedS c b id s).truth.lookup _ = _
  have : (votedS c b id s).truth = (signState c (blkMsg b.hash) (tcS c b s)).truth := rfl
  rw [this]
  exact signState_lookup c _ _ hf'

theorem votedS_has (c : RCfg) (b : Block) (id : Nat) (s : RState) : Has b.hash (votedS c b id s) := by
  have h := tcS_has c b s
  have : (votedS c b id s).chain = (tcS c b s).chain := by
    unfold votedS voteS signState; split <;> rfl
  unfold Has at *; rw [this]; exact h

theorem fresh_of_freshS (s : RState) (h : FreshS s) : Fresh s := h.2

/-- what is known of a state `s'` reached from `s` by handlers whose outcome is not followed: effects appended, store and
signature table extended (`Ext`), view not decreased -/
structure Later (s s' : RState) : Prop where
  out : ∃ t, s'.out = s.out ++ t
  ext : Ext s s'
  view : s.view ≤ s'.view

theorem Later.trans {s1 s2 s3 : RState} (h12 : Later s1 s2) (h23 : Later s2 s3) : Later s1 s3 := by
  obtain ⟨t1, h1⟩ := h12.out
  obtain ⟨t2, h2⟩ := h23.out
  exact ⟨⟨t1 ++ t2, by rw [h2, h1, List.append_assoc]⟩, h12.ext.trans h23.ext, Nat.le_trans h12.view h23.view⟩

theorem StepsOf.later {α} {L : List Tag} {f : M α} (h : StepsOf L f) (s : RState) (hf : Fresh s) : Later s (f.run s).2 :=
  ⟨run_res_of_triple f (fun s' => OutPre s.out s') (fun _ s' => OutPre s.out s') (h.outPre s.out) s ⟨[], by simp⟩,
   (h s).ext hf, (h s).view_le⟩

theorem Later.mem_out {s s' : RState} (h : Later s s') (o : Out) (ho : o ∈ s.out) : o ∈ s'.out := by
  obtain ⟨t, ht⟩ := h.out
  rw [ht]; exact List.mem_append_left _ ho

theorem Later.has {s s' : RState} (h : Later s s') (x : Hash) (hh : Has x s) : Has x s' :=
  has_of_grows x s s' h.ext.store hh

theorem Later.lookup {s s' : RState} (h : Later s s') (b : Nat) (a : Atom) (hl : s.truth.lookup b = some a) :
    s'.truth.lookup b = some a := h.ext.truth b a hl

theorem runLoop_later (k : Keys) (c : RCfg) (fuel : Nat) (s : RState) (hf : Fresh s) :
    Later s ((runLoop k c fuel).run s).2 :=
  (runLoop_steps k c fuel).later s hf

theorem aggregateVote_later (k : Keys) (c : RCfg) (b : Block) (sg : Sig) (s : RState) (hf : Fresh s) :
    Later s ((aggregateVote k c b sg).run s).2 :=
  (aggregateVote_steps k c b sg).later s hf


theorem tcS_fresh (c : RCfg) (b : Block) (s : RState) (hf : FreshS s) : FreshS (tcS c b s) := by
  obtain ⟨_, he, _⟩ := tcS_upd c b s
  rw [he]; exact hf

theorem voteS_facts (c : RCfg) (b : Block) (id : Nat) (s : RState) (hf : FreshS s) :
    (voteS c b id s).out = s.out ++ [.sign (blkMsg b.hash)] ∧
    (voteS c b id s).truth.lookup (signBytes c (blkMsg b.hash) s) = some ⟨c.id, blkMsg b.hash⟩ ∧
    FreshS (voteS c b id s) ∧ (voteS c b id s).chain = s.chain := by
  refine ⟨?_, signState_lookup c _ s hf, signState_fresh c _ s hf, ?_⟩
  · unfold voteS signState; split <;> rfl
  · unfold voteS signState; split <;> rfl

theorem quiet_append {Q evs : List Ev} (hQ : ∀ e ∈ Q, e.quiet = true) (hp : ∀ e ∈ evs, e.passive = true) :
    ∀ e ∈ Q ++ evs, e.quiet = true :=
  fun e he => (List.mem_append.mp he).elim (hQ e) (fun h => quiet_of_passive e (hp e h))

theorem voted_upd (c : RCfg) (b : Block) (L : Nat) (s : RState) :
    ∃ (evs : List Ev) (T : List (Nat × Atom)) (n bytes : Nat),
      voteS c b L (tcS c b s) =
        { s with chain := (tcS c b s).chain, lock := (tcS c b s).lock, committed := (tcS c b s).committed,
                 queue := s.queue ++ evs, out := s.out ++ [.sign (blkMsg b.hash)], truth := T, nextBytes := n,
                 lastVoted := b.view, ghost := s.ghost ++ [.vote b L] } ∧
      voteSig c b (tcS c b s) = .multi c.scheme [⟨c.id, bytes⟩] ∧
      (tcS c b s).queue = s.queue ++ evs ∧
      (∀ e ∈ evs, e.passive = true) ∧ (FreshS s → T.lookup bytes = some ⟨c.id, blkMsg b.hash⟩) := by
  obtain ⟨evs, he, hp⟩ := tcS_upd c b s
  obtain ⟨T, n, hv⟩ := voteS_eq c b L (tcS c b s)
  refine ⟨evs, T, n, signBytes c (blkMsg b.hash) (tcS c b s), ?_, rfl, by rw [he], hp, fun hf => ?_⟩
  · rw [hv, he]
  · have hl := (voteS_facts c b L (tcS c b s) (tcS_fresh c b s hf)).2.1
    rwa [hv] at hl

/-- the same for a proposer, which signs its vote first and then stores its block and runs the committer -/
theorem proposed_upd (c : RCfg) (b : Block) (id : Nat) (s : RState) :
    ∃ (evs : List Ev) (T : List (Nat × Atom)) (n bytes : Nat),
      tcS c b (voteS c b id s) =
        { s with chain := (tcS c b (voteS c b id s)).chain, lock := (tcS c b (voteS c b id s)).lock,
                 committed := (tcS c b (voteS c b id s)).committed,
                 queue := s.queue ++ evs, out := s.out ++ [.sign (blkMsg b.hash)], truth := T, nextBytes := n,
                 lastVoted := b.view, ghost := s.ghost ++ [.vote b id] } ∧
      voteSig c b s = .multi c.scheme [⟨c.id, bytes⟩] ∧
      (voteS c b id s).chain = s.chain ∧ (voteS c b id s).lock = s.lock ∧ (voteS c b id s).committed = s.committed ∧
      (tcS c b (voteS c b id s)).queue = (voteS c b id s).queue ++ evs ∧
      (∀ e ∈ evs, e.passive = true) ∧ (FreshS s → T.lookup bytes = some ⟨c.id, blkMsg b.hash⟩) := by
  obtain ⟨evs, he, hp⟩ := tcS_upd c b (voteS c b id s)
  obtain ⟨T, n, hv⟩ := voteS_eq c b id s
  refine ⟨evs, T, n, signBytes c (blkMsg b.hash) s, ?_, rfl, by rw [hv], by rw [hv], by rw [hv], by rw [he], hp, fun hf => ?_⟩
  · rw [he, hv]
  · have hl := (voteS_facts c b id s hf).2.1
    rwa [hv] at hl

/-- `hadv`: the caller has run `advanceView` on the proposal's certificate; `Vt`, `O'`: what `aggregateVote` makes of the vote
store and the effects; the loop has fuel for 99999 queued events -/
theorem step_propose_voted (k : Keys) (c : RCfg) (L : Nat) (b : Block) (s : RState)
    (q1 : QC) (lt : Option TimeoutMsg) (g : List GRec) (Q : List Ev) (O : List Out)
    (hs : c.scheme ≠ .bls12) (hq : s.queue = []) (hwprop : s.waitingProp = [])
    (hadv : (advanceView k c { qc := some b.qc }).run { s with out := [], queue := [] } =
      pure ((), { s with highQC := q1, view := b.view, lastTimeout := lt, ghost := g, queue := Q, out := O }))
    (hQ : ∀ e ∈ Q, e.quiet = true) (hwvc : s.waitingVC = [] ∨ ∀ e ∈ Q, e.passive = true)
    (hlv : s.lastVoted < b.view) (hld : L = c.leader b.view) (hpar : b.parent = b.qc.hash) (hqv : b.qc.view < b.view)
    (hver : verifyQC (env k c s) b.qc = true)
    (hrule : ∀ s' : RState, s'.chain = s.chain → s'.lock = s.lock → (voteRule c b.view b none).run s' = pure (true, s')) :
    let s1 : RState := { s with highQC := q1, view := b.view, lastTimeout := lt, ghost := g, queue := Q, out := O }
    ∃ (evs : List Ev) (T : List (Nat × Atom)) (n bytes : Nat),
      (tcS c b s1).queue = Q ++ evs ∧ (∀ e ∈ evs, e.passive = true) ∧
      (FreshS s → T.lookup bytes = some ⟨c.id, blkMsg b.hash⟩) ∧
      let V : RState :=
        { s1 with chain := (tcS c b s1).chain, lock := (tcS c b s1).lock, committed := (tcS c b s1).committed, queue := Q ++ evs,
                  out := O ++ [.sign (blkMsg b.hash)], truth := T, nextBytes := n, lastVoted := b.view, ghost := g ++ [.vote b L] }
      ∀ (Vt : List (Hash × List (Nat × Sig))) (O' : List Out),
        (aggregateVote k c b (.multi c.scheme [⟨c.id, bytes⟩])).run V = pure ((), { V with votes := Vt, out := O' }) →
        step k c s (.propose L b none) =
          ({ V with votes := Vt, waitingProp := [], queue := (Q ++ evs).drop 99999, out := [] },
           O' ++ ((Q ++ evs).take 99999).map Ev.toOut) := by
  intro s1
  obtain ⟨evs, T, n, bytes, hV, hsig, hXq, hpass, hlook⟩ := voted_upd c b L s1
  have hgen := onPropose_run_after k c { s with out := [], queue := [] } s1 L b hs hadv rfl hlv hld hpar hqv hver (hrule s1 rfl rfl)
  rw [hV, hsig] at hgen
  refine ⟨evs, T, n, bytes, hXq, hpass, hlook, ?_⟩
  intro V Vt O' hA
  have htick := tick_propose k c (s := { s with out := [], queue := [.propose L b none] }) rfl (hgen.trans hA)
  rw [step_tick_drain k c s _ _ hq htick
    (by show ∀ x ∈ (Q ++ evs) ++ s.waitingProp, _; rw [hwprop, List.append_nil]; exact quiet_append hQ hpass)
    (hwvc.imp id (fun h => by
      show ∀ x ∈ (Q ++ evs) ++ s.waitingProp, _
      rw [hwprop, List.append_nil]
      exact fun e he => (List.mem_append.mp he).elim (h e) (hpass e)))]
  show (({ V with votes := Vt, waitingProp := [], queue := ((Q ++ evs) ++ s.waitingProp).drop 99999, out := [] } : RState),
    O' ++ (((Q ++ evs) ++ s.waitingProp).take 99999).map Ev.toOut) = _
  rw [hwprop, List.append_nil]

/-- memberships, not an equation: the step may do more (deferred votes that waited for the proposal, a quorum completed by the
replica's own vote …) -/
theorem step_propose_votes (k : Keys) (c : RCfg) (s : RState) (ld : Nat) (b qb : Block)
    (hs : c.scheme ≠ .bls12) (ha : c.agg = false) (hid : 1 ≤ c.id ∧ c.id ≤ c.n) (hf : FreshS s)
    (hv : b.view = s.view) (hlv : s.lastVoted < b.view) (hld : ld = c.leader b.view)
    (hpar : b.parent = b.qc.hash) (hqv : b.qc.view < b.view)
    (hqc : verifyQC (env k c s) b.qc = true) (hqb : s.chain.blocks.lookup b.qc.hash = some qb)
    (hrule : ∀ s' : RState, s'.chain = s.chain → s'.lock = s.lock → (voteRule c b.view b none).run s' = pure (true, s'))
    (hq : s.queue = []) :
    ∃ bytes,
      Has b.hash (step k c s (.propose ld b none)).1 ∧
      Out.sign (blkMsg b.hash) ∈ (step k c s (.propose ld b none)).2 ∧
      (step k c s (.propose ld b none)).1.truth.lookup bytes = some ⟨c.id, blkMsg b.hash⟩ ∧
      verify (env k c (step k c s (.propose ld b none)).1).T c.cfg (.multi c.scheme [⟨c.id, bytes⟩]) (blkMsg b.hash) = true ∧
      (c.leader (b.view + 1) ≠ c.id →
        Out.sendVote (c.leader (b.view + 1)) (.multi c.scheme [⟨c.id, bytes⟩]) b.hash ∈ (step k c s (.propose ld b none)).2) := by
  let s0 : RState := { s with out := [], queue := [] }
  let s1 := updHighQC s0 b.qc qb
  let s2 := tcS c b s1
  let s3 := voteS c b ld s2
  let s4 := ((aggregateVote k c b (voteSig c b s2)).run s3).2
  let s5 : RState := { s4 with waitingProp := [], queue := s4.queue ++ s4.waitingProp }
  let s6 := ((runLoop k c 99999).run s5).2
  have hstep : step k c s (.propose ld b none) = ({ s6 with out := [] }, s6.out) := by
    have hon : (onPropose k c ld b none).run s0 = pure ((), s4) :=
      (onPropose_run_after k c s0 _ ld b hs (advanceView_stay k c s0 b.qc qb ha hqc hqb (by show b.qc.view < s.view; omega))
        hv hlv hld hpar hqv hqc (hrule _ rfl rfl)).trans (run_eta _ _)
    exact step_tick k c s _ _ hq (tick_propose k c rfl hon)
  have hf2 : FreshS s2 := tcS_fresh c b s1 hf
  obtain ⟨ho3, hl3, hf3, hc3⟩ := voteS_facts c b ld s2 hf2
  have h34 : Later s3 s4 := aggregateVote_later k c b _ s3 hf3.2
  have h45 : Later s4 s5 := ⟨⟨[], by simp [s5]⟩, ⟨h34.ext.fresh, fun _ _ h => h, fun _ _ h => h⟩, Nat.le_refl _⟩
  have h56 : Later s5 s6 := runLoop_later k c 99999 s5 h45.ext.fresh
  have h46 := h45.trans h56
  have h36 := h34.trans h46
  have hhas3 : Has b.hash s3 := by
    have := tcS_has c b s1
    unfold Has at *
    rw [show s3.chain = s2.chain from hc3]; exact this
  rw [hstep]
  refine ⟨signBytes c (blkMsg b.hash) s2, ?_, ?_, ?_, ?_, ?_⟩
  · exact h36.has _ hhas3
  · exact h36.mem_out _ (by rw [show s3.out = _ from ho3]; simp)
  · exact h36.lookup _ _ hl3
  · exact verify_own c _ _ _ hs hid (h36.lookup _ _ hl3)
  · intro hl
    have : s4 = { s3 with out := s3.out ++ [.sendVote (c.leader (b.view + 1)) (voteSig c b s2) b.hash] } := by
      show ((aggregateVote k c b (voteSig c b s2)).run s3).2 = _
      rw [aggregateVote_send k c b _ s3 hl]; rfl
    exact h46.mem_out _ (by rw [this]; simp [voteSig])


theorem combine_votes_verifies (T : Truth) (c : Cfg) (m : Msg) (votes : List (Nat × Sig))
    (hn : (votes.map (·.1)).Nodup) (h2 : 2 ≤ votes.length)
    (hv : ∀ v ∈ votes, c.has v.1 = true ∧ HonestSig T c v.1 m v.2) :
    ∃ sg, combine c (votes.map (·.2)) = .ok sg ∧ verify T c sg m = true ∧ sg.len = votes.length := by
  obtain ⟨sg, hc, hl, _, _, hver, _⟩ := combine_singles T c (·.1) (fun _ => m) (·.2) votes hn
    (fun v h => (hv v h).1) h2 fun v h => ⟨_, (hv v h).2.single (hv v h).1⟩
  exact ⟨sg, hc, hver m fun _ _ => rfl, hl⟩

theorem combine_with_vote (T : Truth) (cfg : Cfg) (m : Msg) (vs : List (Nat × Sig)) (i bytes : Nat)
    (hs : cfg.scheme ≠ .bls12) (hi : cfg.has i = true) (hbytes : T bytes = some ⟨i, m⟩)
    (hvalid : ∀ v ∈ vs, cfg.has v.1 = true ∧ HonestSig T cfg v.1 m v.2)
    (hnodup : (vs.map (·.1)).Nodup) (hnew : ∀ v ∈ vs, v.1 ≠ i) (h2 : 2 ≤ vs.length + 1) :
    ∃ sgq, combine cfg (vs.map (fun x => x.2) ++ [Sig.multi cfg.scheme [⟨i, bytes⟩]]) = .ok sgq ∧
      verify T cfg sgq m = true ∧ sgq.len = vs.length + 1 := by
  obtain ⟨sgq, hcomb, hver, hlen⟩ := combine_votes_verifies T cfg m (vs ++ [(i, .multi cfg.scheme [⟨i, bytes⟩])])
    (nodup_snoc_map hnodup hnew)
    (by simpa using h2)
    (by intro v hv
        simp only [List.mem_append, List.mem_singleton] at hv
        rcases hv with hv | rfl
        · exact hvalid v hv
        · exact ⟨hi, Or.inl ⟨hs, bytes, rfl, hbytes⟩⟩)
  exact ⟨sgq, by simpa using hcomb, hver, by simpa using hlen⟩

theorem any_signer_false (vs : List (Nat × Sig)) (i : Nat) (h : ∀ v ∈ vs, v.1 ≠ i) :
    vs.any (fun v => v.1 == i) = false := by
  simpa [List.any_eq_false] using h

theorem collectVotePre_local (id : Nat) (sg : Sig) (hash : Hash) (blk : Block) (d : Bool) (s : RState)
    (hlen : sg.len = 1) (hblk : s.chain.blocks.lookup hash = some blk) :
    (collectVotePre id (some sg) hash d).run s = pure (if blk.view ≤ s.highQC.view then none else some blk, s) := by
  cases d <;> simp [collectVotePre, hlen, RChain.localGet, hblk, getBlock_local _ _ _ hblk] <;> split <;> rfl

theorem collectVote_local (k : Keys) (c : RCfg) (id : Nat) (sg : Sig) (hash : Hash) (blk : Block) (d : Bool) (s : RState)
    (hlen : sg.len = 1) (hblk : s.chain.blocks.lookup hash = some blk) (hhi : s.highQC.view < blk.view) :
    (collectVote k c id (some sg) hash d).run s = (verifyCertM k c (some sg) hash blk).run s := by
  rw [collectVote_run, collectVotePre_local id sg hash blk d s hlen hblk, if_neg (by omega)]
  rfl

theorem collectVote_late_run (k : Keys) (c : RCfg) (s : RState) (id i bytes : Nat) (hash : Hash) (blk : Block)
    (hblk : s.chain.blocks.lookup hash = some blk) (hhi : blk.view ≤ s.highQC.view) :
    (collectVote k c id (some (.multi c.scheme [⟨i, bytes⟩])) hash false).run s = pure ((), s) := by
  rw [collectVote_run, collectVotePre_local id _ hash blk false s rfl hblk, if_pos hhi]
  rfl

theorem verifyPC_single (k : Keys) (c : RCfg) (s : RState) (i bytes : Nat) (blk : Block)
    (hblk : s.chain.blocks.lookup blk.hash = some blk)
    (hver : verify (fun b => s.truth.lookup b) c.cfg (.multi c.scheme [⟨i, bytes⟩]) (blkMsg blk.hash) = true) :
    verifyPC (env k c s) (some (.multi c.scheme [⟨i, bytes⟩])) blk.hash = .ok () := by
  simp [verifyPC, CertEnv.get, env, hblk, hver]

theorem collectVote_add_run (k : Keys) (c : RCfg) (s : RState) (id i bytes : Nat) (hash : Hash) (blk : Block) (d : Bool)
    (hblk : s.chain.blocks.lookup hash = some blk) (hh : blk.hash = hash)
    (hhi : s.highQC.view < blk.view)
    (hver : verify (fun b => s.truth.lookup b) c.cfg (.multi c.scheme [⟨i, bytes⟩]) (blkMsg hash) = true)
    (hnew : ∀ v ∈ (s.votes.lookup hash).getD [], v.1 ≠ i)
    (hq : ((s.votes.lookup hash).getD []).length + 1 < c.cfg.quorum) :
    (collectVote k c id (some (.multi c.scheme [⟨i, bytes⟩])) hash d).run s =
      pure ((), addVoteS s hash i (.multi c.scheme [⟨i, bytes⟩])) := by
  subst hh
  rw [collectVote_local k c id _ blk.hash blk d s rfl hblk hhi, verifyCertM_run, verifyPC_single k c s i bytes blk hblk hver]
  simp [Sig.first, Sig.participants, any_signer_false _ i hnew, hq]

theorem collectVote_quorum_run (k : Keys) (c : RCfg) (s : RState) (id i bytes : Nat) (hash : Hash) (blk : Block) (d : Bool)
    (sgq : Sig)
    (hblk : s.chain.blocks.lookup hash = some blk) (hh : blk.hash = hash) (hg : hash ≠ genesisHash)
    (hhi : s.highQC.view < blk.view)
    (hver : verify (fun b => s.truth.lookup b) c.cfg (.multi c.scheme [⟨i, bytes⟩]) (blkMsg hash) = true)
    (hnew : ∀ v ∈ (s.votes.lookup hash).getD [], v.1 ≠ i)
    (hq : c.cfg.quorum ≤ ((s.votes.lookup hash).getD []).length + 1)
    (hcomb : combine c.cfg (((s.votes.lookup hash).getD []).map (fun x => x.2) ++ [Sig.multi c.scheme [⟨i, bytes⟩]]) = .ok sgq) :
    (collectVote k c id (some (.multi c.scheme [⟨i, bytes⟩])) hash d).run s =
      pure ((), qcFormedS c s hash ⟨some sgq, blk.view, hash⟩) := by
  subst hh
  have hlen : ¬ ((s.votes.lookup blk.hash).getD []).length + 1 < c.cfg.quorum := by omega
  rw [collectVote_local k c id _ blk.hash blk d s rfl hblk hhi, verifyCertM_run, verifyPC_single k c s i bytes blk hblk hver]
  simp [Sig.first, Sig.participants, any_signer_false _ i hnew, hlen, certOf, hg, hcomb]


theorem collectVote_quorum (k : Keys) (c : RCfg) (s : RState) (id i bytes : Nat) (hash : Hash) (blk : Block)
    (hs : c.scheme ≠ .bls12)
    (hblk : s.chain.blocks.lookup hash = some blk) (hh : blk.hash = hash) (hg : hash ≠ genesisHash)
    (hhi : s.highQC.view < blk.view)
    (hi : c.cfg.has i = true) (hbytes : s.truth.lookup bytes = some ⟨i, blkMsg hash⟩)
    (hvalid : ∀ v ∈ (s.votes.lookup hash).getD [],
      c.cfg.has v.1 = true ∧ HonestSig (fun b => s.truth.lookup b) c.cfg v.1 (blkMsg hash) v.2)
    (hnodup : (((s.votes.lookup hash).getD []).map (·.1)).Nodup)
    (hnew : ∀ v ∈ (s.votes.lookup hash).getD [], v.1 ≠ i)
    (hlen : c.cfg.quorum ≤ ((s.votes.lookup hash).getD []).length + 1)
    (h2 : 2 ≤ ((s.votes.lookup hash).getD []).length + 1) :
    ∃ sgq : Sig, verify (fun b => s.truth.lookup b) c.cfg sgq (blkMsg hash) = true ∧ c.cfg.quorum ≤ sgq.len ∧
      (collectVote k c id (some (.multi c.scheme [⟨i, bytes⟩])) hash false).run s =
        pure ((), qcFormedS c s hash ⟨some sgq, blk.view, hash⟩) := by
  obtain ⟨sgq, hcomb, hver, hlenq⟩ := combine_with_vote (fun b => s.truth.lookup b) c.cfg (blkMsg hash) _ i bytes
    hs hi hbytes hvalid hnodup hnew h2
  exact ⟨sgq, hver, by rw [hlenq]; exact hlen, collectVote_quorum_run k c s id i bytes hash blk false sgq hblk hh hg hhi
    (verify_single _ c.cfg i bytes _ hs hi hbytes) hnew hlen hcomb⟩



/-- the block `createAndPropose` makes in view `view` with command number `nextCmd` on certificate `qc` -/
def mkBlock (c : RCfg) (view nextCmd : Nat) (qc : QC) : Block :=
  { hash := s!"P{view}", parent := qc.hash, view := view, proposer := c.id, qc := qc,
    cmds := [s!"{c.cmdClient}/{nextCmd}/c{nextCmd}"] }

/-- what a leader does with its own block once the voter's checks have passed -/
def proposeTail (k : Keys) (c : RCfg) (b : Block) (agg : Option AggQC) : M Unit := do
  let sg ← voteFor c b c.id
  tryCommit c b
  emit (.sendPropose b agg)
  aggregateVote k c b sg

/-- `createAndPropose` generic (`G`) in the block construction (`mk`), the voter's checks (`vv`) and what
follows them (`tail`).  (Symbolic runs of `createAndPropose` itself make the kernel
evaluate the whole program on the symbolic state, string operations on stuck terms included:
seconds per lemma.) -/
def createAndProposeG (mk : Nat → Nat → QC → Block) (vv : Block → Option AggQC → M (VRes Unit))
    (tail : Block → Option AggQC → M Unit) (fast : Bool) (si : SyncInfo) : M Unit := do
    let s ← get
    let view := s.view
    match ← getBlock s.highQC.hash with
    | none => return
    | some qcBlock =>
    let s ← get
    if !(← markProposed (s.chain.fuel + 1) qcBlock) then return
    modify fun s => { s with lastProposed := view }
    let s ← get
    modify fun s => { s with nextCmd := s.nextCmd + 1 }
    match si.qc with
    | none => return
    | some qc =>
      let b : Block := mk view s.nextCmd qc
      let agg := if fast then si.agg else none
      match ← vv b agg with
      | .panic => emit .panic
      | .reject => return
      | .ok () => tail b agg

theorem createAndPropose_G (k : Keys) (c : RCfg) (si : SyncInfo) :
    createAndPropose k c si =
      createAndProposeG (mkBlock c) (voterVerify k c c.id) (proposeTail k c) (c.rules == .fast) si := rfl

theorem proposeTail_run (k : Keys) (c : RCfg) (b : Block) (s : RState) (hs : c.scheme ≠ .bls12) :
    (proposeTail k c b none).run s =
      (aggregateVote k c b (voteSig c b s)).run
        { tcS c b (voteS c b c.id s) with out := (tcS c b (voteS c b c.id s)).out ++ [.sendPropose b none] } := by
  simp [proposeTail, voteFor_run c _ c.id _ hs, tryCommit_tcS, emit, voteS, voteSig]

/-- the state in which `createAndPropose` runs the voter's checks on its own block -/
def propS (s : RState) : RState := { s with lastProposed := s.view, nextCmd := s.nextCmd + 1 }

theorem createAndProposeG_run (mk : Nat → Nat → QC → Block) (vv : Block → Option AggQC → M (VRes Unit))
    (tail : Block → Option AggQC → M Unit) (s : RState) (qc : QC) (hb : Block) (tc : Option TC)
    (hhb : s.chain.blocks.lookup s.highQC.hash = some hb)
    (hmark : (markProposed (s.chain.fuel + 1) hb).run s = pure (true, s))
    (hvv : (vv (mk s.view s.nextCmd qc) none).run (propS s) = pure (.ok (), propS s)) :
    (createAndProposeG mk vv tail false { qc := some qc, tc := tc }).run s =
      (tail (mk s.view s.nextCmd qc) none).run (propS s) := by
  simp only [propS] at hvv
  simp [createAndProposeG, getBlock_local _ _ _ hhb, hmark, hvv, propS]

def newBlock (c : RCfg) (s : RState) (qc : QC) : Block := mkBlock c s.view s.nextCmd qc

/-- the proposer's state when `createAndPropose` (in state `m`, on certificate `qc`) hands its own vote to `aggregateVote` -/
def proposedS (c : RCfg) (m : RState) (qc : QC) : RState :=
  { tcS c (newBlock c m qc) (voteS c (newBlock c m qc) c.id (propS m)) with
    out := (tcS c (newBlock c m qc) (voteS c (newBlock c m qc) c.id (propS m))).out ++ [.sendPropose (newBlock c m qc) none] }

theorem createAndPropose_run (k : Keys) (c : RCfg) (s : RState) (qc : QC) (hb : Block) (tc : Option TC)
    (hs : c.scheme ≠ .bls12) (hr : c.rules ≠ .fast)
    (hhb : s.chain.blocks.lookup s.highQC.hash = some hb)
    (hmark : (markProposed (s.chain.fuel + 1) hb).run s = pure (true, s))
    (hlv : s.lastVoted < s.view)
    (hrule : ∀ s' : RState, s'.chain = s.chain → s'.lock = s.lock →
      (voteRule c s.view (newBlock c s qc) none).run s' = pure (true, s'))
    (hqc : verifyQC (env k c s) qc = true) (hqv : qc.view < s.view) (hld : c.id = c.leader s.view) :
    (createAndPropose k c { qc := some qc, tc := tc }).run s =
      (aggregateVote k c (newBlock c s qc) (voteSig c (newBlock c s qc) (propS s))).run (proposedS c s qc) := by
  have h4 := voterVerify_ok k c (propS s) c.id (newBlock c s qc) hlv (hrule _ rfl rfl) hqc rfl hqv hld
  have hr' : (c.rules == Rules.fast) = false := by simpa using hr
  rw [createAndPropose_G, hr', createAndProposeG_run _ _ _ s qc hb tc hhb hmark h4, proposeTail_run k c _ _ hs]
  rfl


/-- `Extends(cur, target)` over stored blocks only -/
def extWalk : Nat → List (Hash × Block) → Block → Block → Bool
  | 0, _, _, _ => false
  | fuel + 1, st, cur, target =>
    if cur.view > target.view then
      match st.lookup cur.parent with
      | some p => extWalk fuel st p target
      | none => false
    else cur.hash == target.hash

theorem extendsAux_local : ∀ (fuel : Nat) (c : RChain) (cur t : Block),
    extWalk fuel c.blocks cur t = true → RChain.extendsAux fuel c cur t = (c, true) := by
  intro fuel
  induction fuel with
  | zero => intro c cur t h; simp [extWalk] at h
  | succ n ih =>
    intro c cur t h
    unfold extWalk at h
    unfold RChain.extendsAux
    by_cases hv : cur.view > t.view
    · rw [if_pos hv] at h ⊢
      cases hl : c.blocks.lookup cur.parent with
      | none => rw [hl] at h; simp at h
      | some p =>
        rw [hl] at h
        simp only [RChain.get, hl]
        exact ih c p t h
    · rw [if_neg hv] at h ⊢
      rw [h]

theorem extendsM_local (b t : Block) (s : RState) (h : extWalk s.chain.fuel s.chain.blocks b t = true) :
    (extendsM b t).run s = pure (true, s) := by
  have := extendsAux_local s.chain.fuel s.chain b t h
  simp [extendsM, RChain.extends, this]

/-- `markProposed` over stored blocks only -/
def markWalk : Nat → List (Hash × Block) → Nat → Block → Bool
  | 0, _, _, _ => false
  | fuel + 1, st, lp, b =>
    if b.view > lp then
      match st.lookup b.qc.hash with
      | none => false
      | some nb => markWalk fuel st lp nb
    else true

theorem markProposed_walk : ∀ (fuel : Nat) (b : Block) (s : RState),
    markWalk fuel s.chain.blocks s.lastProposed b = true → (markProposed fuel b).run s = pure (true, s) := by
  intro fuel
  induction fuel with
  | zero => intro b s h; simp [markWalk] at h
  | succ n ih =>
    intro b s h
    unfold markWalk at h
    by_cases hv : b.view > s.lastProposed
    · rw [if_pos hv] at h
      cases hl : s.chain.blocks.lookup b.qc.hash with
      | none => rw [hl] at h; simp at h
      | some nb =>
        rw [hl] at h
        simp [markProposed, hv, getBlock_local _ _ _ hl, ih nb s h]
    · simp [markProposed, hv]


/-- the certified block `qb` of a proposal of view `bview` lets the vote rule say yes without
fetching: `qb`'s own certified block is known (or `qb`'s certificate has the empty hash), and
* chained HotStuff: the lock is below `qb` (liveness branch of `safeNode`), or the proposal — which
  is above the lock — extends the lock along stored parent links starting at `qb` (safety branch);
* simplified HotStuff: the lock is not above `qb`. -/
def RuleReady (c : RCfg) (s : RState) (bview : Nat) (qb : Block) : Prop :=
  (qb.qc.hash = "" ∨ ∃ gb, s.chain.blocks.lookup qb.qc.hash = some gb) ∧
  (match c.rules with
   | .chained => s.lock.view < qb.view ∨
       (s.lock.view < bview ∧ extWalk (s.chain.fuel - 1) s.chain.blocks qb s.lock = true)
   | .simple => s.lock.view ≤ qb.view
   | .fast => False)

theorem voteRule_chained_extends (c : RCfg) (hc : c.rules = .chained) (s : RState) (b qb : Block) (view : Nat)
    (h1 : s.chain.blocks.lookup b.qc.hash = some qb)
    (h2 : qb.qc.hash = "" ∨ ∃ gb, s.chain.blocks.lookup qb.qc.hash = some gb)
    (hpar : b.parent = b.qc.hash) (hlv : s.lock.view < b.view)
    (hw : extWalk (s.chain.fuel - 1) s.chain.blocks qb s.lock = true) :
    (voteRule c view b none).run s = pure (true, s) := by
  by_cases h3 : qb.view > s.lock.view
  · exact voteRule_chained_above c hc s b qb view h1 h2 h3
  · have hfuel : s.chain.fuel = (s.chain.fuel - 1) + 1 := by unfold RChain.fuel; omega
    have hext : (extendsM b s.lock).run s = pure (true, s) := by
      apply extendsM_local
      rw [hfuel]
      unfold extWalk
      rw [if_pos hlv, hpar, h1]
      exact hw
    rcases h2 with h2 | ⟨gb, h2⟩
    · simp [voteRule, hc, getBlock_local _ _ _ h1, h2, h3, hext]
    · by_cases he : qb.qc.hash = ""
      · simp [voteRule, hc, getBlock_local _ _ _ h1, he, h3, hext]
      · simp [voteRule, hc, getBlock_local _ _ _ h1, getBlock_local _ _ _ h2, he, h3, hext]

theorem ruleReady_congr (c : RCfg) (s s' : RState) (bview : Nat) (qb : Block) (hc : s'.chain = s.chain) (hl : s'.lock = s.lock)
    (h : RuleReady c s bview qb) : RuleReady c s' bview qb := by
  unfold RuleReady at *
  rw [hc, hl]; exact h

/-- the vote rule accepts, in the form in which the step lemmas ask for it (`hrule`): at any state with the store and the
lock of `s` -/
theorem RuleReady.rule {c : RCfg} {s : RState} {b qb : Block} {view : Nat} (h : RuleReady c s b.view qb)
    (h1 : s.chain.blocks.lookup b.qc.hash = some qb) (hv : view ≤ b.view) (hpar : b.parent = b.qc.hash) (s' : RState)
    (hc : s'.chain = s.chain) (hl : s'.lock = s.lock) : (voteRule c view b none).run s' = pure (true, s') := by
  obtain ⟨h2, h3⟩ := ruleReady_congr c s s' _ qb hc hl h
  rw [← hc] at h1
  cases hr : c.rules with
  | chained =>
    rw [hr] at h3
    rcases h3 with h3 | ⟨h3, h4⟩
    · exact voteRule_chained_above c hr s' b qb view h1 h2 h3
    · exact voteRule_chained_extends c hr s' b qb view h1 h2 hpar h3 h4
  | simple => rw [hr] at h3; exact voteRule_simple_ok c hr s' b qb view hv h1 h2 h3
  | fast => rw [hr] at h3; exact h3.elim

theorem verifyQC_of_votes (k : Keys) (c : RCfg) (s : RState) (hash : Hash) (blk : Block) (sgq : Sig)
    (hblk : s.chain.blocks.lookup hash = some blk) (hh : blk.hash = hash) (hg : hash ≠ genesisHash)
    (hver : verify (fun b => s.truth.lookup b) c.cfg sgq (blkMsg hash) = true) (hlen : c.cfg.quorum ≤ sgq.len) :
    verifyQC (env k c s) ⟨some sgq, blk.view, hash⟩ = true :=
  (verifyQC_iff _ _ hg).mpr ⟨sgq, blk, rfl, hlen, hblk, rfl, by rw [hh]; exact hver⟩

theorem vote_late_noop (k : Keys) (c : RCfg) (s : RState) (id i bytes : Nat) (hash : Hash) (blk : Block)
    (hq : s.queue = []) (hblk : s.chain.blocks.lookup hash = some blk) (hhi : blk.view ≤ s.highQC.view) :
    step k c s (.vote id (some (.multi c.scheme [⟨i, bytes⟩])) hash false) = ({ s with out := [] }, []) := by
  let s0 : RState := { s with out := [], queue := [.vote id (some (.multi c.scheme [⟨i, bytes⟩])) hash false] }
  let sA : RState := { s0 with queue := [] }
  have hcv := collectVote_late_run k c sA id i bytes hash blk hblk hhi
  exact step_tick_noop k c s _ hq (tick_vote k c rfl hcv)

theorem newview_old_noop (k : Keys) (c : RCfg) (s : RState) (i : Nat) (q : QC) (nb : Block) (ha : c.agg = false)
    (hq : s.queue = []) (hver : verifyQC (env k c s) q = true) (hnb : s.chain.blocks.lookup q.hash = some nb)
    (hv : q.view < s.view) (hhi : nb.view ≤ s.highQC.view) :
    step k c s (.newview i { qc := some q }) = ({ s with out := [] }, []) := by
  let s0 : RState := { s with out := [], queue := [.newview i { qc := some q }] }
  let sA : RState := { s0 with queue := [] }
  have hadv := advanceView_stay k c sA q nb ha hver hnb hv
  have hsame : updHighQC sA q nb = sA := by
    unfold updHighQC
    rw [if_pos (by exact hhi)]
  rw [hsame] at hadv
  exact step_tick_noop k c s _ hq (tick_newview k c rfl hadv)

theorem voteS_ext (c : RCfg) (b : Block) (id : Nat) (s : RState) (hs : c.scheme ≠ .bls12) (hf : Fresh s) :
    Ext s (voteS c b id s) := by
  have := (voteFor_steps c b id s).ext hf
  rw [voteFor_run c b id s hs] at this
  exact this

theorem tcS_ext (c : RCfg) (b : Block) (s : RState) (hf : Fresh s) : Ext s (tcS c b s) :=
  (tryCommit_steps c b s).ext hf

theorem ext_of_eq (s s' : RState) (hf : Fresh s) (hc : s'.chain = s.chain) (ht : s'.truth = s.truth)
    (hn : s'.nextBytes = s.nextBytes) : Ext s s' := by
  refine ⟨?_, ?_, ?_⟩
  · unfold Fresh; rw [ht, hn]; exact hf
  · unfold Grows ChainGrows; rw [hc]; exact fun _ _ h => h
  · unfold TGrows; rw [ht]; exact fun _ _ h => h

theorem mkBlock_fields (c : RCfg) (view n : Nat) (qc : QC) :
    (mkBlock c view n qc).view = view ∧ (mkBlock c view n qc).qc = qc ∧ (mkBlock c view n qc).parent = qc.hash ∧
    (mkBlock c view n qc).proposer = c.id := ⟨rfl, rfl, rfl, rfl⟩

theorem proposedS_facts (c : RCfg) (m : RState) (qc : QC) (hs : c.scheme ≠ .bls12) (hf : FreshS m) :
    FreshS (proposedS c m qc) ∧ Ext m (proposedS c m qc) ∧
    (proposedS c m qc).out = m.out ++ [Out.sign (blkMsg (newBlock c m qc).hash), Out.sendPropose (newBlock c m qc) none] ∧
    (proposedS c m qc).view = m.view ∧ Has (newBlock c m qc).hash (proposedS c m qc) := by
  have hfm : FreshS (propS m) := hf
  obtain ⟨_, _, hf3, _⟩ := voteS_facts c (newBlock c m qc) c.id (propS m) hfm
  have hft := tcS_fresh c (newBlock c m qc) _ hf3
  obtain ⟨_, _, _, _, hupd, _⟩ := proposed_upd c (newBlock c m qc) c.id (propS m)
  refine ⟨hft, ?_, ?_, ?_, tcS_has c (newBlock c m qc) _⟩
  · exact (((ext_of_eq m (propS m) hf.2 rfl rfl rfl).trans (voteS_ext c _ c.id (propS m) hs hfm.2)).trans
      (tcS_ext c _ _ hf3.2)).trans (ext_of_eq _ _ hft.2 rfl rfl rfl)
  · show (tcS c _ _).out ++ _ = _
    rw [hupd, List.append_assoc]; rfl
  · show (tcS c _ _).view = _
    rw [hupd]; rfl

theorem proposed_later (c : RCfg) (m s' : RState) (qc : QC) (hs : c.scheme ≠ .bls12) (hf : FreshS m)
    (h : Later (proposedS c m qc) s') :
    m.view ≤ s'.view ∧ Out.sendPropose (newBlock c m qc) none ∈ s'.out ∧
    Out.sign (blkMsg (newBlock c m qc).hash) ∈ s'.out ∧ Has (newBlock c m qc).hash s' := by
  obtain ⟨_, _, hout, hview, hhas⟩ := proposedS_facts c m qc hs hf
  exact ⟨hview ▸ h.view, h.mem_out _ (by rw [hout]; simp), h.mem_out _ (by rw [hout]; simp), h.has _ hhas⟩

/-- the vote that completes a quorum for the block of the current view, at the leader of the next view: the next turn of the
loop enters the next view on the certificate and runs `createAndPropose`, which leaves the state `G` -/
theorem step_vote_quorum (k : Keys) (c : RCfg) (s : RState) (id i bytes : Nat) (hash : Hash) (blk : Block)
    (hs : c.scheme ≠ .bls12) (ha : c.agg = false) (hq : s.queue = [])
    (hblk : s.chain.blocks.lookup hash = some blk) (hh : blk.hash = hash) (hg : hash ≠ genesisHash)
    (hview : blk.view = s.view) (hhi : s.highQC.view < blk.view) (hlead : c.leader (s.view + 1) = c.id)
    (hi : c.cfg.has i = true) (hbytes : s.truth.lookup bytes = some ⟨i, blkMsg hash⟩)
    (hvalid : ∀ v ∈ (s.votes.lookup hash).getD [],
      c.cfg.has v.1 = true ∧ HonestSig (fun b => s.truth.lookup b) c.cfg v.1 (blkMsg hash) v.2)
    (hnodup : (((s.votes.lookup hash).getD []).map (·.1)).Nodup)
    (hnew : ∀ v ∈ (s.votes.lookup hash).getD [], v.1 ≠ i)
    (hlen : c.cfg.quorum ≤ ((s.votes.lookup hash).getD []).length + 1)
    (h2 : 2 ≤ ((s.votes.lookup hash).getD []).length + 1) :
    ∃ sgq : Sig, verify (fun b => s.truth.lookup b) c.cfg sgq (blkMsg hash) = true ∧ c.cfg.quorum ≤ sgq.len ∧
      ∀ G : RState,
        (createAndPropose k c { qc := some ⟨some sgq, blk.view, hash⟩ }).run
          { s with highQC := ⟨some sgq, blk.view, hash⟩, view := s.view + 1, lastTimeout := none,
                   ghost := s.ghost ++ [.adv s.view blk.view false],
                   votes := cleanVotes s (s.votes.filter (fun p => p.1 != hash)),
                   queue := [.viewChange (s.view + 1) false], out := [] } = pure ((), G) →
        step k c s (.vote id (some (.multi c.scheme [⟨i, bytes⟩])) hash false) =
          ({ ((runLoop k c 99998).run G).2 with out := [] }, ((runLoop k c 99998).run G).2.out) := by
  let sA : RState := { s with out := [], queue := [] }
  obtain ⟨sgq, hverq, hlenq, hcv⟩ := collectVote_quorum k c sA id i bytes hash blk hs hblk hh hg hhi hi hbytes hvalid hnodup hnew hlen h2
  refine ⟨sgq, hverq, hlenq, fun G hG => ?_⟩
  let qc : QC := ⟨some sgq, blk.view, hash⟩
  let sB : RState := qcFormedS c sA hash qc
  let sC : RState := { sB with queue := [] }
  have hadv : (advanceView k c { qc := some qc }).run sC = pure ((), G) := by
    rw [advanceView_move k c sC qc blk ha (verifyQC_of_votes k c s hash blk sgq hblk hh hg hverq hlenq) hblk
      (by show s.view = blk.view; omega), if_pos (by exact hlead)]
    unfold movedS updHighQC
    rw [if_neg (by show ¬ blk.view ≤ s.highQC.view; omega)]
    exact hG
  rw [step_tick k c s sB _ hq (tick_vote k c rfl hcv), drain,
    runLoop_succ k c 99998 (tick_newview k c rfl hadv)]

/-- **The vote that completes a quorum makes the next leader certify the block, enter the next view and propose.** -/
theorem step_vote_quorum_proposes (k : Keys) (c : RCfg) (s : RState) (id i bytes : Nat) (hash : Hash) (blk : Block)
    (hs : c.scheme ≠ .bls12) (ha : c.agg = false) (hr : c.rules ≠ .fast) (hf : FreshS s) (hq : s.queue = [])
    (hblk : s.chain.blocks.lookup hash = some blk) (hh : blk.hash = hash) (hg : hash ≠ genesisHash)
    (hview : blk.view = s.view) (hhi : s.highQC.view < blk.view)
    (hlead : c.leader (s.view + 1) = c.id) (hlv : s.lastVoted ≤ s.view)
    (hi : c.cfg.has i = true) (hbytes : s.truth.lookup bytes = some ⟨i, blkMsg hash⟩)
    (hvalid : ∀ v ∈ (s.votes.lookup hash).getD [],
      c.cfg.has v.1 = true ∧ HonestSig (fun b => s.truth.lookup b) c.cfg v.1 (blkMsg hash) v.2)
    (hnodup : (((s.votes.lookup hash).getD []).map (·.1)).Nodup)
    (hnew : ∀ v ∈ (s.votes.lookup hash).getD [], v.1 ≠ i)
    (hlen : c.cfg.quorum ≤ ((s.votes.lookup hash).getD []).length + 1)
    (h2 : 2 ≤ ((s.votes.lookup hash).getD []).length + 1)
    (hready : RuleReady c s (s.view + 1) blk)
    (hmark : markWalk (s.chain.fuel + 1) s.chain.blocks s.lastProposed blk = true) :
    ∃ (sgq : Sig) (b' : Block),
      verifyQC (env k c (step k c s (.vote id (some (.multi c.scheme [⟨i, bytes⟩])) hash false)).1) ⟨some sgq, blk.view, hash⟩ = true ∧
      b'.view = s.view + 1 ∧ b'.qc = ⟨some sgq, blk.view, hash⟩ ∧ b'.parent = hash ∧ b'.proposer = c.id ∧
      Out.sendPropose b' none ∈ (step k c s (.vote id (some (.multi c.scheme [⟨i, bytes⟩])) hash false)).2 ∧
      Out.sign (blkMsg b'.hash) ∈ (step k c s (.vote id (some (.multi c.scheme [⟨i, bytes⟩])) hash false)).2 ∧
      Has b'.hash (step k c s (.vote id (some (.multi c.scheme [⟨i, bytes⟩])) hash false)).1 ∧
      s.view + 1 ≤ (step k c s (.vote id (some (.multi c.scheme [⟨i, bytes⟩])) hash false)).1.view := by
  obtain ⟨sgq, hverq, hlenq, hstep⟩ := step_vote_quorum k c s id i bytes hash blk hs ha hq hblk hh hg hview hhi hlead hi hbytes hvalid
    hnodup hnew hlen h2
  let qc : QC := ⟨some sgq, blk.view, hash⟩
  have hqc : verifyQC (env k c s) qc = true := verifyQC_of_votes k c s hash blk sgq hblk hh hg hverq hlenq
  let m : RState :=
    { s with highQC := qc, view := s.view + 1, lastTimeout := none, ghost := s.ghost ++ [.adv s.view blk.view false],
             votes := cleanVotes s (s.votes.filter (fun p => p.1 != hash)), queue := [.viewChange (s.view + 1) false], out := [] }
  let b' : Block := newBlock c m qc
  let s6 : RState := proposedS c m qc
  let s7 : RState := ((aggregateVote k c b' (voteSig c b' (propS m))).run s6).2
  let s8 : RState := ((runLoop k c 99998).run s7).2
  have hcp : (createAndPropose k c { qc := some qc }).run m = pure ((), s7) := by
    rw [createAndPropose_run k c m qc blk none hs hr hblk (markProposed_walk _ _ m hmark) (by show s.lastVoted < s.view + 1; omega)
      (hready.rule hblk (Nat.le_refl _) rfl)
      hqc (by show blk.view < s.view + 1; omega) hlead.symm]
    exact run_eta _ _
  have hfm : FreshS m := hf
  have h67 : Later s6 s7 := aggregateVote_later k c b' _ s6 (proposedS_facts c m qc hs hfm).1.2
  have h78 : Later s7 s8 := runLoop_later k c 99998 s7 h67.ext.fresh
  obtain ⟨hview', hsend, hsign, hhas⟩ := proposed_later c m s8 qc hs hfm (h67.trans h78)
  have hext' := step_ext k c s (.vote id (some (.multi c.scheme [⟨i, bytes⟩])) hash false) hf.2
  rw [hstep s7 hcp] at hext' ⊢
  exact ⟨sgq, b', verifyQC_ext k c s _ qc hext' hqc, rfl, rfl, rfl, rfl, hsend, hsign, hhas, hview'⟩

/-- **A quorum completed in a LATER view makes no proposal**: the replica has already left the view of `blk` (by a timeout
certificate, say) -/
theorem step_vote_quorum_late (k : Keys) (c : RCfg) (s : RState) (id i bytes : Nat) (hash : Hash) (blk : Block)
    (hs : c.scheme ≠ .bls12) (ha : c.agg = false) (hq : s.queue = [])
    (hblk : s.chain.blocks.lookup hash = some blk) (hh : blk.hash = hash) (hg : hash ≠ genesisHash)
    (hview : blk.view < s.view) (hhi : s.highQC.view < blk.view)
    (hi : c.cfg.has i = true) (hbytes : s.truth.lookup bytes = some ⟨i, blkMsg hash⟩)
    (hvalid : ∀ v ∈ (s.votes.lookup hash).getD [],
      c.cfg.has v.1 = true ∧ HonestSig (fun b => s.truth.lookup b) c.cfg v.1 (blkMsg hash) v.2)
    (hnodup : (((s.votes.lookup hash).getD []).map (·.1)).Nodup)
    (hnew : ∀ v ∈ (s.votes.lookup hash).getD [], v.1 ≠ i)
    (hlen : c.cfg.quorum ≤ ((s.votes.lookup hash).getD []).length + 1)
    (h2 : 2 ≤ ((s.votes.lookup hash).getD []).length + 1) :
    ∃ sgq : Sig,
      (step k c s (.vote id (some (.multi c.scheme [⟨i, bytes⟩])) hash false)).2 = [] ∧
      (step k c s (.vote id (some (.multi c.scheme [⟨i, bytes⟩])) hash false)).1.view = s.view ∧
      (step k c s (.vote id (some (.multi c.scheme [⟨i, bytes⟩])) hash false)).1.highQC = ⟨some sgq, blk.view, hash⟩ ∧
      verifyQC (env k c s) ⟨some sgq, blk.view, hash⟩ = true := by
  let sg : Sig := .multi c.scheme [⟨i, bytes⟩]
  let sA : RState := { s with out := [], queue := [] }
  obtain ⟨sgq, hverq, hlenq, hcv⟩ := collectVote_quorum k c sA id i bytes hash blk hs hblk hh hg hhi hi hbytes hvalid hnodup hnew hlen h2
  let qc : QC := ⟨some sgq, blk.view, hash⟩
  have hqc : verifyQC (env k c s) qc = true := verifyQC_of_votes k c s hash blk sgq hblk hh hg hverq hlenq
  let sB : RState := qcFormedS c sA hash qc
  let sC : RState := { sB with queue := [] }
  let sD : RState := updHighQC sC qc blk
  have hadv : (advanceView k c { qc := some qc }).run sC = pure ((), sD) :=
    advanceView_stay k c sC qc blk ha hqc hblk hview
  have hstep : step k c s (.vote id (some sg) hash false) = ({ sD with out := [] }, []) := by
    rw [step_tick k c s sB _ hq (tick_vote k c rfl hcv), drain,
      runLoop_succ k c 99998 (tick_newview k c rfl hadv), runLoop_idle k c 99997 (s := sD) rfl]
    rfl
  refine ⟨sgq, ?_, ?_, ?_, hqc⟩
  · rw [hstep]
  · rw [hstep]; rfl
  · rw [hstep]
    have : ¬ blk.view ≤ s.highQC.view := by omega
    show (if blk.view ≤ s.highQC.view then s.highQC else qc) = qc
    rw [if_neg this]

end HsVerif.Model
