import HsVerif.Proofs.ReplicaSteps
/-!
The vote discipline of the replica model (C03) as a predicate `InvV` on the part of the state it reads (`VS`: ghost history
and `lastVoted`): no signed view is above `lastVoted`, the view of a vote is above every view signed earlier (by a vote
or a timeout), every vote comes with `Facts` about its block.  Also what the verifying handlers return
(`voterVerify_facts`).  That the event loop keeps `Inv3` is read off the trace of Proofs/ReplicaEvidence.lean.
-/
open Std.Do
namespace HsVerif.Model
open HsVerif.Proofs

@[reducible] def VS (s : RState) : List GRec × Nat := (s.ghost, s.lastVoted)

theorem Upd.vs_eq {t : Tag} {s s' : RState} (h : Upd t s s') (hb : t ∉ [Tag.voted, .timedOut, .adv]) : VS s' = VS s := by
  cases h <;> first | rfl | exact absurd (by decide) hb

theorem Upd.ghost_append {t : Tag} {s s' : RState} (h : Upd t s s') : ∃ r, s'.ghost = s.ghost ++ r := by
  cases h <;> first | exact ⟨[], (List.append_nil _).symm⟩ | exact ⟨[_], rfl⟩

theorem Steps.ghost_appends {L : List Tag} {s s' : RState} (h : Steps L s s') : ∃ new, s'.ghost = s.ghost ++ new :=
  h.preserves (P := fun s' => ∃ new, s'.ghost = s.ghost ++ new)
    (fun _ _ _ _ hu ⟨new, hn⟩ => let ⟨r, hr⟩ := hu.ghost_append; ⟨new ++ r, by rw [hr, hn, List.append_assoc]⟩)
    ⟨[], (List.append_nil _).symm⟩

/-- a property of the vote records of a history holds of the history with one more record -/
theorem votes_snoc {P : Block → Nat → Prop} {g : List GRec} {r : GRec} (h : ∀ x i, GRec.vote x i ∈ g → P x i)
    (hr : ∀ x i, r = .vote x i → P x i) : ∀ x i, GRec.vote x i ∈ g ++ [r] → P x i := fun x i hm =>
  (List.mem_append.mp hm).elim (h x i) fun hm => hr x i (List.mem_singleton.mp hm).symm

theorem tryCommit_ghost (c : RCfg) (b : Block) (s : RState) : ((tryCommit c b).run s).2.ghost = s.ghost :=
  congrArg Prod.fst ((tryCommit_steps c b s).proj Upd.vs_eq)

def GRec.signedView : GRec → Option Nat
  | .vote b _ => some b.view
  | .tmo v => some v
  | .adv _ _ _ => none

def GRec.voteView : GRec → Option Nat
  | .vote b _ => some b.view
  | _ => none

/-- what is known about a block when the replica signs a vote for it -/
def Facts (k : Keys) (c : RCfg) (b : Block) (sender : Nat) : Prop :=
  sender = c.leader b.view ∧ b.parent = b.qc.hash ∧ b.qc.view < b.view ∧
  ∃ s0 : RState, verifyQC (env k c s0) b.qc = true

def InvV (k : Keys) (c : RCfg) (x : List GRec × Nat) : Prop :=
  (∀ r ∈ x.1, ∀ v, r.signedView = some v → v ≤ x.2) ∧
  x.1.Pairwise (fun r1 r2 => ∀ v1 v2, r1.signedView = some v1 → r2.voteView = some v2 → v1 < v2) ∧
  (∀ b id, GRec.vote b id ∈ x.1 → Facts k c b id)

theorem InvV_init (k : Keys) (c : RCfg) : InvV k c ([], 0) := by simp [InvV]

theorem InvV_vote (k : Keys) (c : RCfg) (g : List GRec) (lv : Nat) (b : Block) (id : Nat)
    (h : InvV k c (g, lv)) (hv : lv < b.view) (hf : Facts k c b id) : InvV k c (g ++ [.vote b id], b.view) := by
  obtain ⟨h1, h2, h3⟩ := h
  refine ⟨?_, ?_, ?_⟩
  · intro r hr v hs
    simp only [List.mem_append, List.mem_singleton] at hr
    rcases hr with hr | rfl
    · have := h1 r hr v hs; simp only at this ⊢; omega
    · simp [GRec.signedView] at hs; simp [hs]
  · rw [List.pairwise_append]
    refine ⟨h2, by simp, ?_⟩
    intro a ha b' hb v1 v2 hs hvv
    simp only [List.mem_singleton] at hb; subst hb
    simp [GRec.voteView] at hvv; subst hvv
    have := h1 a ha v1 hs; simp only at this; omega
  · exact votes_snoc h3 fun _ _ e => by cases e; exact hf

theorem InvV_tmo (k : Keys) (c : RCfg) (g : List GRec) (lv v : Nat)
    (h : InvV k c (g, lv)) : InvV k c (g ++ [.tmo v], if lv < v then v else lv) := by
  obtain ⟨h1, h2, h3⟩ := h
  refine ⟨?_, ?_, ?_⟩
  · intro r hr w hs
    simp only [List.mem_append, List.mem_singleton] at hr
    rcases hr with hr | rfl
    · have := h1 r hr w hs; simp only at this ⊢; split <;> omega
    · simp [GRec.signedView] at hs; subst hs; simp only; split <;> omega
  · rw [List.pairwise_append]
    refine ⟨h2, by simp, ?_⟩
    intro a _ b' hb v1 v2 _ hvv
    simp only [List.mem_singleton] at hb; subst hb
    simp [GRec.voteView] at hvv
  · exact votes_snoc h3 fun _ _ e => by cases e

theorem InvV_adv (k : Keys) (c : RCfg) (g : List GRec) (lv a b' : Nat) (t : Bool)
    (h : InvV k c (g, lv)) : InvV k c (g ++ [.adv a b' t], lv) := by
  obtain ⟨h1, h2, h3⟩ := h
  refine ⟨?_, ?_, ?_⟩
  · intro r hr w hs
    simp only [List.mem_append, List.mem_singleton] at hr
    rcases hr with hr | rfl
    · exact h1 r hr w hs
    · simp [GRec.signedView] at hs
  · rw [List.pairwise_append]
    refine ⟨h2, by simp, ?_⟩
    intro a' _ r hb v1 v2 _ hvv
    simp only [List.mem_singleton] at hb; subst hb
    simp [GRec.voteView] at hvv
  · exact votes_snoc h3 fun _ _ e => by cases e

theorem verifyQCM_res (k : Keys) (c : RCfg) (q : QC) :
    ⦃fun _ => ⌜True⌝⦄ verifyQCM k c q ⦃⇓ r s => ⌜r = true → verifyQC (env k c s) q = true⌝⦄ :=
  triple_of_run _ _ _ fun s _ => by rw [verifyQCM_run]; exact id

theorem verifyAnyM_vs (k : Keys) (c : RCfg) (q : QC) (agg : Option AggQC) (x) :
    ⦃fun s => ⌜VS s = x⌝⦄ verifyAnyM k c q agg
    ⦃⇓ r s => ⌜VS s = x ∧ (r = .ok () → verifyQC (env k c s) q = true)⌝⦄ :=
  triple_conseq (verifyAnyM_rule k c q agg (fun a => (verifyAggM_steps k c a).frame Upd.vs_eq x)
    (triple_and ((verifyQCM_steps k c q).frame Upd.vs_eq x) (verifyQCM_res k c q))) (fun _ h => h) fun _ _ h => ⟨h.1, h.2.2⟩

/-- what a positive `voterVerify` answer for `b` (with aggregate QC `agg`) says under Fast-HotStuff,
relative to the ghost history `g` it was evaluated in -/
def FastOK (c : RCfg) (b : Block) (agg : Option AggQC) (g : List GRec) : Prop :=
  c.rules = .fast → (agg.isSome = true → votedQCView g ≤ b.qc.view) ∧ (agg = none → b.view = b.qc.view + 1)

/-- Fast-HotStuff's vote rule without an aggregate QC is one test on the block: read off that path -/
theorem voteRule_fastq (c : RCfg) (v : Nat) (b : Block) (s : RState) (hf : c.rules = .fast)
    (hr : ((voteRule c v b none).run s).1 = true) : b.view = b.qc.view + 1 := by
  have e : (voteRule c v b none).run s = pure (decide (b.view ≥ v) && b.view == b.qc.view + 1, s) := by
    simp [voteRule, hf]
  rw [e] at hr
  have hr' : (decide (b.view ≥ v) && b.view == b.qc.view + 1) = true := hr
  simp only [Bool.and_eq_true, beq_iff_eq] at hr'
  exact hr'.2

/-- what `voterVerify` has checked when it says yes, relative to the ghost history `g` and `lastVoted = lv` it was evaluated
in (neither of which it changes); `s` is the state it leaves, in which the certificate verifies -/
structure VoterFacts (k : Keys) (c : RCfg) (id : Nat) (b : Block) (agg : Option AggQC) (g : List GRec) (lv : Nat)
    (s : RState) : Prop where
  newer : lv < b.view
  leader : id = c.leader b.view
  parent : b.parent = b.qc.hash
  below : b.qc.view < b.view
  cert : verifyQC (env k c s) b.qc = true
  fast : FastOK c b agg g

theorem voterVerify_facts (k : Keys) (c : RCfg) (id : Nat) (b : Block) (agg : Option AggQC) (g lv) :
    ⦃fun s => ⌜VS s = (g, lv)⌝⦄ voterVerify k c id b agg
    ⦃⇓ r s => ⌜VS s = (g, lv) ∧ (r = .ok () → VoterFacts k c id b agg g lv s)⌝⦄ :=
  let A : Prop := lv < b.view ∧ (c.rules = .fast → agg = none → b.view = b.qc.view + 1)
  triple_conseq (voterVerify_rule k c id b agg (P' := fun s => VS s = (g, lv)) (A := fun _ => A)
      (B := fun s => A ∧ verifyQC (env k c s) b.qc = true) (fun _ h => h)
      (triple_of_run _ _ _ fun s ⟨h, hlv⟩ =>
        ⟨run_res_of_triple _ _ _ ((voteRule_steps c b.view b agg).frame Upd.vs_eq (g, lv)) s h, fun hr =>
          ⟨(show s.lastVoted = lv from congrArg Prod.snd h) ▸ hlv, fun hf ha => voteRule_fastq c b.view b s hf (ha ▸ hr)⟩⟩)
      (triple_of_run _ _ _ fun s ⟨h, hA⟩ =>
        have h1 := run_res_of_triple _ _ _ (verifyAnyM_vs k c b.qc agg (g, lv)) s h
        ⟨h1.1, fun hr => ⟨hA, h1.2 hr⟩⟩))
    (fun _ h => h) fun _ s ⟨h, _, h2⟩ => ⟨h, fun hr =>
      have ⟨⟨⟨hlv, hfq⟩, hcert⟩, hvq, hpar, hbel, hld⟩ := h2 hr
      { newer := hlv, leader := hld, parent := hpar, below := hbel, cert := hcert
        fast := fun hf => ⟨fun ha => (show s.ghost = g from congrArg Prod.fst h) ▸ hvq ha, hfq hf⟩ }⟩

theorem voteFor_vs (c : RCfg) (b : Block) (id : Nat) (g lv) :
    ⦃fun s => ⌜VS s = (g, lv)⌝⦄ voteFor c b id ⦃⇓ _ s => ⌜VS s = (g ++ [.vote b id], b.view)⌝⦄ :=
  voteFor_rule c b id ((signMsg_steps c _).frame Upd.vs_eq (g, lv))
    fun _ h => congrArg (fun x => (x.1 ++ [GRec.vote b id], b.view)) h

theorem voteFor_ghost (c : RCfg) (b : Block) (id : Nat) (s : RState) :
    ((voteFor c b id).run s).2.ghost = s.ghost ++ [.vote b id] :=
  congrArg Prod.fst (run_res_of_triple _ (fun s' => VS s' = (s.ghost, s.lastVoted)) _
    (voteFor_vs c b id s.ghost s.lastVoted) s rfl)

def Inv3 (k : Keys) (c : RCfg) (s : RState) : Prop := InvV k c (VS s)

/-- a timeout and a view entry extend the history by a record that obliges nothing -/
theorem Upd.inv3 (k : Keys) (c : RCfg) {t : Tag} {s s' : RState} (h : Upd t s s') (ht : t ∉ [Tag.voted])
    (hi : Inv3 k c s) : Inv3 k c s' := by
  cases h with
  | voted => exact absurd (by decide) ht
  | timedOut => exact InvV_tmo k c _ _ _ hi
  | adv => exact InvV_adv k c _ _ _ _ _ hi
  | _ => exact hi

section Inv
variable (k : Keys) (c : RCfg)

theorem verifyTCM_inv (t : TC) : ⦃fun s => ⌜Inv3 k c s⌝⦄ verifyTCM k c t ⦃⇓ _ s => ⌜Inv3 k c s⌝⦄ :=
  (verifyTCM_steps k c t).preserves (upd_of_notin (Upd.inv3 k c) _)
theorem verifyQCM_inv (q : QC) : ⦃fun s => ⌜Inv3 k c s⌝⦄ verifyQCM k c q ⦃⇓ _ s => ⌜Inv3 k c s⌝⦄ :=
  (verifyQCM_steps k c q).preserves (upd_of_notin (Upd.inv3 k c) _)
theorem verifyAggM_inv (a : AggQC) : ⦃fun s => ⌜Inv3 k c s⌝⦄ verifyAggM k c a ⦃⇓ _ s => ⌜Inv3 k c s⌝⦄ :=
  (verifyAggM_steps k c a).preserves (upd_of_notin (Upd.inv3 k c) _)

end Inv

end HsVerif.Model
