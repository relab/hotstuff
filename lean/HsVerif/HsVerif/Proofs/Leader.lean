import HsVerif.Model.Leader
import HsVerif.Spec.Leader
import HsVerif.Proofs.ListFacts
/-! Helper lemmas for C16 (leader rotation). -/
namespace HsVerif.Model.Leader
open HsVerif.Model

theorem rr_window_hit (s n t : Nat) (hn : 0 < n) (ht : t < n) :
    (s + (t + n - s % n) % n) % n = t := by
  have hr : s % n < n := Nat.mod_lt _ hn
  have e : s + (t + n - s % n) = t + n * (s / n + 1) := by
    have := Nat.div_add_mod s n
    rw [Nat.mul_succ]; omega
  rw [Nat.add_mod, Nat.mod_mod, ← Nat.add_mod, e, Nat.add_mul_mod_self_left, Nat.mod_eq_of_lt ht]

theorem rr_window_inj (s n i j : Nat) (hi : i < n) (hj : j < n)
    (h : (s + i) % n = (s + j) % n) : i = j := by
  have key : ∀ a b : Nat, a ≤ b → b < n → (s + a) % n = (s + b) % n → a = b := by
    intro a b hab hb hm
    have h0 := Nat.sub_mod_eq_zero_of_mod_eq hm.symm
    rw [Nat.add_sub_add_left, Nat.mod_eq_of_lt (Nat.lt_of_le_of_lt (Nat.sub_le b a) hb)] at h0
    exact Nat.le_antisymm hab (Nat.sub_eq_zero_iff_le.mp h0)
  rcases Nat.le_total i j with hij | hij
  · exact key i j hij hj h
  · exact (key j i hij hi h.symm).symm

theorem lastAuthors_length_le (get : Nat → Option Block) (fuel h : Nat) (b : Block) :
    (lastAuthors get fuel h b).length ≤ fuel := by
  induction fuel generalizing h b with
  | zero => simp [lastAuthors]
  | succ k ih =>
    unfold lastAuthors
    split
    · simp
    · cases hg : get b.parent with
      | none => simp
      | some p => simp only [List.length_cons]; have := ih b.parent p; omega

theorem recent_proposer_mem (get : Nat → Option Block) (k h : Nat) (b c : Block)
    (hr : Recent get k h b c) : c.proposer ∈ lastAuthors get k h b := by
  induction hr with
  | here k h b hh => unfold lastAuthors; simp [hh]
  | up k h b p c hh hg _ ih =>
    unfold lastAuthors
    simp only [hh, ↓reduceIte, hg, List.mem_cons]
    exact Or.inr ih

theorem mem_lastAuthors_recent (get : Nat → Option Block) (k h : Nat) (b : Block) (a : Nat)
    (ha : a ∈ lastAuthors get k h b) : ∃ c, Recent get k h b c ∧ c.proposer = a := by
  induction k generalizing h b with
  | zero => simp [lastAuthors] at ha
  | succ k ih =>
    unfold lastAuthors at ha
    split at ha
    · simp at ha
    · rename_i hh
      simp only [List.mem_cons] at ha
      cases ha with
      | inl e => exact ⟨b, Recent.here k h b hh, e.symm⟩
      | inr hm =>
        cases hg : get b.parent with
        | none => simp [hg] at hm
        | some p =>
          simp only [hg] at hm
          obtain ⟨c, hc, he⟩ := ih b.parent p hm
          exact ⟨c, Recent.up k h b p c hh hg hc, he⟩

theorem lastAuthors_congr (g₁ g₂ : Nat → Option Block) (k h : Nat) (b : Block)
    (hagree : ∀ c, Recent g₁ k h b c → g₁ c.parent = g₂ c.parent) :
    lastAuthors g₁ k h b = lastAuthors g₂ k h b := by
  induction k generalizing h b with
  | zero => simp [lastAuthors]
  | succ k ih =>
    unfold lastAuthors
    by_cases hh : h = 0
    · simp [hh]
    · simp only [hh, ↓reduceIte]
      have e := hagree b (Recent.here k h b hh)
      rw [← e]
      cases hg : g₁ b.parent with
      | none => rfl
      | some p =>
        simp only
        rw [ih b.parent p (fun c hc => hagree c (Recent.up k h b p c hh hg hc))]

theorem isInsert_insertId : IsInsert (fun x y : Nat => x ≤ y) insertId := ⟨fun _ => rfl, fun _ _ _ => rfl⟩

theorem mem_sortIds (y : Nat) (l : List Nat) : y ∈ sortIds l ↔ y ∈ l :=
  (isInsert_insertId.foldr_perm l).mem_iff

theorem sortIds_sorted (l : List Nat) : (sortIds l).Pairwise (· ≤ ·) :=
  isInsert_insertId.foldr_pairwise (r := (· ≤ ·)) (fun _ _ _ => Nat.le_trans) (fun _ _ => id)
    (fun _ _ h => Nat.le_of_not_le h) l

theorem mem_candidates (signers authors : List Nat) (x : Nat) :
    x ∈ candidates signers authors ↔ x ∈ signers ∧ x ∉ authors := by
  unfold candidates
  rw [mem_sortIds, List.mem_filter]
  simp

theorem candidates_sorted (signers authors : List Nat) :
    (candidates signers authors).Pairwise (· ≤ ·) := sortIds_sorted _

/-- pigeonhole: more pairwise distinct signers than authors leaves a candidate. -/
theorem candidates_nonempty (signers authors d : List Nat) (hd : d.Nodup)
    (hsub : ∀ x ∈ d, x ∈ signers) (hlen : authors.length < d.length) :
    0 < (candidates signers authors).length := by
  have hns : ¬ d ⊆ authors := fun hs => by have := hd.length_le_of_subset hs; omega
  obtain ⟨x, hx, hxa⟩ : ∃ x ∈ d, x ∉ authors := by simpa [List.subset_def] using hns
  exact List.length_pos_of_mem ((mem_candidates signers authors x).2 ⟨hsub x hx, hxa⟩)

theorem getD_mem_of_lt {α} (l : List α) (i : Nat) (d : α) (h : i < l.length) : l.getD i d ∈ l := by
  rw [List.getD_eq_getElem?_getD, List.getElem?_eq_getElem h]
  simp

theorem getD_mem_or_default {α} (l : List α) (i : Nat) (d : α) : l.getD i d ∈ l ∨ l.getD i d = d := by
  by_cases h : i < l.length
  · exact Or.inl (getD_mem_of_lt l i d h)
  · right
    rw [List.getD_eq_getElem?_getD, List.getElem?_eq_none (by omega)]
    rfl

theorem isInsert_insertByWeight : IsInsert (fun c d : Choice => c.weight < d.weight) insertByWeight :=
  ⟨fun _ => rfl, fun _ _ _ => rfl⟩

theorem mem_sortByWeight (x : Choice) (l : List Choice) : x ∈ sortByWeight l ↔ x ∈ l :=
  (isInsert_insertByWeight.foldl_perm l []).mem_iff

theorem visit_items (upd : Bool) (d : Float) (reps : List (Nat × Float)) (ids : List Nat) :
    (visit upd d reps ids).2.map (·.item) = ids := by
  induction ids generalizing reps with
  | nil => simp [visit]
  | cons i is ih => simp [visit, ih]

theorem visit_noupd (d : Float) (reps : List (Nat × Float)) (ids : List Nat) :
    (visit false d reps ids).1 = reps := by
  induction ids generalizing reps with
  | nil => simp [visit]
  | cons i is ih => simp [visit, ih]

theorem repQueryWith_state (perm : List Choice → List Choice) (cfg : Cfg) (rnd : Int → List Nat)
    (st : RepState) (head : Block) (view : Nat) :
    (repQueryWith perm cfg rnd st head view).1 =
      if head.view > wrapSub64 view cfg.chainLength then st
      else match head.signers with
        | none => st
        | some voters =>
          ⟨if decide (st.prevView < head.view) then head.view else st.prevView,
           (visit (decide (st.prevView < head.view)) (reputationOf voters.length cfg.n) st.reps voters).1⟩ := by
  unfold repQueryWith
  by_cases ho : head.view > wrapSub64 view cfg.chainLength
  · simp only [ho, ↓reduceIte]
  · simp only [ho, ↓reduceIte]
    cases hs : head.signers with
    | none => rfl
    | some voters =>
      simp only
      split
      · rfl
      · split <;> rfl

theorem repQueryWith_noupd (perm : List Choice → List Choice) (cfg : Cfg) (rnd : Int → List Nat)
    (s : RepState) (head : Block) (w : Nat) (h : ¬ s.prevView < head.view) :
    (repQueryWith perm cfg rnd s head w).1 = s := by
  rw [repQueryWith_state]
  split
  · rfl
  · cases head.signers with
    | none => rfl
    | some voters =>
      simp only [h, decide_false, Bool.false_eq_true, ↓reduceIte, visit_noupd]

theorem repQueryWith_prevView (perm : List Choice → List Choice) (cfg : Cfg) (rnd : Int → List Nat)
    (st : RepState) (head : Block) (v : Nat) (voters : List Nat)
    (hv : ¬ head.view > wrapSub64 v cfg.chainLength) (hs : head.signers = some voters) :
    ¬ (repQueryWith perm cfg rnd st head v).1.prevView < head.view := by
  rw [repQueryWith_state]
  simp only [hv, ↓reduceIte, hs]
  by_cases h : st.prevView < head.view
  · simp only [h, decide_true, ↓reduceIte]; omega
  · simp only [h, decide_false, Bool.false_eq_true, ↓reduceIte]; exact id

theorem newChooser_data (sorted : List Choice) (ch : Chooser) (h : newChooser sorted = some ch) :
    ch.data = sorted := by
  unfold newChooser at h
  split at h
  · simp at h
  · simp only at h
    split at h
    · simp at h
    · simp at h; rw [← h]

theorem pickSource_mem (ch : Chooser) (stream : List Nat) (id : Nat)
    (h : pickSource ch stream = some id) : id = 0 ∨ ∃ c ∈ ch.data, c.item = id := by
  unfold pickSource at h
  cases hi : intn ch.max stream with
  | none => simp [hi] at h
  | some r =>
    simp only [hi, Option.map_some, Option.some.injEq] at h
    cases getD_mem_or_default ch.data (searchInts ch.totals (r + 1)) ⟨0, 0⟩ with
    | inl hm => exact Or.inr ⟨_, hm, h⟩
    | inr hd => left; rw [← h, hd]

end HsVerif.Model.Leader
