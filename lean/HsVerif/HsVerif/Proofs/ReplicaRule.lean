import HsVerif.Proofs.ReplicaLockInv
/-!
The lock rule at replica level (C01 layer B): what the answers of `Blockchain.Extends`, of the vote
rule and of the commit rule MEAN in terms of the stored blocks, and that every handler of the replica
model casts a vote only after the vote rule held against the lock of that moment.

The invariant `VR` carried through all handlers up to `step` and `start` is relative to the state `s0` the
step started in: the ghost history is `s0.ghost ++ new`, and every vote in `new` has a block `L` (the lock
when its vote rule was evaluated) with `s0.lock.view ≤ L.view ≤ lock.view` and `RuleHolds`; `L`, the lock and
the committed block are those of `s0` or come from a block voted for in `new`.
-/
open Std.Do
namespace HsVerif.Model
open HsVerif.Proofs

theorem voteRule_rule (c : RCfg) (v : Nat) (b : Block) (agg : Option AggQC) (s : RState) :
    ((voteRule c v b agg).run s).2.lock = s.lock ∧
    (((voteRule c v b agg).run s).1 = true → RuleHolds c ((voteRule c v b agg).run s).2 b s.lock) := by
  refine ⟨(voteRule_steps c v b agg s).proj Upd.lock_eq, fun hr => ?_⟩
  by_cases hc : c.rules = .fast
  · exact rh_fast c _ b _ hc
  · exact ((voteRule_settles c v b agg hc s).2 _ rfl (.refl _) hr).1

/-- the two fields that only `tryCommit` writes (`Upd.lc_eq`) -/
@[reducible] def LC (s : RState) : Block × Block := (s.lock, s.committed)

theorem Upd.lc_eq {t : Tag} {s s' : RState} (h : Upd t s s') (hb : t ∉ [Tag.lock, .committed]) : LC s' = LC s := by
  cases h <;> first | rfl | exact absurd (by decide) hb

theorem qcRef_lc (q : QC) (x) :
    ⦃fun s => ⌜LC s = x⌝⦄ qcRef q ⦃⇓ _ s => ⌜LC s = x⌝⦄ :=
  (qcRef_steps q).frame Upd.lc_eq x

theorem sget_growsR (s s' : RState) (hg : Grows s.chain.blocks s') (h : Hash) (b : Block)
    (hl : sget s h = some b) : sget s' h = some b := hg h b hl

theorem ruleHolds_grows (c : RCfg) (s s' : RState) (w L : Block) (hg : Grows s.chain.blocks s')
    (h : RuleHolds c s w L) : RuleHolds c s' w L := by
  unfold RuleHolds at *
  split
  · rename_i hr; simp only [hr] at h
    rcases h with ⟨p, h1, h2⟩ | h
    · exact Or.inl ⟨p, hg _ _ h1, h2⟩
    · exact Or.inr (storeExt_grows s s' w L hg h)
  · rename_i hr; simp only [hr] at h
    obtain ⟨p, h1, h2⟩ := h
    exact ⟨p, hg _ _ h1, h2⟩
  · trivial

theorem extends_sound (b t : Block) (s : RState) (h : ((extendsM b t).run s).1 = true) :
    StoreExt ((extendsM b t).run s).2 b t :=
  extends_sound_chain s.chain b t _ h (ChainGrows.refl _)

/-- the part of `Commit` that `VR` reads -/
structure TCom (c : RCfg) (b : Block) (s s' : RState) : Prop where
  store : Grows s.chain.blocks s'
  lock : LockStep c b s.lock s'
  comm : s'.committed = s.committed ∨ CommitChain c s' b s'.committed

theorem TCom.refl (c : RCfg) (b : Block) (s : RState) : TCom c b s s :=
  ⟨grows_refl s, Or.inl rfl, Or.inl rfl⟩

theorem tryCommit_tc (c : RCfg) (b : Block) (s : RState) : TCom c b s ((tryCommit c b).run s).2 :=
  have h := tryCommit_commit c b s
  ⟨h.steps.chainGrows, lockStep_of_commitLock c b s.lock _ h.lock,
    h.seg.imp And.right fun ⟨_, _, _, _, hc⟩ => hc⟩

/-- where a lock value `L` met during a step comes from: it is the lock `L0` the step started
with, or it lies two certificate links below a block voted for in `vs` -/
def Origin (c : RCfg) (L0 : Block) (vs : List GRec) (s : RState) (L : Block) : Prop :=
  L = L0 ∨ ∃ x id, GRec.vote x id ∈ vs ∧ Via c s x L

/-- the facts carried through a step that started in `s0`, about the votes `vs` cast since -/
structure Core (c : RCfg) (s0 : RState) (vs : List GRec) (s : RState) : Prop where
  lockv : s0.lock.view ≤ s.lock.view
  lock : Origin c s0.lock vs s s.lock
  comm : s.committed = s0.committed ∨ ∃ x id, GRec.vote x id ∈ vs ∧ CommitChain c s x s.committed
  rule : ∀ w id, GRec.vote w id ∈ vs →
    ∃ L, s0.lock.view ≤ L.view ∧ L.view ≤ s.lock.view ∧ RuleHolds c s w L ∧ Origin c s0.lock vs s L

theorem origin_grows (c : RCfg) (L0 : Block) (vs : List GRec) (s s' : RState) (L : Block)
    (hg : Grows s.chain.blocks s') (h : Origin c L0 vs s L) : Origin c L0 vs s' L := by
  rcases h with h | ⟨x, id, hm, hv⟩
  · exact Or.inl h
  · exact Or.inr ⟨x, id, hm, via_grows c s s' x L hg hv⟩

theorem origin_mono (c : RCfg) (L0 : Block) (vs vs' : List GRec) (s : RState) (L : Block)
    (hs : ∀ r, r ∈ vs → r ∈ vs') (h : Origin c L0 vs s L) : Origin c L0 vs' s L := by
  rcases h with h | ⟨x, id, hm, hv⟩
  · exact Or.inl h
  · exact Or.inr ⟨x, id, hs _ hm, hv⟩

theorem Core.refl (c : RCfg) (s : RState) : Core c s [] s :=
  ⟨Nat.le_refl _, Or.inl rfl, Or.inl rfl, fun _ _ h => by cases h⟩

theorem Core.move {c : RCfg} {s0 : RState} {vs : List GRec} {s s' : RState} (h : Core c s0 vs s)
    (hg : Grows s.chain.blocks s') (hv : s.lock.view ≤ s'.lock.view) (hl : Origin c s0.lock vs s' s'.lock)
    (hc : s'.committed = s0.committed ∨ ∃ x id, GRec.vote x id ∈ vs ∧ CommitChain c s' x s'.committed) :
    Core c s0 vs s' := by
  refine ⟨Nat.le_trans h.lockv hv, hl, hc, ?_⟩
  intro w id hm
  obtain ⟨L, h1, h2, h3, h4⟩ := h.rule w id hm
  exact ⟨L, h1, Nat.le_trans h2 hv, ruleHolds_grows c s s' w L hg h3, origin_grows c _ vs s s' L hg h4⟩

theorem Core.keep {c : RCfg} {s0 : RState} {vs : List GRec} {s s' : RState} (h : Core c s0 vs s)
    (hg : Grows s.chain.blocks s') (hl : s'.lock = s.lock) (hc : s'.committed = s.committed) : Core c s0 vs s' := by
  refine h.move hg (by rw [hl]; exact Nat.le_refl _) (by rw [hl]; exact origin_grows c _ vs s s' _ hg h.lock) ?_
  rw [hc]
  rcases h.comm with h' | ⟨x, id, hm, hcc⟩
  · exact Or.inl h'
  · exact Or.inr ⟨x, id, hm, commitChain_grows c s s' x _ hg hcc⟩

theorem Core.tc {c : RCfg} {s0 : RState} {vs : List GRec} {s s' : RState} {b : Block} {id : Nat}
    (h : Core c s0 vs s) (hm : GRec.vote b id ∈ vs) (ht : TCom c b s s') : Core c s0 vs s' := by
  have hg := ht.store
  refine h.move hg ?_ ?_ ?_
  · rcases ht.lock with hl | ⟨hl, _⟩
    · rw [hl]; exact Nat.le_refl _
    · exact Nat.le_of_lt hl
  · rcases ht.lock with hl | ⟨_, hv⟩
    · rw [hl]; exact origin_grows c _ vs s s' _ hg h.lock
    · exact Or.inr ⟨b, id, hm, hv⟩
  · rcases ht.comm with hc | hc
    · rw [hc]
      rcases h.comm with h' | ⟨x, id', hm', hcc⟩
      · exact Or.inl h'
      · exact Or.inr ⟨x, id', hm', commitChain_grows c s s' x _ hg hcc⟩
    · exact Or.inr ⟨b, id, hm, hc⟩

def RH (c : RCfg) (b : Block) (s : RState) : Prop := RuleHolds c s b s.lock

theorem Core.snoc {c : RCfg} {s0 : RState} {vs : List GRec} {s : RState} (r : GRec) (h : Core c s0 vs s)
    (hr : ∀ b id, r = .vote b id → RH c b s) : Core c s0 (vs ++ [r]) s := by
  have hs : ∀ r', r' ∈ vs → r' ∈ vs ++ [r] := fun _ h' => List.mem_append_left _ h'
  refine ⟨h.lockv, origin_mono c _ vs _ s _ hs h.lock, ?_, ?_⟩
  · rcases h.comm with h' | ⟨x, id', hm', hcc⟩
    · exact Or.inl h'
    · exact Or.inr ⟨x, id', hs _ hm', hcc⟩
  · intro w id' hm
    rw [List.mem_append] at hm
    rcases hm with hm | hm
    · obtain ⟨L, h1, h2, h3, h4⟩ := h.rule w id' hm
      exact ⟨L, h1, h2, h3, origin_mono c _ vs _ s L hs h4⟩
    · exact ⟨s.lock, h.lockv, Nat.le_refl _, hr w id' (List.mem_singleton.mp hm).symm,
        origin_mono c _ vs _ s _ hs h.lock⟩

def VR (c : RCfg) (s0 s : RState) : Prop := ∃ new, s.ghost = s0.ghost ++ new ∧ Core c s0 new s

/-- `VR` with a block `b` that has passed the vote rule but is not voted for yet (`onValidPropose` runs `tryCommit`
between the two) -/
def VRP (c : RCfg) (s0 : RState) (b : Block) (id : Nat) (s : RState) : Prop :=
  ∃ new, s.ghost = s0.ghost ++ new ∧ Core c s0 (new ++ [.vote b id]) s

/-- `VR` with a block `b` known to be voted for (`createAndPropose` runs `tryCommit` after the vote) -/
def VRW (c : RCfg) (s0 : RState) (b : Block) (id : Nat) (s : RState) : Prop :=
  ∃ new, s.ghost = s0.ghost ++ new ∧ Core c s0 new s ∧ GRec.vote b id ∈ new

theorem VR.refl (c : RCfg) (s : RState) : VR c s s := ⟨[], by simp, Core.refl c s⟩

theorem vrp_of_vr (c : RCfg) (s0 : RState) (b : Block) (id : Nat) (s : RState) (h : VR c s0 s) (hr : RH c b s) :
    VRP c s0 b id s := by
  obtain ⟨new, hg, hc⟩ := h
  exact ⟨new, hg, hc.snoc (.vote b id) fun _ _ e => by cases e; exact hr⟩

theorem VR.core {c : RCfg} {s0 s : RState} {new : List GRec} (h : VR c s0 s) (hnew : s.ghost = s0.ghost ++ new) :
    Core c s0 new s := by
  obtain ⟨new', hg, hc⟩ := h
  cases List.append_cancel_left (hnew.symm.trans hg)
  exact hc

theorem vr_congr (c : RCfg) (s0 s s' : RState) (h : VR c s0 s) (hg : s'.ghost = s.ghost) (hl : s'.lock = s.lock)
    (hc : s'.committed = s.committed) (hb : s'.chain = s.chain) : VR c s0 s' := by
  obtain ⟨new, hgh, hcore⟩ := h
  exact ⟨new, by rw [hg, hgh], hcore.keep (grows_of_blocks_eq s s' (by rw [hb])) hl hc⟩

theorem vr_append (c : RCfg) (s0 s s' : RState) (r : GRec) (h : VR c s0 s)
    (hg : s'.ghost = s.ghost ++ [r]) (hl : s'.lock = s.lock)
    (hc : s'.committed = s.committed) (hb : s'.chain = s.chain) (hr : ∀ b id, r ≠ .vote b id) : VR c s0 s' := by
  obtain ⟨new, hgh, hcore⟩ := h
  exact ⟨new ++ [r], by rw [hg, hgh, List.append_assoc],
    (hcore.keep (grows_of_blocks_eq s s' (by rw [hb])) hl hc).snoc r fun b id e => absurd e (hr b id)⟩

theorem vrp_frame {α} (c : RCfg) (s0 : RState) (b : Block) (id : Nat) (f : M α)
    (hvs : ∀ x, ⦃fun s => ⌜VS s = x⌝⦄ f ⦃⇓ _ s => ⌜VS s = x⌝⦄)
    (hgr : ∀ x, ⦃fun s => ⌜Grows x s⌝⦄ f ⦃⇓ _ s => ⌜Grows x s⌝⦄)
    (hlc : ∀ x, ⦃fun s => ⌜LC s = x⌝⦄ f ⦃⇓ _ s => ⌜LC s = x⌝⦄) :
    ⦃fun s => ⌜VRP c s0 b id s⌝⦄ f ⦃⇓ _ s => ⌜VRP c s0 b id s⌝⦄ := by
  apply triple_of_run
  intro s ⟨new, hg, hc⟩
  have hv := run_res_of_triple f (fun s' => VS s' = VS s) (fun _ s' => VS s' = VS s) (hvs (VS s)) s rfl
  have hl := run_res_of_triple f (fun s' => LC s' = LC s) (fun _ s' => LC s' = LC s) (hlc (LC s)) s rfl
  exact ⟨new, (show _ = s.ghost from congrArg Prod.fst hv).trans hg,
    hc.keep (grows_run f hgr s) (congrArg Prod.fst hl) (congrArg Prod.snd hl)⟩

theorem voteRule_rh (c : RCfg) (v : Nat) (b : Block) (agg : Option AggQC) :
    ⦃fun _ => ⌜True⌝⦄ voteRule c v b agg ⦃⇓ r s => ⌜r = true → RH c b s⌝⦄ := by
  apply triple_of_run
  intro s _ hr
  have := voteRule_rule c v b agg s
  unfold RH
  rw [this.1]
  exact this.2 hr

theorem verifyAnyM_rh (k : Keys) (c : RCfg) (b : Block) (q : QC) (agg : Option AggQC) :
    ⦃fun s => ⌜RH c b s⌝⦄ verifyAnyM k c q agg ⦃⇓ _ s => ⌜RH c b s⌝⦄ :=
  triple_of_run _ _ _ fun s h => by
    have hs := verifyAnyM_steps k c q agg s
    unfold RH at *
    rw [hs.proj Upd.lock_eq]
    exact ruleHolds_grows c s _ b _ hs.chainGrows h

theorem voterVerify_rh (k : Keys) (c : RCfg) (id : Nat) (b : Block) (agg : Option AggQC) :
    ⦃fun _ => ⌜True⌝⦄ voterVerify k c id b agg ⦃⇓ r s => ⌜r = .ok () → RH c b s⌝⦄ :=
  voterVerify_rule_ok k c id b agg (voteRule_rh c b.view b agg)
    (triple_conseq (verifyAnyM_rh k c b b.qc agg) (fun _ h => h) fun _ _ h _ => h)

section VRChain
variable (k : Keys) (c : RCfg) (s0 : RState)

theorem Upd.vr {t : Tag} {s s' : RState} (h : Upd t s s') (ht : t ∉ [Tag.lock, .committed, .voted])
    (hv : VR c s0 s) : VR c s0 s' := by
  cases h with
  | lock | committed | voted => exact absurd (by decide) ht
  | timedOut | adv => exact vr_append c s0 _ _ _ hv rfl rfl rfl rfl (fun _ _ e => by cases e)
  | chain s c' hg =>
    obtain ⟨new, hgh, hc⟩ := hv
    exact ⟨new, hgh, hc.keep (s' := { s with chain := c' }) hg rfl rfl⟩
  | _ => exact vr_congr c s0 _ _ hv rfl rfl rfl rfl

theorem StepsOf.vr {α} {L : List Tag} {f : M α} (h : StepsOf L f)
    (hL : ∀ t ∈ L, t ∉ [Tag.lock, .committed, .voted] := by decide) :
    ⦃fun s => ⌜VR c s0 s⌝⦄ f ⦃⇓ _ s => ⌜VR c s0 s⌝⦄ :=
  h.preserves (upd_of_notin (Upd.vr c s0) L hL)

theorem voterVerify_vr (id : Nat) (b : Block) (agg : Option AggQC) :
    ⦃fun s => ⌜VR c s0 s⌝⦄ voterVerify k c id b agg ⦃⇓ r s => ⌜VR c s0 s ∧ (r = .ok () → RH c b s)⌝⦄ :=
  triple_of_run _ _ _ fun s h => ⟨run_res_of_triple _ _ _ ((voterVerify_steps k c id b agg).vr c s0) s h,
    run_res_of_triple _ (fun _ => True) _ (voterVerify_rh k c id b agg) s trivial⟩

theorem tryCommit_vrp (b : Block) (id : Nat) (s : RState) (h : VRP c s0 b id s) : VRP c s0 b id ((tryCommit c b).run s).2 := by
  obtain ⟨new, hg, hc⟩ := h
  exact ⟨new, by rw [tryCommit_ghost c b s, hg],
    hc.tc (List.mem_append_right _ (List.mem_singleton.mpr rfl)) (tryCommit_tc c b s)⟩

theorem tryCommit_vrw (b : Block) (id : Nat) (s : RState) (h : VRW c s0 b id s) : VR c s0 ((tryCommit c b).run s).2 := by
  obtain ⟨new, hg, hc, hm⟩ := h
  exact ⟨new, by rw [tryCommit_ghost c b s, hg], hc.tc hm (tryCommit_tc c b s)⟩

theorem voteFor_vr (b : Block) (id : Nat) (s : RState) (h : VRP c s0 b id s) : VRW c s0 b id ((voteFor c b id).run s).2 := by
  obtain ⟨new, hg, hc⟩ := h
  refine ⟨new ++ [.vote b id], by rw [voteFor_ghost, hg, List.append_assoc], ?_, List.mem_append_right _ (List.mem_singleton.mpr rfl)⟩
  have hs := voteFor_steps c b id s
  exact hc.keep hs.chainGrows (hs.proj Upd.lock_eq) (hs.proj Upd.committed_eq)

theorem vr_accept : AcceptInv k c [.lock, .committed, .voted] (VR c s0) (fun _ => RH c) where
  verify := voterVerify_vr k c s0
  commitVote id b s hv hr :=
    let ⟨new, hg, hc, _⟩ := voteFor_vr c s0 b id _ (tryCommit_vrp c s0 b id s (vrp_of_vr c s0 b id s hv hr))
    ⟨new, hg, hc⟩
  voteCommit id b s hv hr := tryCommit_vrw c s0 b id _ (voteFor_vr c s0 b id s (vrp_of_vr c s0 b id s hv hr))
  upd := Upd.vr c s0
  out _ h := vr_congr c s0 _ _ h rfl rfl rfl rfl

end VRChain

theorem step_vr (k : Keys) (c : RCfg) (s : RState) (e : Ev) : VR c s (step k c s e).1 :=
  (vr_accept k c s).step s e (vr_congr c s s _ (VR.refl c s) rfl rfl rfl rfl)

theorem start_vr (k : Keys) (c : RCfg) (s : RState) : VR c s (start k c s).1 :=
  (vr_accept k c s).start s (VR.refl c s)

/-- the lock is genesis or lies two certificate links below a block voted for (for chained HotStuff
this is `LockFrom`) -/
def LockFromC (c : RCfg) (s : RState) : Prop :=
  s.lock = genesisBlock ∨ ∃ x id, GRec.vote x id ∈ s.ghost ∧ Via c s x s.lock

theorem lockFromC_of_vr (c : RCfg) (s s' : RState) (hg : Grows s.chain.blocks s') (hv : VR c s s')
    (h : LockFromC c s) : LockFromC c s' := by
  obtain ⟨new, hgh, hc⟩ := hv
  unfold LockFromC at *
  rcases hc.lock with hl | ⟨x, id, hm, hvia⟩
  · rw [hl]
    rcases h with h | ⟨x, id, hm, hvia⟩
    · exact Or.inl h
    · exact Or.inr ⟨x, id, by rw [hgh]; exact List.mem_append_left _ hm, via_grows c s s' x _ hg hvia⟩
  · exact Or.inr ⟨x, id, by rw [hgh]; exact List.mem_append_right _ hm, hvia⟩

theorem step_grows (k : Keys) (c : RCfg) (s : RState) (e : Ev) : Grows s.chain.blocks (step k c s e).1 :=
  step_keeps k c ((runLoop_steps k c 100000).grows _) (fun _ h => h) s e (grows_refl s)

theorem start_grows (k : Keys) (c : RCfg) (s : RState) : Grows s.chain.blocks (start k c s).1 :=
  start_keeps k c (fun si => (createAndPropose_steps k c si).grows _) ((runLoop_steps k c 100000).grows _) (fun _ h => h) s (grows_refl s)

end HsVerif.Model
