import HsVerif.Model.Replica
/-!
Vocabulary for the lock rule at replica level (C01 layer B): walking stored parent links, what the
vote rule guarantees relative to a lock, what a vote obliges the lock to cover, and where the lock
comes from.  Definitions only; the invariants are proved in `ReplicaLockInv.lean` /
`ReplicaRule.lean`, the system-level assembly uses them through stored-block lookups, which are
stable (`Grows`).
-/
namespace HsVerif.Model

/-- the block stored under `h` in the replica's block map -/
def sget (s : RState) (h : Hash) : Option Block := s.chain.blocks.lookup h

/-- `w` reaches `l` as `Blockchain.Extends(w, l)` finds it: follow stored parent links while the
view is above `l`'s, then compare hashes -/
inductive StoreExt (s : RState) : Block → Block → Prop
  | here (w l : Block) : ¬ (w.view > l.view) → w.hash = l.hash → StoreExt s w l
  | up (w p l : Block) : w.view > l.view → sget s w.parent = some p → StoreExt s p l → StoreExt s w l

/-- what a positive vote-rule answer for `w` means relative to the lock `L` it was evaluated with -/
def RuleHolds (c : RCfg) (s : RState) (w L : Block) : Prop :=
  match c.rules with
  | .chained => (∃ p, sget s w.qc.hash = some p ∧ p.view > L.view) ∨ StoreExt s w L
  | .simple => ∃ p, sget s w.qc.hash = some p ∧ L.view ≤ p.view
  | .fast => True

/-- the lock covers the grandparent (by certificate links) of a voted block `x`: the block certified
by `x`'s QC is stored, and either it carries no certificate hash or the block IT certifies is stored
and is not above the lock -/
def LockCovers (s : RState) (x : Block) : Prop :=
  ∃ p, sget s x.qc.hash = some p ∧ (p.qc.hash = "" ∨ ∃ g, sget s p.qc.hash = some g ∧ g.view ≤ s.lock.view)

/-- the lock is genesis or the stored grandparent (by certificate links) of a block voted for -/
def LockFrom (s : RState) : Prop :=
  s.lock = genesisBlock ∨
  ∃ x id p, GRec.vote x id ∈ s.ghost ∧ sget s x.qc.hash = some p ∧ p.qc.hash ≠ "" ∧ sget s p.qc.hash = some s.lock

end HsVerif.Model
