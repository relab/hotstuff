import HsVerif.Proofs.CertComplete
/-! `Combine` succeeds on single-signer signatures of the configured scheme from pairwise distinct
signers, whatever their validity (used for C09: hostile votes cannot block certificate assembly). -/
namespace HsVerif.Model
open Bitfield

def Shape (c : Cfg) (i : Nat) (s : Sig) : Prop :=
  (c.scheme ≠ .bls12 ∧ ∃ b, s = .multi c.scheme [⟨i, b⟩]) ∨
  (c.scheme = .bls12 ∧ ∃ a j bits, s = .bls a j bits ∧ bits.ids = [i])

theorem shape_of_verify (T : Truth) (c : Cfg) (i : Nat) (m : Msg) (s : Sig)
    (hw : s.WF) (hl : s.len = 1) (hp : s.participants = [i]) (hv : verify T c s m = true) : Shape c i s := by
  obtain ⟨bits, h⟩ := single_of_verify T c i m s hw hl hp hv
  exact h.imp (fun ⟨h1, b, h2, _⟩ => ⟨h1, b, h2⟩) fun ⟨h1, h2, h3⟩ => ⟨h1, _, _, bits, h2, h3⟩

theorem combine_shapes {α} (c : Cfg) (idOf : α → Nat) (f : α → Sig) (l : List α)
    (hn : (l.map idOf).Nodup) (h2 : 2 ≤ l.length) (hs : ∀ x ∈ l, Shape c (idOf x) (f x)) :
    ∃ s, combine c (l.map f) = .ok s ∧ s.len = l.length := by
  by_cases hb : c.scheme = .bls12
  · obtain ⟨p, hp⟩ := choose_on (([], [], Bitfield.empty) : List Atom × List Nat × Bitfield)
      (p := fun x y => f x = .bls y.1 y.2.1 y.2.2 ∧ y.2.2.ids = [idOf x]) fun x hx =>
        let ⟨a, j, bits, h⟩ := ((hs x hx).resolve_left fun h => h.1 hb).2
        ⟨(a, j, bits), h⟩
    obtain ⟨bits, hc, hinv, hperm⟩ := combine_bls_singles c hb idOf l (fun x => (p x).1) (fun x => (p x).2.1)
      (fun x => (p x).2.2) hn h2 fun x hx => (hp x hx).2
    refine ⟨_, (List.map_congr_left fun x hx => (hp x hx).1) ▸ hc, ?_⟩
    exact hinv.trans (by simpa using hperm.length_eq)
  · obtain ⟨β, hβ⟩ := choose_on 0 fun x hx => ((hs x hx).resolve_right fun h => hb h.1).2
    have hc := combine_multi_singles c hb l (fun x => ⟨idOf x, β x⟩) hn h2
    refine ⟨_, (List.map_congr_left hβ) ▸ hc, ?_⟩
    simp [Sig.len]

theorem combine_shapes_ok (c : Cfg) (signers : List Nat) (f : Nat → Sig)
    (hn : signers.Nodup) (h1 : ∀ i ∈ signers, 1 ≤ i) (h2 : 2 ≤ signers.length)
    (hs : ∀ i ∈ signers, Shape c i (f i)) :
    ∃ s, combine c (signers.map f) = .ok s ∧ s.len = signers.length :=
  combine_shapes c id f signers (by simpa using hn) h2 hs

end HsVerif.Model
