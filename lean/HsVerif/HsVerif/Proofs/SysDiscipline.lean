import HsVerif.Proofs.Safety
import HsVerif.Proofs.QuorumCount
import HsVerif.Proofs.SysInv
import HsVerif.Props.C02
/-!
C01, system layer: the SYSTEM of replica models (Model/Sys.lean) as an instance of the abstract safety argument
(Proofs/Safety.lean).  `sysStep_rep` needs no reachability: a relation between replica states that is reflexive, holds
across `start` and `step` (from the state with any signature table installed) and across a change of the fetchable blocks
holds across any action of the system; `reach_rep` is the induction over `Reach` it gives for properties of single replica
states that do not read the signature table (those that do are in Proofs/SysInv.lean).  `SysAbs` is the abstraction, `CA`
the content addressing hypothesis it needs; proved here are the fields of `Safety.VoteDiscipline (SysAbs C σ blk)`: every
field of the abstract discipline but the lock rule, for every ruleset.
-/
namespace HsVerif.Model

/-- replica `i` is in both maps or in neither, and if it is, its two states are related -/
abbrev RepRel (R : RState → RState → Prop) (l l' : List (Nat × RState)) (i : Nat) : Prop :=
  (∀ s, l.lookup i = some s → ∃ s', l'.lookup i = some s' ∧ R s s') ∧
  (∀ s', l'.lookup i = some s' → ∃ s, l.lookup i = some s ∧ R s s')

theorem sysStep_rep (k : Keys) (C : SysCfg) (σ : SysState) (a : SysAct) (R : Nat → RState → RState → Prop)
    (hrefl : ∀ i s, R i s s)
    (hstart : ∀ i s t nb, R i s (start k (C.rcfg i) { s with truth := t, nextBytes := nb }).1)
    (hstep : ∀ i s t nb e, R i s (step k (C.rcfg i) { s with truth := t, nextBytes := nb } e).1)
    (hfetch : ∀ i s l, R i s { s with chain := { s.chain with fetchable := l } }) (i : Nat) :
    RepRel (R i) σ.reps (sysStep k C σ a).reps i := by
  have same : RepRel (R i) σ.reps σ.reps i := ⟨fun s h => ⟨s, h, hrefl i s⟩, fun s h => ⟨s, h, hrefl i s⟩⟩
  have set : ∀ j sj v, σ.reps.lookup j = some sj → R j sj v → RepRel (R i) σ.reps (setKV j v σ.reps) i := by
    intro j sj v hj hv
    unfold RepRel
    by_cases hij : i = j
    · subst hij
      rw [lookup_setKV_self]
      exact ⟨fun s h => ⟨v, rfl, by rw [hj] at h; cases h; exact hv⟩, fun s' h => ⟨sj, hj, by cases h; exact hv⟩⟩
    · rw [lookup_setKV_ne _ _ _ _ hij]; exact same
  exact sysStep_cases k C σ (motive := fun _ σ' _ => RepRel (R i) σ.reps σ'.reps i)
    (fun _ => same) (fun j sj hj r hr => set j sj _ hj (hr ▸ hstart j sj _ _))
    (fun j e sj hj r hr => set j sj _ hj (hr ▸ hstep j sj _ _ e)) (fun j l sj hj => set j sj _ hj (hfetch j sj l))
    (fun _ _ => same) a

theorem sysStep_rep_rel (k : Keys) (C : SysCfg) (σ : SysState) (a : SysAct) (R : Nat → RState → RState → Prop)
    (hrefl : ∀ i s, R i s s)
    (hstart : ∀ i s t nb, R i s (start k (C.rcfg i) { s with truth := t, nextBytes := nb }).1)
    (hstep : ∀ i s t nb e, R i s (step k (C.rcfg i) { s with truth := t, nextBytes := nb } e).1)
    (hfetch : ∀ i s l, R i s { s with chain := { s.chain with fetchable := l } })
    (i : Nat) (s s' : RState) (hs : σ.reps.lookup i = some s) (hs' : (sysStep k C σ a).reps.lookup i = some s') :
    R i s s' := by
  obtain ⟨s1, h1, hR⟩ := (sysStep_rep k C σ a R hrefl hstart hstep hfetch i).1 s hs
  rw [hs'] at h1; cases h1; exact hR

theorem reach_rep (k : Keys) (C : SysCfg) (P : Nat → RState → Prop) (h0 : ∀ i, P i {})
    (htable : ∀ i s t nb, P i s → P i { s with truth := t, nextBytes := nb })
    (hfetch : ∀ i s l, P i s → P i { s with chain := { s.chain with fetchable := l } })
    (hstart : ∀ i s, P i s → P i (start k (C.rcfg i) s).1)
    (hstep : ∀ i s e, P i s → P i (step k (C.rcfg i) s e).1)
    (σ : SysState) (hr : Reach k C σ) (i : Nat) (s : RState) (hs : σ.reps.lookup i = some s) : P i s := by
  induction hr generalizing i s with
  | init =>
    obtain ⟨_, rfl⟩ := sysInit_lookup hs
    exact h0 i
  | step σ a _ ih =>
    obtain ⟨s0, h0', hR⟩ := (sysStep_rep k C σ a (fun i s s' => P i s → P i s') (fun _ _ h => h)
      (fun i s t nb h => hstart i _ (htable i s t nb h)) (fun i s t nb e h => hstep i _ e (htable i s t nb h)) hfetch i).2 s hs
    exact hR (ih i s0 h0')

end HsVerif.Model

namespace HsVerif.Props.C01Sys
open HsVerif.Model HsVerif.QuorumCount

/-- the key hypothesis: timeout-message keys are not block-message keys (true of the driver's
`"tmo:…"` keys, see `tmoMsgKey_ne_blkMsg`) -/
def KeysOK (k : Keys) : Prop := ∀ i v q h, k.tmo i v q ≠ blkMsg h

/-- the signature table certifies hash `h`: a quorum of distinct replica ids `1..n` each have a
genuine signature over the block message of `h` in the table -/
def CertifiedT (C : SysCfg) (σ : SysState) (h : Hash) : Prop :=
  ∃ S : List Nat, S.Nodup ∧ quorumSize C.n ≤ S.length ∧
    ∀ i ∈ S, 1 ≤ i ∧ i ≤ C.n ∧ ∃ bytes, σ.truth.lookup bytes = some ⟨i, blkMsg h⟩

/-- at most `numFaulty n` of the ids `1..n` are not honest -/
def FewFaulty (C : SysCfg) : Prop :=
  count (fun i => !(C.honest.contains (i + 1))) C.n ≤ numFaulty C.n

theorem length_le_count (n : Nat) : ∀ (S : List Nat), S.Nodup → (∀ i ∈ S, 1 ≤ i ∧ i ≤ n) →
    S.length ≤ count (fun i => S.contains (i + 1)) n := by
  induction n with
  | zero =>
    intro S _ hr
    cases S with
    | nil => simp
    | cons a S => have := hr a (by simp); omega
  | succ n ih =>
    intro S hnd hr
    have hnd' : (S.erase (n + 1)).Nodup := hnd.erase _
    have hr' : ∀ i ∈ S.erase (n + 1), 1 ≤ i ∧ i ≤ n := by
      intro i hi
      have := (hnd.mem_erase_iff).mp hi
      have := hr i this.2
      omega
    have h1 := ih _ hnd' hr'
    have h2 : count (fun i => (S.erase (n + 1)).contains (i + 1)) n ≤ count (fun i => S.contains (i + 1)) n := by
      apply count_mono
      intro i _ hi
      simp only [List.contains_iff_mem] at hi ⊢
      exact List.mem_of_mem_erase hi
    simp only [count]
    by_cases hm : n + 1 ∈ S
    · have := List.length_erase_of_mem hm
      have : 1 ≤ S.length := List.length_pos_of_mem hm
      rw [if_pos (List.contains_iff_mem.mpr hm)]; omega
    · rw [List.erase_of_not_mem hm] at h1
      omega

theorem quorums_share_honest_id (n : Nat) (hn : 1 ≤ n) (honest S1 S2 : List Nat)
    (hf : count (fun i => !(honest.contains (i + 1))) n ≤ numFaulty n)
    (hd1 : S1.Nodup) (hq1 : quorumSize n ≤ S1.length) (hr1 : ∀ i ∈ S1, 1 ≤ i ∧ i ≤ n)
    (hd2 : S2.Nodup) (hq2 : quorumSize n ≤ S2.length) (hr2 : ∀ i ∈ S2, 1 ≤ i ∧ i ≤ n) :
    ∃ j, j ∈ S1 ∧ j ∈ S2 ∧ j ∈ honest := by
  obtain ⟨i, _, ha, hb, hz⟩ := quorums_share_honest n (fun i => S1.contains (i + 1)) (fun i => S2.contains (i + 1))
    (fun i => !(honest.contains (i + 1)))
    (Nat.le_trans hq1 (length_le_count n S1 hd1 hr1)) (Nat.le_trans hq2 (length_le_count n S2 hd2 hr2)) hf
  refine ⟨i + 1, ?_, ?_, ?_⟩
  · simpa using ha
  · simpa using hb
  · simpa using hz

theorem pairwise_mem_cases {α} (R : α → α → Prop) (l : List α) (hp : l.Pairwise R) (a b : α)
    (ha : a ∈ l) (hb : b ∈ l) : a = b ∨ R a b ∨ R b a := by
  induction l with
  | nil => simp at ha
  | cons x l ih =>
    rw [List.pairwise_cons] at hp
    rcases List.mem_cons.mp ha with rfl | ha' <;> rcases List.mem_cons.mp hb with rfl | hb'
    · exact Or.inl rfl
    · exact Or.inr (Or.inl (hp.1 _ hb'))
    · exact Or.inr (Or.inr (hp.1 _ ha'))
    · exact ih hp.2 ha' hb'

theorem one_vote_per_view (k : Keys) (c : RCfg) (s : RState) (hi : Inv3 k c s) (b1 b2 : Block) (x y : Nat)
    (h1 : GRec.vote b1 x ∈ s.ghost) (h2 : GRec.vote b2 y ∈ s.ghost) (hv : b1.view = b2.view) : b1 = b2 := by
  obtain ⟨_, hp, _⟩ := hi
  rcases pairwise_mem_cases _ _ hp _ _ h1 h2 with h | h | h
  · cases h; rfl
  · have := h b1.view b2.view rfl rfl; omega
  · have := h b2.view b1.view rfl rfl; omega

/-- ECDSA / EdDSA only.  This is where `scheme ≠ bls12` matters: BLS values carry their atoms and do not
refer to the table. -/
theorem verifyQC_certifies (E : CertEnv) (q : QC) (hsch : E.cfg.scheme ≠ .bls12) (hs : C02.StoreOK E)
    (hg : q.hash ≠ genesisHash) (hv : verifyQC E q = true) :
    ∃ S : List Nat, S.Nodup ∧ quorumSize E.cfg.n ≤ S.length ∧
      ∀ i ∈ S, 1 ≤ i ∧ i ≤ E.cfg.n ∧ ∃ bytes, E.T bytes = some ⟨i, blkMsg q.hash⟩ := by
  obtain ⟨s, _, hsig, _, _, _, hver⟩ := (verifyQC_iff E q hg).mp hv
  -- the verifier accepts a BLS signature only under the BLS scheme
  have hmulti : ∀ a j b, s ≠ .bls a j b := by
    intro a j b e
    rw [e] at hver
    simp only [verify, Bool.and_eq_true, beq_iff_eq] at hver
    exact hsch hver.1.1
  have hw : C02.QC.WF q := by
    intro sg hsg
    obtain rfl : sg = s := Option.some.inj (hsg.symm.trans hsig)
    cases sg with
    | multi _ _ => trivial
    | bls a j b => exact absurd rfl (hmulti a j b)
  rcases C02.verifyQC_sound E q hs hw hv with ⟨h, _⟩ | ⟨b, sg, _, _, _, hsg, S, hnd, hlen, hall⟩
  · exact absurd h hg
  · obtain rfl : sg = s := Option.some.inj (hsg.symm.trans hsig)
    refine ⟨S, hnd, hlen, ?_⟩
    intro i hi
    obtain ⟨hhas, hsig⟩ := hall i hi
    simp only [Cfg.has, Bool.and_eq_true, decide_eq_true_eq] at hhas
    refine ⟨hhas.1, hhas.2, ?_⟩
    cases sg with
    | multi _ es =>
      obtain ⟨e, _, _, he⟩ := hsig
      exact ⟨e.bytes, he⟩
    | bls a j b => exact absurd rfl (hmulti a j b)

/-- a certificate accepted against a table contained in the global one: a replica's own copy, or the global table itself -/
theorem accepted_certifiedT (k : Keys) (C : SysCfg) (σ : SysState) (i : Nat) (s : RState) (q : QC)
    (hsch : C.scheme ≠ .bls12) (hsub : ∀ b a, s.truth.lookup b = some a → σ.truth.lookup b = some a)
    (hs : C02.StoreOK (env k (C.rcfg i) s)) (hg : q.hash ≠ genesisHash)
    (hv : verifyQC (env k (C.rcfg i) s) q = true) : CertifiedT C σ q.hash := by
  obtain ⟨S, h1, h2, h3⟩ := verifyQC_certifies (env k (C.rcfg i) s) q hsch hs hg hv
  refine ⟨S, h1, h2, fun j hj => ?_⟩
  obtain ⟨a, b, bytes, hb⟩ := h3 j hj
  exact ⟨a, b, bytes, hsub _ _ hb⟩

end HsVerif.Props.C01Sys

namespace HsVerif.Props.C01SysWF
open HsVerif.Model HsVerif.Props.C01Sys

/-- The system state `σ` as a system of the abstract safety argument: "the block with that hash" is
`blk` (genesis is its own parent), replica `r` voted for `b` when its ghost history has the vote
record, a quorum is a set containing `quorumSize n` distinct ids `1..n`. -/
abbrev SysAbs (C : SysCfg) (σ : SysState) (blk : Hash → Block) : HsVerif.Safety.Sys :=
  { Blk := Block, Rep := Nat, gen := genesisBlock, view := Block.view,
    par := fun b => if b = genesisBlock then genesisBlock else blk b.parent,
    honest := fun r => r ∈ C.honest,
    voted := fun r b => ∃ s id, σ.reps.lookup r = some s ∧ GRec.vote b id ∈ s.ghost,
    Quorum := fun Q => ∃ S : List Nat, S.Nodup ∧ quorumSize C.n ≤ S.length ∧ ∀ i ∈ S, 1 ≤ i ∧ i ≤ C.n ∧ Q i }

/-- Content addressing, as a hypothesis on the state looked at: `blk h` is THE block of hash `h` —
the genesis block for the genesis hash, and every block an honest replica stores under `h`
(received, fetched or own) or voted for is `blk` of that hash.  (Stores are keyed by the REQUESTED
hash when a block is fetched, and `Store` leaves existing entries alone, so the model alone does
not give this: it is collision freedom of the hash function plus peers serving what was asked for.) -/
def CA (σ : SysState) (blk : Hash → Block) : Prop :=
  blk genesisHash = genesisBlock ∧
  ∀ i s, σ.reps.lookup i = some s →
    (∀ h b, s.chain.blocks.lookup h = some b → b = blk h ∧ b.hash = h) ∧
    (∀ b id, GRec.vote b id ∈ s.ghost → b = blk b.hash)

theorem sysAbs_par (C : SysCfg) (σ : SysState) (blk : Hash → Block) (b : Block) :
    (SysAbs C σ blk).par b = if b = genesisBlock then genesisBlock else blk b.parent := rfl

def caCheck (σ : SysState) (blk : Hash → Block) : Bool :=
  blk genesisHash == genesisBlock &&
  σ.reps.all (fun p =>
    p.2.chain.blocks.all (fun e => e.2 == blk e.1 && e.2.hash == e.1) &&
    p.2.ghost.all (fun r => match r with | .vote b _ => b == blk b.hash | _ => true))

theorem ca_of_caCheck (σ : SysState) (blk : Hash → Block) (h : caCheck σ blk = true) : CA σ blk := by
  simp only [caCheck, Bool.and_eq_true, beq_iff_eq] at h
  refine ⟨h.1, ?_⟩
  intro i s hl
  have hp := all_of_lookup h.2 hl
  simp only [Bool.and_eq_true] at hp
  refine ⟨?_, ?_⟩
  · intro x b hb
    have := all_of_lookup hp.1 hb
    simpa using this
  · intro b id hm
    have := List.all_eq_true.mp hp.2 _ hm
    simpa using this

theorem sys_gen (C : SysCfg) (σ : SysState) (blk : Hash → Block) :
    (SysAbs C σ blk).view (SysAbs C σ blk).gen = 0 ∧
    (SysAbs C σ blk).par (SysAbs C σ blk).gen = (SysAbs C σ blk).gen :=
  ⟨rfl, by rw [sysAbs_par]; exact if_pos rfl⟩

theorem sysAbs_inter (C : SysCfg) (σ : SysState) (blk : Hash → Block) (hn : 1 ≤ C.n) (hf : FewFaulty C) :
    ∀ Q1 Q2, (SysAbs C σ blk).Quorum Q1 → (SysAbs C σ blk).Quorum Q2 →
      ∃ r, Q1 r ∧ Q2 r ∧ (SysAbs C σ blk).honest r := by
  intro Q1 Q2 ⟨S1, hd1, hq1, hm1⟩ ⟨S2, hd2, hq2, hm2⟩
  obtain ⟨j, hj1, hj2, hjh⟩ := quorums_share_honest_id C.n hn C.honest S1 S2 hf
    hd1 hq1 (fun i hi => ⟨(hm1 i hi).1, (hm1 i hi).2.1⟩) hd2 hq2 (fun i hi => ⟨(hm2 i hi).1, (hm2 i hi).2.1⟩)
  exact ⟨j, (hm1 j hj1).2.2, (hm2 j hj2).2.2, hjh⟩

theorem sysAbs_one_per_view (k : Keys) (C : SysCfg) (hk : KeysOK k) (σ : SysState) (hr : Reach k C σ)
    (blk : Hash → Block) :
    ∀ r x y, (SysAbs C σ blk).honest r → (SysAbs C σ blk).voted r x → (SysAbs C σ blk).voted r y →
      (SysAbs C σ blk).view x = (SysAbs C σ blk).view y → x = y := by
  intro r x y _ ⟨s, ix, hs, hx⟩ ⟨s', iy, hs', hy⟩ hv
  obtain rfl : s' = s := Option.some.inj (hs'.symm.trans hs)
  exact one_vote_per_view k _ s' ((reach_inv k C σ hr).inv3 r s' hs) x y ix iy hx hy hv

theorem voted_ne_genesis (k : Keys) (C : SysCfg) (hk : KeysOK k) (σ : SysState) (hr : Reach k C σ)
    (blk : Hash → Block) (r : Nat) (w : Block) (hv : (SysAbs C σ blk).voted r w) : w ≠ genesisBlock := by
  obtain ⟨s, id, hs, hm⟩ := hv
  obtain ⟨_, _, h3⟩ := (reach_inv k C σ hr).inv3 r s hs
  obtain ⟨_, _, hlt, _⟩ := h3 w id hm
  intro e
  rw [e] at hlt
  exact Nat.not_lt_zero _ hlt

/-- The honest members of the quorum really voted for `blk h`: unforgeability of honest votes, and
`CA` (the block they voted for, of hash `h`, is `blk h`). -/
theorem sys_certified_of_table (k : Keys) (C : SysCfg) (hk : KeysOK k) (σ : SysState) (hr : Reach k C σ)
    (blk : Hash → Block) (hca : CA σ blk) (h : Hash) (hc : CertifiedT C σ h) :
    HsVerif.Safety.Certified (SysAbs C σ blk) (blk h) := by
  obtain ⟨S, hd, hq, hm⟩ := hc
  refine ⟨fun i => ∃ bytes, σ.truth.lookup bytes = some ⟨i, blkMsg h⟩, ⟨S, hd, hq, hm⟩, ?_⟩
  intro r ⟨bytes, hb⟩ hh
  obtain ⟨s, hs, b, id, hbh, hv⟩ := (reach_inv k C σ hr).unf hk _ (mem_of_lookup _ _ _ hb) hh h rfl
  refine ⟨s, id, hs, ?_⟩
  have := (hca.2 r s hs).2 b id hv
  rw [hbh] at this
  rw [← this]; exact hv

theorem accepted_qc_gc (k : Keys) (C : SysCfg) (hk : KeysOK k) (σ : SysState) (hr : Reach k C σ)
    (hsch : C.scheme ≠ .bls12) (blk : Hash → Block) (hca : CA σ blk) (i : Nat) (s : RState) (q : QC)
    (hsub : ∀ b a, s.truth.lookup b = some a → σ.truth.lookup b = some a)
    (hs : C02.StoreOK (env k (C.rcfg i) s)) (hv : verifyQC (env k (C.rcfg i) s) q = true) :
    HsVerif.Safety.GC (SysAbs C σ blk) (blk q.hash) := by
  by_cases hg : q.hash = genesisHash
  · left; rw [hg]; exact hca.1
  · exact Or.inr (sys_certified_of_table k C hk σ hr blk hca _ (accepted_certifiedT k C σ i s q hsch hsub hs hg hv))

/-- the QC verified against the replica's store, which `CA` identifies with `blk` -/
theorem voted_qc (k : Keys) (C : SysCfg) (hk : KeysOK k) (σ : SysState) (hr : Reach k C σ) (blk : Hash → Block)
    (hca : CA σ blk) {i : Nat} {s : RState} {w : Block} {id : Nat} (hs : σ.reps.lookup i = some s)
    (hm : GRec.vote w id ∈ s.ghost) :
    (SysAbs C σ blk).par w = blk w.qc.hash ∧ (blk w.qc.hash).view = w.qc.view := by
  have hne := voted_ne_genesis k C hk σ hr blk i w ⟨s, id, hs, hm⟩
  obtain ⟨_, hpar, _, _⟩ := ((reach_inv k C σ hr).inv3 i s hs).2.2 w id hm
  refine ⟨by rw [sysAbs_par, if_neg hne, hpar], ?_⟩
  rcases verifyQC_blockView k _ s w.qc ((reach_cur k C σ hr i s hs).cur.2 w id hm) with ⟨hg, hz⟩ | ⟨b, hb, hbv⟩
  · rw [hg, hca.1, hz]; rfl
  · rw [← ((hca.2 i s hs).1 _ b hb).1]; exact hbv

theorem sysAbs_wf (k : Keys) (C : SysCfg) (hk : KeysOK k) (σ : SysState) (hr : Reach k C σ)
    (hsch : C.scheme ≠ .bls12) (blk : Hash → Block) (hca : CA σ blk) :
    ∀ r w, (SysAbs C σ blk).honest r → (SysAbs C σ blk).voted r w →
      HsVerif.Safety.GC (SysAbs C σ blk) ((SysAbs C σ blk).par w) ∧
      (SysAbs C σ blk).view ((SysAbs C σ blk).par w) < (SysAbs C σ blk).view w := by
  intro r w _ ⟨s, id, hs, hm⟩
  obtain ⟨hp, hq⟩ := voted_qc k C hk σ hr blk hca hs hm
  obtain ⟨_, _, hlt, _⟩ := ((reach_inv k C σ hr).inv3 r s hs).2.2 w id hm
  obtain ⟨hcur, _, hsub⟩ := reach_cur k C σ hr r s hs
  rw [hp]
  exact ⟨accepted_qc_gc k C hk σ hr hsch blk hca r s w.qc hsub (fun h b hb => ((hca.2 r s hs).1 h b hb).2) (hcur.2 w id hm),
    Nat.lt_of_le_of_lt (Nat.le_of_eq hq) hlt⟩

end HsVerif.Props.C01SysWF
