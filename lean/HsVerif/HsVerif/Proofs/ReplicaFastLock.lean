import HsVerif.Proofs.ListFacts
import HsVerif.Proofs.ReplicaEvidence
/-!
Fast-HotStuff at replica level (C01): THE QC VIEWS OF THE BLOCKS A REPLICA VOTES FOR NEVER GO DOWN — the replica model
satisfies the hypothesis `LockJust` (Proofs/FastExact.lean) of `fast_safe_if_locked` (Props/C01FastExact.lean).
`QCOrd g` is stated on the ghost history itself so that appending a record is one `List.pairwise_append`.  The invariant
`QCInv` is one predicate on `VS s`, on top of C03's `InvV`.  A positive answer of `voterVerify` says `FastOK c b agg g`:
WITH an aggregate QC `votedQCView g ≤ b.qc.view` (the check against `Voter.lastVotedQCView`), WITHOUT one
`b.view = b.qc.view + 1` (the vote rule); with `InvV` (every earlier vote `x` has `x.qc.view < x.view ≤ lv`) both give
`QReady c b (g, lv)`.  No hypothesis on the configuration: for chained / simplified HotStuff `QCMono` is vacuous and `QCInv` is `Inv3`.
-/
namespace HsVerif.Model

def GRec.qcView : GRec → Option Nat
  | .vote b _ => some b.qc.view
  | _ => none

def qcViews (g : List GRec) : List Nat := g.filterMap GRec.qcView

def QCOrd (g : List GRec) : Prop :=
  g.Pairwise (fun r1 r2 => ∀ v1 v2, r1.qcView = some v1 → r2.qcView = some v2 → v1 ≤ v2)

theorem qcOrd_iff_views (g : List GRec) : QCOrd g ↔ (qcViews g).Pairwise (· ≤ ·) := by
  unfold QCOrd qcViews
  rw [List.pairwise_filterMap]
  constructor
  · intro h; exact h.imp (fun h v1 hv1 v2 hv2 => h v1 v2 hv1 hv2)
  · intro h; exact h.imp (fun h v1 v2 hv1 hv2 => h v1 hv1 v2 hv2)

theorem votedQCView_snoc (g : List GRec) (r : GRec) :
    votedQCView (g ++ [r]) = match r with | .vote b _ => max (votedQCView g) b.qc.view | _ => votedQCView g := by
  unfold votedQCView
  rw [List.foldl_append]
  cases r <;> rfl

theorem le_votedQCView (g : List GRec) : ∀ r ∈ g, ∀ v, r.qcView = some v → v ≤ votedQCView g := by
  refine snoc_induction (fun g => ∀ r ∈ g, ∀ v, r.qcView = some v → v ≤ votedQCView g) ?_ ?_ g
  · intro r hr; cases hr
  · intro g a ih r hr v hv
    rw [votedQCView_snoc]
    simp only [List.mem_append, List.mem_singleton] at hr
    rcases hr with hr | rfl
    · have := ih r hr v hv
      cases a <;> simp only <;> omega
    · cases r <;> simp [GRec.qcView] at hv
      subst hv; simp only; omega

theorem votedQCView_le (g : List GRec) (m : Nat) (h : ∀ r ∈ g, ∀ v, r.qcView = some v → v ≤ m) :
    votedQCView g ≤ m := by
  revert h
  refine snoc_induction (fun g => (∀ r ∈ g, ∀ v, r.qcView = some v → v ≤ m) → votedQCView g ≤ m) ?_ ?_ g
  · intro _; simp [votedQCView]
  · intro g a ih h
    rw [votedQCView_snoc]
    have h1 := ih (fun r hr v hv => h r (List.mem_append_left _ hr) v hv)
    cases a with
    | vote b id =>
      have := h (.vote b id) (by simp) b.qc.view rfl
      simp only; omega
    | tmo _ => exact h1
    | adv _ _ _ => exact h1

theorem qcOrd_nil : QCOrd [] := List.Pairwise.nil

theorem qcOrd_snoc (g : List GRec) (r : GRec) (h : QCOrd g)
    (hr : ∀ w, r.qcView = some w → ∀ x ∈ g, ∀ v, x.qcView = some v → v ≤ w) : QCOrd (g ++ [r]) := by
  unfold QCOrd
  rw [List.pairwise_append]
  refine ⟨h, by simp, ?_⟩
  intro a ha b hb v1 v2 h1 h2
  simp only [List.mem_singleton] at hb; subst hb
  exact hr v2 h2 a ha v1 h1

/-- the formulation with `votedQCView`, the model's `Voter.lastVotedQCView` -/
theorem qcOrd_iff_voted (g : List GRec) :
    QCOrd g ↔ ∀ pre w id post, g = pre ++ GRec.vote w id :: post → votedQCView pre ≤ w.qc.view := by
  constructor
  · intro h pre w id post he
    subst he
    unfold QCOrd at h
    rw [List.pairwise_append] at h
    apply votedQCView_le
    intro r hr v hv
    exact h.2.2 r hr (.vote w id) (by simp) v w.qc.view hv rfl
  · intro h
    revert h
    refine snoc_induction (fun g => (∀ pre w id post, g = pre ++ GRec.vote w id :: post → votedQCView pre ≤ w.qc.view) → QCOrd g) ?_ ?_ g
    · intro _; exact qcOrd_nil
    · intro g a ih h
      refine qcOrd_snoc g a (ih ?_) ?_
      · intro pre w id post he
        exact h pre w id (post ++ [a]) (by rw [he]; simp)
      · intro w hw x hx v hv
        cases a with
        | vote b id =>
          simp [GRec.qcView] at hw; subst hw
          have := h g b id [] rfl
          have := le_votedQCView g x hx v hv
          omega
        | tmo _ => simp [GRec.qcView] at hw
        | adv _ _ _ => simp [GRec.qcView] at hw

def QCMono (c : RCfg) (s : RState) : Prop := c.rules = .fast → QCOrd s.ghost

def QCInvV (k : Keys) (c : RCfg) (x : List GRec × Nat) : Prop := InvV k c x ∧ (c.rules = .fast → QCOrd x.1)

def QCInv (k : Keys) (c : RCfg) (s : RState) : Prop := QCInvV k c (VS s)

theorem qcInv_iff (k : Keys) (c : RCfg) (s : RState) : QCInv k c s ↔ Inv3 k c s ∧ QCMono c s := Iff.rfl

def QReady (c : RCfg) (b : Block) (x : List GRec × Nat) : Prop :=
  c.rules = .fast → ∀ r ∈ x.1, ∀ v, r.qcView = some v → v ≤ b.qc.view

theorem qready_of_fastOK (k : Keys) (c : RCfg) (b : Block) (agg : Option AggQC) (g : List GRec) (lv : Nat)
    (hi : InvV k c (g, lv)) (hlv : lv < b.view) (hf : FastOK c b agg g) : QReady c b (g, lv) := by
  intro hc r hr v hv
  obtain ⟨h1, h2⟩ := hf hc
  cases agg with
  | some a =>
    have := le_votedQCView g r hr v hv
    have := h1 rfl
    omega
  | none =>
    have hb := h2 rfl
    cases r with
    | vote x id =>
      simp [GRec.qcView] at hv; subst hv
      have hx := (hi.2.2 x id hr).2.2.1
      have := hi.1 (.vote x id) hr x.view rfl
      simp only at this
      omega
    | tmo _ => simp [GRec.qcView] at hv
    | adv _ _ _ => simp [GRec.qcView] at hv

theorem QCInvV_vote (k : Keys) (c : RCfg) (g : List GRec) (lv : Nat) (b : Block) (id : Nat)
    (h : QCInvV k c (g, lv)) (hv : lv < b.view) (hf : Facts k c b id) (hr : QReady c b (g, lv)) :
    QCInvV k c (g ++ [.vote b id], b.view) := by
  refine ⟨InvV_vote k c g lv b id h.1 hv hf, fun hc => qcOrd_snoc g _ (h.2 hc) ?_⟩
  intro w hw x hx v hxv
  simp [GRec.qcView] at hw; subst hw
  exact hr hc x hx v hxv

section QChain
variable (k : Keys) (c : RCfg)

/-- a timeout or view-entry record has no QC view -/
theorem Upd.qcInv {t : Tag} {s s' : RState} (h : Upd t s s') (ht : t ∉ [Tag.voted]) (hi : QCInv k c s) : QCInv k c s' := by
  cases h with
  | voted => exact absurd (by decide) ht
  | timedOut =>
    exact And.intro (InvV_tmo k c _ _ _ hi.1) fun hc => qcOrd_snoc _ _ (hi.2 hc) (by intro w hw; simp [GRec.qcView] at hw)
  | adv =>
    exact And.intro (InvV_adv k c _ _ _ _ _ hi.1) fun hc => qcOrd_snoc _ _ (hi.2 hc) (by intro w hw; simp [GRec.qcView] at hw)
  | _ => exact hi

theorem EUpd.qcInv {s0 : RState} {t : Tag} {s s' : RState} : EUpd k c s0 t s s' → QCInv k c s → QCInv k c s' :=
  EUpd.of_voted (Upd.qcInv k c) fun s b id e hi =>
    have ⟨agg, hf⟩ := e.fast
    QCInvV_vote k c _ _ b id hi e.newer e.facts
      (qready_of_fastOK k c b agg s.ghost s.lastVoted hi.1 e.newer hf)

end QChain

theorem step_q (k : Keys) (c : RCfg) (s : RState) (e : Ev) (h : QCInv k c s) : QCInv k c (step k c s e).1 :=
  step_ev k c s e (EUpd.qcInv k c) (fun _ h => h) h

theorem start_q (k : Keys) (c : RCfg) (s : RState) (h : QCInv k c s) : QCInv k c (start k c s).1 :=
  start_ev k c s (EUpd.qcInv k c) (fun _ h => h) h

theorem qcInv_init (k : Keys) (c : RCfg) : QCInv k c {} := ⟨InvV_init k c, fun _ => qcOrd_nil⟩

theorem qcOrd_idx (g : List GRec) (h : QCOrd g) (i j : Nat) (hij : i < j) (x w : Block) (idx id : Nat)
    (hx : g[i]? = some (GRec.vote x idx)) (hw : g[j]? = some (GRec.vote w id)) : x.qc.view ≤ w.qc.view := by
  have he := split_at_index g j _ hw
  have hm := mem_take_of_index g i j _ hij hx
  unfold QCOrd at h
  rw [he, List.pairwise_append] at h
  exact h.2.2 _ hm (GRec.vote w id) (by simp) x.qc.view w.qc.view rfl rfl

end HsVerif.Model
