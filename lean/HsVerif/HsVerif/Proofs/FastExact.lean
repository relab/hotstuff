import HsVerif.Proofs.FastSafety
import HsVerif.Proofs.FastCex
/-!
Fast-HotStuff with EXACT freshness of the aggregate QC (`A.view + 1 = w.view`, the paper's rule, instead of
the repaired code's `A.view + 1 ≥ w.view`), everything else as implemented (`FastSafety.Discipline`):
a voter SKIPS the reported QCs it cannot validate, different voters of one block may be shown different
aggregate QCs, and a voter does not compare the block's QC with its OWN high QC.

**Still not safe.**  `efull` is a seven replica schedule (f = 2, quorum 5) that satisfies the discipline, exact
freshness (`ExactFresh`, EF) and facts of the pacemaker that make a schedule realistic (`Discipline'`: a reported high QC
is of a view below the one that timed out; votes and timeouts of a view follow a quorum of timeouts of the preceding
view), and commits two conflicting blocks.  What is missing (`LockJust`, `key_locked`): a voter that also respects its
own high QC (the QC of every block it voted for before) -- NOT what the code does -- is safe, with or without EF; the
schedule violates it (and `StrictJust`, `UniformJust` of `Proofs/FastSafety.lean`).

Why EF does not help.  EF pins the view of the aggregate QC, so for each view all aggregate QCs draw from ONE pool
of honest reports.  But above a committed pair `b0 ← b1` the certified blocks may still FORK (not at consecutive
views): `P` (view 3) and `Q` (view 4), both children of `b1`, both certified, by different quorums -- `P` by
a b d, `Q` by a b c.  c never has `P`, d never has `Q`.  In view 5 the pool is  a:P b:Q c:Q d:P e:gen.  A
quorum misses two replicas, so c can be shown {a d e z1 z2} (it misses itself and b: every non-genesis report
in it is `P`, which c cannot validate) and d can be shown {b c e z1 z2} (only `Q`, which d cannot validate):
both see genesis as the highest VALID report and vote for `w` (view 6, parent genesis), although each of them
holds -- and reported -- a QC above `b0`.  With e and the two Byzantine replicas `w` is certified.

The schedule (replicas 0 = a, 1 = b, 2 = c, 3 = d, 4 = e honest, 5 = z1, 6 = z2 Byzantine; global event
times in brackets; the Byzantine replicas vote for every block and sign every timeout reporting the genesis QC):
Blocks    0 gen (view 0)   1 b0 (1, parent gen)   2 b1 (2, b0)   3 P (3, b1)   4 Q (4, b1)
          5 w (6, parent gen)   6 w1 (7, w)   7 w2 (8, w1)
  view 1  a b c vote b0 [1-3]; they time out reporting gen [4-6].
  view 2  a b c vote b1 (plain rule) [7-9]: their high QC becomes QC(b0).  c (b0), d, e (gen) time out [10-12].
  view 3  P (view 3, parent b1, QC(b1), plain rule) reaches a, b and d (d fetches b1): they vote [13-15];
          a and b COMMIT b0.  The votes for P are collected by a Byzantine replica (or are delayed): nobody
          honest learns QC(P) yet.  a (b1), b (b1), c (b0) time out [16-18]:
              A3 = a:b1 b:b1 c:b0 z1:gen z2:gen
  view 4  Q (view 4, parent b1, QC(b1)) with A3 (3 + 1 = 4): a, b, c have b1, the highest report: they vote
          [19-21].  P and Q are both certified.  a, b, c (all b1) time out [22-24].
  view 5  a and d are sent QC(P) (they have P), b and c are sent QC(Q) (they have Q).  c is never given P, d is
          never given Q (their fetches fail).  All five time out [25-29]: a:P b:Q c:Q d:P e:gen.
              A5c = a:P d:P e:gen z1:gen z2:gen        A5d = b:Q c:Q e:gen z1:gen z2:gen
  view 6  the Byzantine leader proposes w (view 6, parent gen, QC(gen)):
          to c with A5c (5 + 1 = 6): c lacks P, the reports of a and d are skipped, highest valid QC = gen: vote [30]
          to d with A5d: d lacks Q, the reports of b and c are skipped, highest valid QC = gen: vote [31]
          to e with A5c: e has nothing but gen: vote [32].   QC(w) exists: c d e z1 z2.
          c (Q), d (P), e (gen) time out [33-35].
  view 7  w1 (view 7, parent w, QC(w), plain rule): c d e vote [36-38]; QC(w1) exists.  They time out (w) [39-41].
  view 8  w2 (view 8, parent w1, QC(w1)) reaches c [42]: c COMMITS w.   b0 and w are not on one branch.

Replay notes (implementation; not part of the abstract instance): the adversary delays the messages between
honest replicas and makes block fetches fail (P at c, Q at d, everything at e); views are left on timeout
certificates only (aggregate timeout rule), every view 1..7 has a quorum of timeouts before the first event of the
next view (`efull_real`); a new-view message carrying an aggregate QC makes the receiver adopt its highest VALID
report as high QC, which is harmless here as long as the fetches keep failing (for c that is Q, for d it is P, which
they hold already); the leader of view 6 must be Byzantine (w is sent with two different aggregate
QCs: the aggregate QC is not covered by the block hash); P, w1, w2 are sent without aggregate QC (plain rule), which
an honest leader that entered the view on a timeout certificate does not do.
-/
namespace HsVerif.FastExact
open HsVerif.Safety HsVerif.FastSafety HsVerif.Model HsVerif.QuorumCount

section
variable (S : TSys)

/-- **Exact freshness**: every honest vote is justified by the plain rule or by an aggregate QC whose view is
EXACTLY the view before the block's (`aggQC.View() + 1 == block.View()`; the code has `≥`). -/
def ExactFresh : Prop := ∀ r w t, S.honest r → S.votedAt r w t →
  Plain S w ∨ ∃ T u rep, AggJ S r w t T u rep ∧ u + 1 = S.view w

/-- a timeout certificate for view `u` can exist at time `t` -/
def TCBefore (u t : Nat) : Prop :=
  ∃ Q, S.Quorum Q ∧ ∀ m, Q m → S.honest m → ∃ t' R, t' < t ∧ S.timedOutAt m u t' R

/-- `Discipline` plus pacemaker facts.  The three extra clauses are STRONGER than what the code guarantees (see
the field comments); they are here to show that the counterexample does not depend on their failure. -/
structure Discipline' : Prop where
  base : Discipline S
  /-- the high QC reported in the timeout of view `u` is of a view below `u`.  (Code: usual, not enforced -- under
  the aggregate timeout rule a plain QC does not end a view, and `advanceView` adopts the QC of any proposal.) -/
  report_below : ∀ m u t R, S.honest m → S.timedOutAt m u t R → S.view R < u
  /-- a vote in view `x + 1` follows a quorum of timeouts of view `x`.  (Code: a proposal is handled only when
  `proposalView ≤ localView`, and under the aggregate timeout rule a view is left only on a timeout certificate
  or aggregate QC of a view `≥` the current one: the code gives "of some view ≥ x".) -/
  vote_after_tc : ∀ r w t, S.honest r → S.votedAt r w t → S.view w ≤ 1 ∨ ∃ u, u + 1 = S.view w ∧ TCBefore S u t
  /-- the same for the timeout of view `x + 1` (`OnLocalTimeout` signs for the current view) -/
  tmo_after_tc : ∀ m u t R, S.honest m → S.timedOutAt m u t R → u ≤ 1 ∨ ∃ u', u' + 1 = u ∧ TCBefore S u' t

/-- EXTRA hypothesis 3 (not what the code does: `VoteRule` never looks at the replica's own high QC): a replica
does not vote for a block whose QC is lower than the QC of a block it voted for earlier -- i.e. the voter treats
its own high QC as one more report of the aggregate QC (and as a lock under the plain rule). -/
def LockJust : Prop := ∀ r x w tx t, S.honest r → S.votedAt r x tx → S.votedAt r w t → tx < t →
  S.view (S.par x) ≤ S.view (S.par w)

end

section
variable {S : TSys}

theorem ExactFresh.just (h : ExactFresh S) : ∀ r w t, S.honest r → S.votedAt r w t →
    Plain S w ∨ ∃ T u rep, AggJ S r w t T u rep := fun r w t hh hv =>
  (h r w t hh hv).imp_right fun ⟨T, u, rep, A, _⟩ => ⟨T, u, rep, A⟩

/-- An honest replica voted for both `b1` and `w`, for `b1` first. -/
theorem key_locked (D : Discipline S) (hl : LockJust S) {b0 b1 : S.Blk} (C : TwoChain S b0 b1)
    (w : S.Blk) (hw : Certified S w) (hge : S.view b0 + 2 ≤ S.view w) : S.view b0 ≤ S.view (S.par w) := by
  obtain ⟨r, hh, ⟨t1, ht1⟩, tw, htw⟩ := common_voter (S := S.toSys) D.inter C.cert hw
  have hlt : t1 < tw := D.vote_order r b1 w t1 tw hh ht1 htw (by have := C.v; omega)
  exact C.p ▸ hl r b1 w t1 tw hh ht1 htw hlt

end

/-! ### The table checker of `Proofs/FastCex.lean`, with the block tree as a table, EF and the realism clauses -/

abbrev R := Fin 7
abbrev B := Fin 8

abbrev byz : Nat → Bool := FastCex.byz

/-- an aggregate QC: `(signers, view, reports of the signers that do not report genesis)` -/
abbrev Agg := List R × Nat × List (R × B)

/-- A schedule as finite tables (events of honest replicas only; the Byzantine replicas 5 and 6 vote for every
block, sign every timeout reporting the genesis QC, and make the proposals no honest leader would). -/
structure Tbl where
  /-- view of block `i` -/
  viewL : List Nat
  /-- parent of block `i` -/
  parL : List B
  /-- honest votes `(replica, block, time)` -/
  votes : List (R × B × Nat)
  /-- honest timeouts `(replica, view, time, reported block)` -/
  tmos : List (R × Nat × Nat × B)
  /-- `(replica, block, time from which the replica has the block)`; everybody has genesis -/
  hasL : List (R × B × Nat)
  aggs : List Agg
  /-- which aggregate QC (index into `aggs`) accompanies the proposal of block `b` shown to `r` -/
  aggFor : R → B → Option Nat

def repOf (l : List (R × B)) (m : R) : B := (l.lookup m).getD 0

def OptSat (o : Option Agg) (P : Agg → Prop) : Prop := ∃ a, o = some a ∧ P a

instance (o : Option Agg) (P : Agg → Prop) [DecidablePred P] : Decidable (OptSat o P) :=
  match o with
  | none => isFalse (by rintro ⟨a, h, _⟩; cases h)
  | some a => if h : P a then isTrue ⟨a, rfl, h⟩ else isFalse (by rintro ⟨a', h', hp⟩; cases h'; exact h hp)

namespace Tbl
variable (T : Tbl)

def view (b : B) : Nat := T.viewL.getD b.val 0
def par (b : B) : B := T.parL.getD b.val 0

def hasB (r : R) (b : B) (t : Nat) : Bool :=
  b == 0 || T.hasL.any (fun e => e.1 == r && e.2.1 == b && decide (e.2.2 ≤ t))

def sys : TSys where
  Blk := B
  Rep := R
  gen := 0
  view := T.view
  par := T.par
  honest := fun r => byz r.val = false
  Quorum := fun Q => ∃ A : Nat → Bool, quorumSize 7 ≤ count A 7 ∧ ∀ r : Fin 7, A r.val = true → Q r
  votedAt := fun r b t => (r, b, t) ∈ T.votes
  timedOutAt := fun r u t Rb => (r, u, t, Rb) ∈ T.tmos
  hasAt := fun r b t => T.hasB r b t = true

def voterB (b : B) (t : Nat) (i : Nat) : Bool :=
  byz i || T.votes.any (fun e => e.1.val == i && e.2.1 == b && decide (e.2.2 < t))

def certB (b : B) (t : Nat) : Bool := decide (quorumSize 7 ≤ count (T.voterB b t) 7)

def gcB (b : B) (t : Nat) : Bool := b == 0 || T.certB b t

theorem certB_sound {b : B} {t : Nat} (h : T.certB b t = true) : CertBefore T.sys b t :=
  ⟨fun r => T.voterB b t r.val = true, ⟨_, of_decide_eq_true h, fun _ hr => hr⟩,
    fun _ hr hh => FastCex.honest_entry (κ := B) (τ := id) hr hh⟩

theorem gcB_sound {b : B} {t : Nat} (h : T.gcB b t = true) : GCBefore T.sys b t := by
  simp only [gcB, Bool.or_eq_true, beq_iff_eq] at h
  exact h.imp_right T.certB_sound

def signerB (u t : Nat) (i : Nat) : Bool :=
  byz i || T.tmos.any (fun e => e.1.val == i && e.2.1 == u && decide (e.2.2.1 < t))

def tcB (u t : Nat) : Bool := decide (quorumSize 7 ≤ count (T.signerB u t) 7)

theorem tcB_sound {u t : Nat} (h : T.tcB u t = true) : TCBefore T.sys u t :=
  ⟨fun r => T.signerB u t r.val = true, ⟨_, of_decide_eq_true h, fun _ hr => hr⟩, fun _ hr hh =>
    let ⟨(t', Rb), hlt, hmem⟩ := FastCex.honest_entry (ρ := Nat × B) (τ := Prod.fst) hr hh
    ⟨t', Rb, hlt, hmem⟩⟩

def AggOK (r : R) (w : B) (t : Nat) (a : Agg) : Prop :=
  quorumSize 7 ≤ count (fun i => a.1.any (fun m => m.val == i)) 7 ∧
  T.view w ≤ a.2.1 + 1 ∧
  (∀ m ∈ a.1, byz m.val = false → ∃ e ∈ T.tmos, e.1 = m ∧ e.2.1 = a.2.1 ∧ e.2.2.2 = repOf a.2.2 m ∧ e.2.2.1 < t) ∧
  (∀ m ∈ a.1, T.hasB r (repOf a.2.2 m) t = true → T.view (repOf a.2.2 m) ≤ T.view (T.par w)) ∧
  (∃ m ∈ a.1, repOf a.2.2 m = T.par w)

instance (r : R) (w : B) (t : Nat) (a : Agg) : Decidable (T.AggOK r w t a) := by
  unfold AggOK; exact inferInstance

theorem aggOK_sound {r : R} {w : B} {t : Nat} {a : Agg} (h : T.AggOK r w t a) :
    AggJ T.sys r w t (fun m => m ∈ a.1) a.2.1 (repOf a.2.2) where
  quorum := ⟨_, h.1, fun _ => FastCex.mem_of_any_val⟩
  fresh := h.2.1
  reports := fun m hmT hh => FastCex.tmo_entry (h.2.2.1 m hmT hh)
  high_max := fun m hmT hhas _ => h.2.2.2.1 m hmT hhas
  high_mem := h.2.2.2.2

def aggOf (r : R) (b : B) : Option Agg := (T.aggFor r b).bind (fun i => T.aggs[i]?)

/-- All clauses of `FastSafety.Discipline` and `ExactFresh`, as decidable statements about the tables.
`just` is the EF form: the aggregate QC shown to the voter is of the view right before the block's. -/
structure OK : Prop where
  gen_view : T.view 0 = 0
  par_gen : T.par 0 = 0
  one_per_view : ∀ e1 ∈ T.votes, ∀ e2 ∈ T.votes, e1.1 = e2.1 → T.view e1.2.1 = T.view e2.2.1 → e1.2.1 = e2.2.1
  vote_order : ∀ e1 ∈ T.votes, ∀ e2 ∈ T.votes, e1.1 = e2.1 → T.view e1.2.1 < T.view e2.2.1 → e1.2.2 < e2.2.2
  wf : ∀ e ∈ T.votes, T.gcB (T.par e.2.1) e.2.2 = true ∧ T.view (T.par e.2.1) < T.view e.2.1 ∧
    T.hasB e.1 e.2.1 e.2.2 = true ∧ T.hasB e.1 (T.par e.2.1) e.2.2 = true
  just : ∀ e ∈ T.votes, T.view e.2.1 = T.view (T.par e.2.1) + 1 ∨
    OptSat (T.aggOf e.1 e.2.1) (fun a => T.AggOK e.1 e.2.1 e.2.2 a ∧ a.2.1 + 1 = T.view e.2.1)
  tmo_once : ∀ e1 ∈ T.tmos, ∀ e2 ∈ T.tmos, e1.1 = e2.1 → e1.2.1 = e2.2.1 →
    e1.2.2.1 = e2.2.2.1 ∧ e1.2.2.2 = e2.2.2.2
  report : ∀ e ∈ T.tmos, T.gcB e.2.2.2 e.2.2.1 = true ∧ T.hasB e.1 e.2.2.2 e.2.2.1 = true ∧
    (∀ v ∈ T.votes, v.1 = e.1 → v.2.2 < e.2.2.1 → T.view (T.par v.2.1) ≤ T.view e.2.2.2 ∧ T.view v.2.1 ≤ e.2.1) ∧
    (∀ v ∈ T.votes, v.1 = e.1 → e.2.2.1 ≤ v.2.2 → e.2.1 < T.view v.2.1)
  report_mono : ∀ e1 ∈ T.tmos, ∀ e2 ∈ T.tmos, e1.1 = e2.1 → e1.2.2.1 ≤ e2.2.2.1 →
    e1.2.1 ≤ e2.2.1 ∧ T.view e1.2.2.2 ≤ T.view e2.2.2.2

structure RealOK : Prop where
  report_below : ∀ e ∈ T.tmos, T.view e.2.2.2 < e.2.1
  vote_after_tc : ∀ e ∈ T.votes, T.view e.2.1 ≤ 1 ∨ T.tcB (T.view e.2.1 - 1) e.2.2 = true
  tmo_after_tc : ∀ e ∈ T.tmos, e.2.1 ≤ 1 ∨ T.tcB (e.2.1 - 1) e.2.2.1 = true

theorem exact (h : T.OK) : ExactFresh T.sys := fun r w t _ hv =>
  (h.just (r, w, t) hv).imp_right fun ⟨_, _, ha, hef⟩ => ⟨_, _, _, T.aggOK_sound ha, hef⟩

theorem discipline (h : T.OK) : Discipline T.sys where
  gen_view := h.gen_view
  par_gen := h.par_gen
  inter := countQuorum_inter 7 byz (by decide)
  has_mono := fun _ _ _ _ => FastCex.any_le_mono
  one_per_view := fun r x y t1 t2 _ h1 h2 hv => h.one_per_view (r, x, t1) h1 (r, y, t2) h2 rfl hv
  vote_order := fun r x y t1 t2 _ h1 h2 hv => h.vote_order (r, x, t1) h1 (r, y, t2) h2 rfl hv
  wf := fun r w t _ hv => by
    obtain ⟨h1, h2⟩ := h.wf (r, w, t) hv
    exact ⟨T.gcB_sound h1, h2⟩
  just := (T.exact h).just
  tmo_once := fun m u t1 t2 R1 R2 _ h1 h2 => h.tmo_once (m, u, t1, R1) h1 (m, u, t2, R2) h2 rfl rfl
  report := fun m u t' Rb _ hm => by
    obtain ⟨h1, h2, h3, h4⟩ := h.report (m, u, t', Rb) hm
    exact ⟨T.gcB_sound h1, h2, fun x tx hx => h3 (m, x, tx) hx rfl, fun x tx hx => h4 (m, x, tx) hx rfl⟩
  report_mono := fun m u1 u2 t1 t2 R1 R2 _ h1 h2 =>
    h.report_mono (m, u1, t1, R1) h1 (m, u2, t2, R2) h2 rfl

theorem discipline' (h : T.OK) (hr : T.RealOK) : Discipline' T.sys where
  base := T.discipline h
  report_below := fun m u t Rb _ hm => hr.report_below (m, u, t, Rb) hm
  vote_after_tc := fun r w t _ hv => by
    by_cases hle : T.view w ≤ 1
    · exact Or.inl hle
    · exact Or.inr ⟨T.view w - 1, by show T.view w - 1 + 1 = T.view w; omega,
        T.tcB_sound ((hr.vote_after_tc (r, w, t) hv).resolve_left hle)⟩
  tmo_after_tc := fun m u t Rb _ hm => by
    by_cases hle : u ≤ 1
    · exact Or.inl hle
    · exact Or.inr ⟨u - 1, by omega, T.tcB_sound ((hr.tmo_after_tc (m, u, t, Rb) hm).resolve_left hle)⟩

end Tbl

/-- view 3: a:b1 b:b1 c:b0 z1 z2 -/
def A3 : Agg := ([0, 1, 2, 5, 6], 3, [(0, 2), (1, 2), (2, 1)])
/-- view 5, shown to c (and e): a:P d:P e:gen z1 z2 -/
def A5c : Agg := ([0, 3, 4, 5, 6], 5, [(0, 3), (3, 3)])
/-- view 5, shown to d: b:Q c:Q e:gen z1 z2 -/
def A5d : Agg := ([1, 2, 4, 5, 6], 5, [(1, 4), (2, 4)])

def efull : Tbl where
  --        gen b0 b1 P  Q  w  w1 w2
  viewL := [0,  1, 2, 3, 4, 6, 7, 8]
  parL  := [0,  0, 1, 2, 2, 0, 5, 6]
  votes :=
    [(0, 1, 1), (1, 1, 2), (2, 1, 3),
     (0, 2, 7), (1, 2, 8), (2, 2, 9),
     (0, 3, 13), (1, 3, 14), (3, 3, 15),
     (0, 4, 19), (1, 4, 20), (2, 4, 21),
     (2, 5, 30), (3, 5, 31), (4, 5, 32),
     (2, 6, 36), (3, 6, 37), (4, 6, 38),
     (2, 7, 42)]
  tmos :=
    [(0, 1, 4, 0), (1, 1, 5, 0), (2, 1, 6, 0),
     (2, 2, 10, 1), (3, 2, 11, 0), (4, 2, 12, 0),
     (0, 3, 16, 2), (1, 3, 17, 2), (2, 3, 18, 1),
     (0, 4, 22, 2), (1, 4, 23, 2), (2, 4, 24, 2),
     (0, 5, 25, 3), (1, 5, 26, 4), (2, 5, 27, 4), (3, 5, 28, 3), (4, 5, 29, 0),
     (2, 6, 33, 4), (3, 6, 34, 3), (4, 6, 35, 0),
     (2, 7, 39, 5), (3, 7, 40, 5), (4, 7, 41, 5)]
  hasL :=
    [(0, 1, 1), (0, 2, 7), (0, 3, 13), (0, 4, 19),
     (1, 1, 2), (1, 2, 8), (1, 3, 14), (1, 4, 20),
     (2, 1, 3), (2, 2, 9), (2, 4, 21), (2, 5, 30), (2, 6, 36), (2, 7, 42),
     (3, 2, 15), (3, 3, 15), (3, 5, 31), (3, 6, 37),
     (4, 5, 32), (4, 6, 38)]
  aggs := [A3, A5c, A5d]
  aggFor := fun r b =>
    if b = 4 then some 0
    else if b = 5 then (if r = 3 then some 2 else some 1)
    else none

def ecex : TSys := efull.sys

theorem efull_ok : efull.OK where
  gen_view := by decide
  par_gen := by decide
  one_per_view := by decide +kernel
  vote_order := by decide +kernel
  wf := by decide +kernel
  just := by decide +kernel
  tmo_once := by decide +kernel
  report := by decide +kernel
  report_mono := by decide +kernel

theorem efull_real : efull.RealOK where
  report_below := by decide +kernel
  vote_after_tc := by decide +kernel
  tmo_after_tc := by decide +kernel

/-- **The instance satisfies the whole discipline of Fast-HotStuff as implemented, and the pacemaker facts ...** -/
theorem ecex_discipline' : Discipline' ecex := efull.discipline' efull_ok efull_real

theorem ecex_discipline : Discipline ecex := ecex_discipline'.base

/-- **... and exact freshness.** -/
theorem ecex_exact : ExactFresh ecex := efull.exact efull_ok

/-! #### the two conflicting commits -/

theorem echain_b : TwoChain ecex (1 : B) (2 : B) where
  p := rfl
  v := rfl
  cert := (efull.certB_sound (b := 2) (t := 10) (by decide +kernel)).certified

theorem echain_w : TwoChain ecex (5 : B) (6 : B) where
  p := rfl
  v := rfl
  cert := (efull.certB_sound (b := 6) (t := 39) (by decide +kernel)).certified

/-- **Two committed blocks that are not on one branch**: the ancestors of `b0` are `b0` and genesis, those of `w`
are `w` and genesis. -/
theorem ecex_conflict : ¬ (TExt ecex (1 : B) (5 : B) ∨ TExt ecex (5 : B) (1 : B)) := by
  have hb : ∀ x : B, x = 1 ∨ x = 0 → efull.par x = 1 ∨ efull.par x = 0 := by decide
  have hw : ∀ x : B, x = 5 ∨ x = 0 → efull.par x = 5 ∨ efull.par x = 0 := by decide
  rintro (h | h)
  · exact absurd (h.closed hb (by decide)) (by decide)
  · exact absurd (h.closed hw (by decide)) (by decide)

/-- the instance violates the three extra hypotheses (it must, by the three safety theorems) -/
theorem ecex_not_strict : ¬ StrictJust ecex := fun hs =>
  ecex_conflict (one_branch_of_key ecex_discipline (key_strict ecex_discipline hs) echain_b echain_w)

theorem ecex_not_uniform : ¬ UniformJust ecex := fun hu =>
  ecex_conflict (one_branch_of_key ecex_discipline (key_uniform ecex_discipline hu) echain_b echain_w)

theorem ecex_not_locked : ¬ LockJust ecex := fun hl =>
  ecex_conflict (one_branch_of_key ecex_discipline (key_locked ecex_discipline hl) echain_b echain_w)

/-! ### Non-vacuity of the theorem under `LockJust`: the honest branch of the schedule of `Proofs/FastCex.lean` (`FastCex.good`) -/

def LockOK (T : FastCex.Tbl) : Prop := ∀ e1 ∈ T.votes, ∀ e2 ∈ T.votes, e1.1 = e2.1 → e1.2.2 < e2.2.2 →
  FastCex.view (FastCex.par e1.2.1) ≤ FastCex.view (FastCex.par e2.2.1)

theorem lock_of {T : FastCex.Tbl} (h : LockOK T) : LockJust T.sys :=
  fun r x w tx t _ h1 h2 hlt => h (r, x, tx) h1 (r, w, t) h2 rfl hlt

theorem good_locked : LockJust FastCex.good.sys := lock_of (by unfold LockOK; decide +kernel)

/-- `FastCex.good` also satisfies EF: its only aggregate QC (A3, view 3) justifies X (view 4) -/
theorem good_exact : ExactFresh FastCex.good.sys := fun r w t _ hv => by
  have hall : ∀ e ∈ FastCex.good.votes, ∀ a, FastCex.good.aggOf e.1 e.2.1 = some a → a.2.1 + 1 = FastCex.view e.2.1 := by
    decide +kernel
  exact (FastCex.good_ok.just (r, w, t) hv).imp_right fun ⟨a, ha, hok⟩ =>
    ⟨_, _, _, FastCex.Tbl.aggOK_sound _ hok, hall (r, w, t) hv a ha⟩

end HsVerif.FastExact
