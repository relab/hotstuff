import HsVerif.Model.Rules
import HsVerif.Spec.Rules
/-! Helper lemmas for C04: the ancestry walk of `Blockchain.Extends` against branch membership. -/
namespace HsVerif.Proofs.Rules
open HsVerif.Model.Rules HsVerif.Spec.Rules

/-- Names are given in creation order: a stored block's parent was created before the name it is
stored under (hashes cannot form cycles). -/
def Acyclic (s : Store) : Prop := ∀ h x, s h = some x → x.parent < h

def LinkGrows (s : Store) (x : Block) : Prop := ∀ p, s x.parent = some p → p.view < x.view

def ViewsGrow (s : Store) (b : Block) : Prop := LinkGrows s b ∧ ∀ h x, s h = some x → LinkGrows s x

/-- Hash names identify blocks among the proposal and the stored blocks: whoever carries `t`'s
name is `t` (SHA-256 modelled as injective, DESIGN.md §2). -/
def Names (s : Store) (b t : Block) : Prop :=
  ∀ x, (x = b ∨ ∃ h, s h = some x) → x.hash = t.hash → x = t

theorem acyclic_zero {s : Store} (h : Acyclic s) : s 0 = none := by
  cases hs : s 0 with
  | none => rfl
  | some x => exact absurd (h 0 x hs) (Nat.not_lt_zero _)

theorem extendsFuel_sound (s : Store) (t : Block) {n : Nat} {cur : Block}
    (h : extendsFuel s t n cur = true) : OnBranch s cur t.hash := by
  induction n generalizing cur with
  | zero => cases h
  | succ n ih =>
    unfold extendsFuel at h
    split at h
    · split at h
      · exact OnBranch.up ‹_› (ih h)
      · cases h
    · exact beq_iff_eq.mp h ▸ OnBranch.self cur

theorem extends_sound (s : Store) (b t : Block) (h : extends_ s b t = true) : Extends s b t :=
  extendsFuel_sound s t h

/-- With names in creation order, views growing along parent links and every bearer of `t`'s name
having `t`'s view, a branch that reaches `t`'s name never descends below `t`'s view before it gets
there, so the walk follows it to the end on any fuel above `cur.parent`. -/
theorem extendsFuel_complete {s : Store} {t : Block} (hac : Acyclic s)
    (hg : ∀ h x, s h = some x → LinkGrows s x)
    (hn : ∀ k x, s k = some x → x.hash = t.hash → x.view = t.view)
    {cur : Block} {h : Nat} (hb : OnBranch s cur h) (he : h = t.hash) (hl : LinkGrows s cur)
    (hc : cur.hash = t.hash → cur.view = t.view) :
    t.view ≤ cur.view ∧ ∀ n, cur.parent < n → extendsFuel s t n cur = true := by
  induction hb with
  | self b =>
    have hv := hc he
    refine ⟨Nat.le_of_eq hv.symm, fun n hlt => ?_⟩
    cases n with
    | zero => cases hlt
    | succ n => unfold extendsFuel; simp [he, hv]
  | @up b p h hp _ ih =>
    obtain ⟨hle, hw⟩ := ih he (hg _ p hp) (hn _ p hp)
    have hlt : t.view < b.view := Nat.lt_of_le_of_lt hle (hl p hp)
    refine ⟨Nat.le_of_lt hlt, fun n hn' => ?_⟩
    cases n with
    | zero => cases hn'
    | succ n =>
      unfold extendsFuel
      rw [if_pos hlt]
      simp only [bcGet, hp]
      exact hw n (Nat.lt_of_lt_of_le (hac _ p hp) (Nat.le_of_lt_succ hn'))

theorem extends_complete (s : Store) (b t : Block) (hac : Acyclic s) (hg : ViewsGrow s b)
    (hn : Names s b t) (h : Extends s b t) : extends_ s b t = true :=
  (extendsFuel_complete hac hg.2 (fun k x hx he => by rw [hn x (.inr ⟨k, hx⟩) he]) h rfl hg.1
    (fun he => by rw [hn b (.inl rfl) he])).2 _ (Nat.lt_succ_self _)

theorem extendsFuel_fuel_irrelevant (s : Store) (t : Block) (hac : Acyclic s) :
    ∀ (n m : Nat) (cur : Block), cur.parent < n → cur.parent < m →
      extendsFuel s t n cur = extendsFuel s t m cur := by
  intro n
  induction n with
  | zero => intro m cur h; cases h
  | succ n ih =>
    intro m cur hn hm
    cases m with
    | zero => cases hm
    | succ m =>
      unfold extendsFuel
      split
      · cases hp : bcGet s cur.parent with
        | none => rfl
        | some p =>
          have hlt : p.parent < cur.parent := hac _ p hp
          exact ih m p (Nat.lt_of_lt_of_le hlt (Nat.le_of_lt_succ hn))
            (Nat.lt_of_lt_of_le hlt (Nat.le_of_lt_succ hm))
      · rfl

theorem onBranch_iff {s : Store} {b : Block} {h : Nat} :
    OnBranch s b h ↔ h = b.hash ∨ ∃ p, s b.parent = some p ∧ OnBranch s p h := by
  constructor
  · intro ob
    cases ob with
    | self => exact .inl rfl
    | up hp hr => exact .inr ⟨_, hp, hr⟩
  · rintro (rfl | ⟨p, hp, hr⟩)
    · exact .self b
    · exact .up hp hr

theorem mem_branch_iff (s : Store) (hac : Acyclic s) (n : Nat) (b : Block) (h : Nat)
    (hb : b.parent ≤ n) : h ∈ branch s n b ↔ OnBranch s b h := by
  induction n generalizing b with
  | zero =>
    have hp : s b.parent = none := Nat.le_zero.mp hb ▸ acyclic_zero hac
    rw [onBranch_iff]
    simp [branch, hp]
  | succ n ih =>
    rw [onBranch_iff, branch]
    cases hp : s b.parent with
    | none => simp
    | some p => simp [ih p (Nat.le_of_lt_succ (Nat.lt_of_lt_of_le (hac _ p hp) hb))]

theorem extendsB_iff (s : Store) (hac : Acyclic s) (b t : Block) :
    extendsB s b t = true ↔ Extends s b t := by
  unfold extendsB Extends
  rw [List.contains_iff_mem]
  exact mem_branch_iff s hac _ b t.hash (Nat.le_refl _)

theorem qcRef_eq (s : Store) (hz : s 0 = none) (h : Nat) : qcRef s h = s h := by
  unfold qcRef bcGet
  split
  · rename_i h0; rw [h0, hz]
  · rfl

theorem store_zero (s : Store) (b : Block) (hz : s 0 = none) (hb : b.hash ≠ 0) :
    (s.store b) 0 = none := by
  unfold Store.store
  have : ¬ (0 = b.hash) := fun e => hb e.symm
  simp [this, hz]

def ofList (l : List Block) : Store := fun h => l.find? (fun x => x.hash == h)

theorem ofList_some {l : List Block} {h : Nat} {x : Block} (hs : ofList l h = some x) :
    x ∈ l ∧ x.hash = h := by
  unfold ofList at hs
  exact ⟨List.mem_of_find?_eq_some hs, by simpa using List.find?_some hs⟩

theorem acyclic_ofList (l : List Block) (hl : ∀ x ∈ l, x.parent < x.hash) : Acyclic (ofList l) := by
  intro h x hs
  obtain ⟨hm, he⟩ := ofList_some hs
  rw [← he]; exact hl x hm

theorem names_ofList (l : List Block) (b t : Block)
    (hl : ∀ x ∈ b :: l, x.hash = t.hash → x = t) : Names (ofList l) b t := by
  intro x hx he
  apply hl x _ he
  cases hx with
  | inl e => simp [e]
  | inr e => obtain ⟨h, hs⟩ := e; simp [(ofList_some hs).1]

theorem viewsGrow_ofList (l : List Block) (b : Block)
    (hl : ∀ x ∈ b :: l, ∀ p ∈ l, p.hash = x.parent → p.view < x.view) : ViewsGrow (ofList l) b := by
  constructor
  · intro p hp
    obtain ⟨hm, he⟩ := ofList_some hp
    exact hl b (by simp) p hm he
  · intro h x hs p hp
    obtain ⟨hm, he⟩ := ofList_some hp
    exact hl x (by simp [(ofList_some hs).1]) p hm he

end HsVerif.Proofs.Rules
