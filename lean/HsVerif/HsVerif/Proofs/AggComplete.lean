import HsVerif.Proofs.CertComplete
import HsVerif.Model.Replica
/-! Completeness of the aggregate QC assembled by `CreateAggregateQC`: helper lemmas for
`Props/C08Agg.lean` (the `qcs` map, the batch `VerifyAggregateQC` reconstructs, the sender id in the
timeout message key). -/
namespace HsVerif.Model
open Bitfield

theorem setKV_fresh {α} (k : Nat) (v : α) (acc : List (Nat × α)) (h : k ∉ acc.map (·.1)) :
    setKV k v acc = acc ++ [(k, v)] := by
  induction acc with
  | nil => rfl
  | cons p ps ih =>
    simp only [List.map_cons, List.mem_cons, not_or] at h
    have hne : (p.1 == k) = false := beq_eq_false_iff_ne.mpr fun e => h.1 e.symm
    simp only [setKV, hne, Bool.false_eq_true, ↓reduceIte, List.cons_append, ih h.2]

/-- the loop of `CreateAggregateQC` over timeouts of pairwise different senders: one entry per
sender that carries a QC, in the order of the list -/
theorem foldl_qcs (l : List TimeoutMsg) : ∀ (acc : List (Nat × QC)), (l.map (·.id)).Nodup →
    (∀ x ∈ l, x.id ∉ acc.map (·.1)) →
    l.foldl (fun acc x => match x.si.qc with | some q => setKV x.id q acc | none => acc) acc =
      acc ++ l.filterMap (fun x => x.si.qc.map (fun q => (x.id, q))) := by
  induction l with
  | nil => intro acc _ _; simp
  | cons x xs ih =>
    intro acc hn hd
    simp only [List.map_cons, List.nodup_cons, List.mem_map, not_exists, not_and] at hn
    rw [List.foldl_cons, List.filterMap_cons]
    cases hq : x.si.qc with
    | none => exact ih acc hn.2 (fun y hy => hd y (by simp [hy]))
    | some q =>
      simp only [Option.map_some]
      rw [setKV_fresh x.id q acc (hd x (by simp)), ih (acc ++ [(x.id, q)]) hn.2, List.append_assoc]
      · rfl
      · intro y hy
        simp only [List.map_append, List.map_cons, List.map_nil, List.mem_append, List.mem_singleton, not_or]
        exact ⟨hd y (by simp [hy]), fun e => hn.1 y hy e⟩

/-- when every message carries a QC, the messages `VerifyAggregateQC` reconstructs from the QC map
are the senders' own message bytes -/
theorem batch_of_qcs (tmoE : Nat → Nat → QC → Msg) (tmo : Nat → Nat → Option QC → Msg)
    (hE : ∀ i w q, tmoE i w q = tmo i w (some q)) (v : Nat) (l : List TimeoutMsg)
    (hqc : ∀ x ∈ l, x.si.qc.isSome = true) :
    (l.filterMap (fun x => x.si.qc.map (fun q => (x.id, q)))).map (fun p => (p.1, tmoE p.1 v p.2)) =
      l.map (fun t => (t.id, tmo t.id v t.si.qc)) := by
  rw [List.map_filterMap]
  refine (filterMap_congr_mem _ _ l fun x hx => ?_).trans (congrFun List.filterMap_eq_map' l)
  obtain ⟨q, hq⟩ := Option.isSome_iff_exists.mp (hqc x hx)
  simp [hq, hE]

theorem signedBy_single (s : Sig) (id : Nat) (hw : s.WF) (h : signedBy (some s) id = true) :
    s.len = 1 ∧ s.participants = [id] := by
  simp only [signedBy, Bool.and_eq_true, beq_iff_eq, List.contains_eq_mem, decide_eq_true_eq] at h
  obtain ⟨⟨_, hl⟩, hc⟩ := h
  have hpl : s.participants.length = 1 := by
    cases s with
    | multi k es => simpa [Sig.participants, Sig.len] using hl
    | bls a j bits => exact hw.symm.trans hl
  obtain ⟨x, hx⟩ := List.length_eq_one_iff.mp hpl
  rw [hx, List.mem_singleton] at hc
  exact ⟨hl, hc ▸ hx⟩

/-- `BatchVerify` rejects when a participant has no message in the batch (ECDSA/EdDSA: "message
not found"; BLS: participant count ≠ batch size) -/
theorem batchVerify_missing (T : Truth) (c : Cfg) (s : Sig) (batch : List (Nat × Msg)) (i : Nat)
    (hi : i ∈ s.participants) (hni : i ∉ batch.map (·.1)) (hlen : s.len ≠ batch.length) :
    batchVerify T c s batch = false := by
  refine Bool.eq_false_iff.mpr fun h => ?_
  cases s with
  | multi k es =>
    obtain ⟨e, he, rfl⟩ := List.mem_map.mp hi
    obtain ⟨m, hm, _⟩ := ((batchVerify_multi T c k es batch).mp h).2.2.2.2.1 e he
    obtain ⟨l₁, l₂, rfl, _⟩ := List.lookup_eq_some_iff.mp hm
    exact hni (by simp)
  | bls a j bits => exact hlen ((batchVerify_bls T c a j bits batch).mp h).2.1

/-! the sender id is part of the timeout message key -/

theorem append_sep_cancel {α} (c : α) : ∀ (a b x y : List α), c ∉ a → c ∉ b → a ++ c :: x = b ++ c :: y → a = b
  | [], [], _, _, _, _, _ => rfl
  | [], b0 :: bs, _, _, _, hb, h => by cases h; simp at hb
  | a0 :: as, [], _, _, ha, _, h => by cases h; simp at ha
  | a0 :: as, b0 :: bs, x, y, ha, hb, h => by
    obtain ⟨rfl, h'⟩ := List.cons.inj h
    rw [append_sep_cancel c as bs x y (fun hm => ha (.tail _ hm)) (fun hm => hb (.tail _ hm)) h']

theorem colon_not_in_digits (n : Nat) : ':' ∉ Nat.toDigits 10 n := fun h =>
  absurd (Nat.isDigit_of_mem_toDigits (by decide) (by decide) h) (by decide)

theorem toDigits_inj {m n : Nat} (h : Nat.toDigits 10 m = Nat.toDigits 10 n) : m = n := by
  simpa [Nat.ofDigitChars_ten_toDigits] using congrArg (fun l => Nat.ofDigitChars 10 l 0) h

theorem tmoShape_inj (rest rest' : String) (i j v : Nat) 
    (h : s!"tmo:{i}:{v}:" ++ rest = s!"tmo:{j}:{v}:" ++ rest') : i = j := by
  have h' := congrArg String.toList h
  simp only [String.toList_append, toString, Nat.toList_repr] at h'
  have hc : ":".toList = [':'] := rfl
  simp only [List.append_assoc, List.append_cancel_left_eq, hc, List.singleton_append] at h'
  exact toDigits_inj (append_sep_cancel ':' _ _ _ _ (colon_not_in_digits i) (colon_not_in_digits j) h')

theorem tmoMsgKey_inj (i j v : Nat) (q q' : Option QC) (h : tmoMsgKey i v q = tmoMsgKey j v q') : i = j :=
  tmoShape_inj _ _ i j v h

end HsVerif.Model
