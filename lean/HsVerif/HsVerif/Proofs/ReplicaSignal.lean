import HsVerif.Proofs.ReplicaView
/-!
Two clauses of C07, replica level — no system facts.

THE HIGH TC'S VIEW NEVER DECREASES: `highTC` is written in one place (`advanceView`), so no primitive update lowers it.

VIEW CHANGES ARE SIGNALLED, EACH EXACTLY ONCE, IN ORDER (one signal per ENTERED view: a view change enters the certified
view + 1, `EnterViewAfter`, so it may jump over views, which are neither entered nor signalled).
`vcPending s = vcOut s ++ vcQueued s` is what the synchronizer has decided to signal and the caller of `step` has not seen yet; `tick` moves the queue head to
`out` (FIFO), which keeps it.  The one-step invariant `SR s0 s` has the shape of `LR` of Proofs/ReplicaLog.lean.  Every
primitive update keeps it except the view assignment with its ghost record and the `addEvent (.viewChange newView _)`
right after it, which together extend the pending and the entered views by `newView = certified view + 1 > s.view`, and
`tick`'s pop / emit.  `vcWaiting = []` is a hypothesis because `tick` re-queues the deferred lists.
-/
open Std.Do
namespace HsVerif.Model
open HsVerif.Proofs

theorem Upd.highTC_le {t : Tag} {s s' : RState} (h : Upd t s s') : s.highTC.view ≤ s'.highTC.view := by
  cases h <;> try exact Nat.le_refl _
  show _ ≤ (if _ then _ else _ : TC).view
  split <;> omega

theorem Steps.highTC_le {L : List Tag} {s s' : RState} (h : Steps L s s') : s.highTC.view ≤ s'.highTC.view :=
  h.preserves (P := fun s' => s.highTC.view ≤ s'.highTC.view) (fun _ _ _ _ hu hp => Nat.le_trans hp hu.highTC_le)
    (Nat.le_refl _)

def Out.vcOf : Out → Option Nat
  | .viewChange v _ => some v
  | _ => none

def Ev.vcOf : Ev → Option Nat
  | .viewChange v _ => some v
  | _ => none

def vcOuts (outs : List Out) : List Nat := outs.filterMap Out.vcOf
def evVCs (es : List Ev) : List Nat := es.filterMap Ev.vcOf

def vcOut (s : RState) : List Nat := vcOuts s.out
def vcQueued (s : RState) : List Nat := evVCs s.queue
def vcWaiting (s : RState) : List Nat := evVCs (s.waitingVC ++ s.waitingProp)
def vcPending (s : RState) : List Nat := vcOut s ++ vcQueued s

@[simp] theorem vcOuts_nil : vcOuts [] = [] := rfl
@[simp] theorem vcOuts_append (a b : List Out) : vcOuts (a ++ b) = vcOuts a ++ vcOuts b := by
  simp [vcOuts, List.filterMap_append]
@[simp] theorem evVCs_nil : evVCs [] = [] := rfl
@[simp] theorem evVCs_append (a b : List Ev) : evVCs (a ++ b) = evVCs a ++ evVCs b := by
  simp [evVCs, List.filterMap_append]
@[simp] theorem vcOuts_cons (o : Out) (l : List Out) :
    vcOuts (o :: l) = (match o.vcOf with | some v => [v] | none => []) ++ vcOuts l := by
  simp only [vcOuts, List.filterMap_cons]; cases o.vcOf <;> rfl
@[simp] theorem evVCs_cons (e : Ev) (l : List Ev) :
    evVCs (e :: l) = (match e.vcOf with | some v => [v] | none => []) ++ evVCs l := by
  simp only [evVCs, List.filterMap_cons]; cases e.vcOf <;> rfl

/-- `Climb a l b`: the list `l` climbs strictly from `a` to `b` — every element is above its predecessor
(`a` for the first) and the last one is `b` (`a = b` when `l` is empty).  The views entered by a replica
that starts in view `a` and ends in view `b`: a view change enters the certified view + 1 (`EnterViewAfter`) and may
jump over intermediate views, so the list is not `a + 1, …, b` but some strictly increasing selection ending in `b`. -/
def Climb (a : Nat) : List Nat → Nat → Prop
  | [], b => a = b
  | x :: l, b => a < x ∧ Climb x l b

theorem Climb.refl (a : Nat) : Climb a [] a := rfl

theorem Climb.append {a b c : Nat} {l l' : List Nat} (h : Climb a l b) (h' : Climb b l' c) : Climb a (l ++ l') c := by
  induction l generalizing a with
  | nil => cases h; exact h'
  | cons x l ih => exact ⟨h.1, ih h.2⟩

theorem Climb.snoc {a b x : Nat} {l : List Nat} (h : Climb a l b) (hx : b < x) : Climb a (l ++ [x]) x :=
  h.append ⟨hx, rfl⟩

theorem Climb.le {a b : Nat} {l : List Nat} (h : Climb a l b) : a ≤ b := by
  induction l generalizing a with
  | nil => cases h; exact Nat.le_refl _
  | cons x l ih => exact Nat.le_trans (Nat.le_of_lt h.1) (ih h.2)

theorem Climb.mem {a b : Nat} {l : List Nat} (h : Climb a l b) : ∀ x ∈ l, a < x ∧ x ≤ b := by
  induction l generalizing a with
  | nil => intro x hx; cases hx
  | cons y l ih =>
    intro x hx
    rcases List.mem_cons.mp hx with rfl | hx
    · exact ⟨h.1, h.2.le⟩
    · exact ⟨Nat.lt_trans h.1 (ih h.2 x hx).1, (ih h.2 x hx).2⟩

theorem Climb.pairwise {a b : Nat} {l : List Nat} (h : Climb a l b) : l.Pairwise (· < ·) := by
  induction l generalizing a with
  | nil => exact List.Pairwise.nil
  | cons y l ih => exact List.Pairwise.cons (fun x hx => (h.2.mem x hx).1) (ih h.2)

theorem Climb.nil_iff {a b : Nat} {l : List Nat} (h : Climb a l b) : l = [] ↔ a = b := by
  cases l with
  | nil => exact ⟨fun _ => h, fun _ => rfl⟩
  | cons y l => exact ⟨fun e => (by cases e), fun e => (by have h1 := h.1; have h2 := h.2.le; omega)⟩

theorem Climb.getLast? {a b : Nat} {l : List Nat} (h : Climb a l b) : l.getLast?.getD a = b := by
  induction l generalizing a with
  | nil => exact h
  | cons y l ih =>
    have := ih h.2
    rw [List.getLast?_cons]
    cases hl : l.getLast? with
    | none => simpa [hl] using this
    | some z => simpa [hl] using this

theorem Climb.end_mem {a b : Nat} {l : List Nat} (h : Climb a l b) (hab : a < b) : b ∈ l := by
  induction l generalizing a with
  | nil => cases h; omega
  | cons y l ih =>
    by_cases hy : y = b
    · subst hy; exact List.mem_cons_self
    · exact List.mem_cons_of_mem _ (ih h.2 (Nat.lt_of_le_of_ne h.2.le hy))

theorem Climb.nil_def (a b : Nat) : Climb a [] b ↔ a = b := Iff.rfl
theorem Climb.cons_def (a x b : Nat) (l : List Nat) : Climb a (x :: l) b ↔ a < x ∧ Climb x l b := Iff.rfl

/- `Climb` is applied to the views of kernel-evaluated runs (Props/C07Signal.lean): the elaborator must not
try to unfold it there (it would evaluate the run with `whnf`); use `Climb.nil_def` / `Climb.cons_def`. -/
attribute [irreducible] Climb

/-- the views ENTERED so far, as the ghost history records them: certified view + 1 of every advancement -/
def entered (s : RState) : List Nat := (s.ghost.filter GRec.isAdv).map GRec.advTo

theorem entered_snoc (g : List GRec) (r : GRec) :
    ((g ++ [r]).filter GRec.isAdv).map GRec.advTo =
      (g.filter GRec.isAdv).map GRec.advTo ++ (match r with | .adv _ cv _ => [cv + 1] | _ => []) := by
  cases r <;> simp [List.filter_append, List.filter_cons, GRec.isAdv, GRec.advTo]

/-- relative to the state `s0` the step started in: no view-change event waits in the deferred lists, and
the pending view-change signals (outputs, then queue) have grown by exactly the views entered since (the
same list extends the entered views of the ghost history), which climb from the old view to the current one -/
structure SR (s0 s : RState) : Prop where
  wait : vcWaiting s = []
  pend : ∃ l, vcPending s = vcPending s0 ++ l ∧ entered s = entered s0 ++ l ∧ Climb s0.view l s.view

theorem SR.le {s0 s : RState} (h : SR s0 s) : s0.view ≤ s.view := by
  obtain ⟨l, _, _, h⟩ := h.pend; exact h.le

theorem SR.refl (s : RState) (hw : vcWaiting s = []) : SR s s := ⟨hw, [], by simp, by simp, Climb.refl _⟩

theorem sr_congr (s0 s s' : RState) (h : SR s0 s) (hv : s'.view = s.view)
    (hp : vcWaiting s = [] → vcPending s' = vcPending s) (hw : vcWaiting s = [] → vcWaiting s' = [])
    (he : entered s' = entered s) : SR s0 s' := by
  obtain ⟨l, h1, h2, h3⟩ := h.pend
  exact ⟨hw h.wait, l, by rw [hp h.wait]; exact h1, by rw [he]; exact h2, by rw [hv]; exact h3⟩

/-- what `SR` reads is left alone by every update but `tick`'s pop / echo and the view assignment of `advanceView` with
the view-change event it queues (`tick` re-queues the deferred lists: no view-change event waits there) -/
theorem Upd.sr_eq {t : Tag} {s s' : RState} (h : Upd t s s') (ht : t ∉ [Tag.outEvent, .enqVC, .pop, .adv])
    (hw : vcWaiting s = []) :
    vcPending s' = vcPending s ∧ vcWaiting s' = [] ∧ s'.view = s.view ∧ entered s' = entered s := by
  have hw' : evVCs s.waitingVC = [] ∧ evVCs s.waitingProp = [] := by simpa [vcWaiting] using hw
  cases h with
  | out s o => cases o <;> simp [Out.tag] at ht <;> exact ⟨by simp [vcPending, vcOut, vcQueued, Out.vcOf], hw, rfl, rfl⟩
  | enq s e => cases e <;> simp [Ev.tag] at ht <;> exact ⟨by simp [vcPending, vcOut, vcQueued, Ev.vcOf], hw, rfl, rfl⟩
  | requeueProp | requeueVC =>
    exact ⟨by simp [vcPending, vcOut, vcQueued, hw'.1, hw'.2], by simp [vcWaiting, hw'.1, hw'.2], rfl, rfl⟩
  | deferProp | deferVC => exact ⟨rfl, by simp [vcWaiting, Ev.vcOf, hw'.1, hw'.2], rfl, rfl⟩
  | voted | timedOut => exact ⟨rfl, hw, rfl, by simp only [entered, entered_snoc, List.append_nil]⟩
  | pop | adv => simp at ht
  | _ => exact ⟨rfl, hw, rfl, rfl⟩

section SRChain
variable (k : Keys) (c : RCfg) (s0 : RState)

theorem Upd.sr {t : Tag} {s s' : RState} (h : Upd t s s') (ht : t ∉ [Tag.outEvent, .enqVC, .pop, .adv])
    (hi : SR s0 s) : SR s0 s' := by
  obtain ⟨hp, hw, hv, he⟩ := h.sr_eq ht hi.wait
  exact sr_congr s0 s s' hi hv (fun _ => hp) (fun _ => hw) he

theorem StepsOf.sr {α} {L : List Tag} {f : M α} (h : StepsOf L f)
    (hL : ∀ t ∈ L, t ∉ [Tag.outEvent, .enqVC, .pop, .adv] := by decide) :
    ⦃fun s => ⌜SR s0 s⌝⦄ f ⦃⇓ _ s => ⌜SR s0 s⌝⦄ :=
  h.preserves (upd_of_notin (Upd.sr s0) L hL)

theorem sr_enter {s : RState} (w : Nat) (t : Bool) (hle : ¬ w < s.view) (h : SR s0 s) :
    SR s0 { s with view := w + 1, lastTimeout := none, ghost := s.ghost ++ [.adv s.view w t],
                   queue := s.queue ++ [.viewChange (w + 1) t] } := by
  obtain ⟨l, h1, h2, h3⟩ := h.pend
  refine ⟨h.wait, l ++ [w + 1], ?_, ?_, h3.snoc (by omega)⟩
  · rw [← List.append_assoc, ← h1]; simp [vcPending, vcOut, vcQueued, Ev.vcOf]
  · rw [← List.append_assoc, ← h2]; simp only [entered, entered_snoc]

/-- as `lr_pop`: a view-change event moves from the queue to the effects, which keeps `vcPending` -/
theorem sr_pop (s : RState) (e : Ev) (rest : List Ev) (o : Option Out) (hq : s.queue = e :: rest) (he : e.echo = o)
    (h : SR s0 s) : SR s0 { s with queue := rest, out := s.out ++ o.toList } := by
  refine sr_congr s0 s _ h rfl (fun _ => ?_) (fun hw => hw) rfl
  subst he
  cases e <;> simp [vcPending, vcOut, vcQueued, hq, Ev.echo, Ev.vcOf, Out.vcOf]

theorem advanceView_sr (si : SyncInfo) :
    ⦃fun s => ⌜SR s0 s⌝⦄ advanceView k c si ⦃⇓ _ s => ⌜SR s0 s⌝⦄ :=
  advanceView_enter_rule k c si (fun si => (createAndPropose_steps k c si).sr s0) (fun _ v t hv h => sr_enter s0 v t hv h)
    (upd_of_notin (Upd.sr s0) _)

theorem runLoop_sr (fuel : Nat) :
    ⦃fun s => ⌜SR s0 s⌝⦄ runLoop k c fuel ⦃⇓ _ s => ⌜SR s0 s⌝⦄ :=
  runLoop_of_advanceView k c (advanceView_sr k c s0) (sr_pop s0) (Upd.sr s0) fuel

end SRChain

/-- what a state satisfying the one-step invariant relative to `s0` looks like, spelled out: `p0` are the
view-change signals pending when the step began; `l` are the views entered in the step (as the ghost history
records them), climbing from the old view to the new one -/
def VCStep (s0 : RState) (p0 : List Nat) (s : RState) (outs : List Out) : Prop :=
  (∃ l, vcOuts outs ++ vcQueued s = p0 ++ l ∧ entered s = entered s0 ++ l ∧ Climb s0.view l s.view) ∧
    vcWaiting s = [] ∧ s0.view ≤ s.view

theorem step_signal (k : Keys) (c : RCfg) (s : RState) (e : Ev) (hw : vcWaiting s = []) :
    VCStep s (vcQueued s ++ evVCs [e]) (step k c s e).1 (step k c s e).2 := by
  obtain ⟨s1, hsr, he⟩ := step_rule k c (runLoop_sr k c _ 100000) s e (SR.refl _ hw)
  rw [he]
  refine ⟨?_, hsr.wait, hsr.le⟩
  have : vcPending ({ s with out := [], queue := s.queue ++ [e] } : RState) = vcQueued s ++ evVCs [e] := by
    simp [vcPending, vcOut, vcQueued]
  rw [← this]; exact hsr.pend

theorem start_signal (k : Keys) (c : RCfg) (s : RState) (hw : vcWaiting s = []) :
    VCStep s (vcQueued s) (start k c s).1 (start k c s).2 := by
  obtain ⟨s1, hsr, he⟩ :=
    start_rule k c (fun si => (createAndPropose_steps k c si).sr _) (runLoop_sr k c _ 100000) s (SR.refl _ hw)
  rw [he]
  refine ⟨?_, hsr.wait, hsr.le⟩
  have : vcPending ({ s with out := [] } : RState) = vcQueued s := by
    simp [vcPending, vcOut, vcQueued]
  rw [← this]; exact hsr.pend

/-- an event that is not a view-change event (`Ev.viewChange` is internal to the replica:
synchronizer → event loop → the components that registered for it) -/
def Ev.noVC : Ev → Bool
  | .viewChange _ _ => false
  | _ => true

theorem evVCs_noVC (e : Ev) (h : e.noVC = true) : evVCs [e] = [] := by
  cases e <;> first | rfl | (simp [Ev.noVC] at h)

/-- the run-level invariant of a replica state `s` together with the list `V` of the views signalled so
far (views of the `Out.viewChange` outputs of all steps so far): nothing deferred, and the signalled views
followed by the views of the queued view-change events are exactly the views ENTERED so far (`entered s`:
certified view + 1 of every advancement record of the ghost history, in order), which climb strictly from
view 1 to the current view -/
structure VCInv (V : List Nat) (s : RState) : Prop where
  wait : vcWaiting s = []
  pos : 1 ≤ s.view
  all : V ++ vcQueued s = entered s
  climb : Climb 1 (entered s) s.view

theorem VCInv.init : VCInv [] ({} : RState) := ⟨rfl, Nat.le_refl _, rfl, Climb.refl 1⟩

theorem VCInv.step {V : List Nat} {s s' : RState} {outs : List Out} (h : VCInv V s)
    (hs : VCStep s (vcQueued s) s' outs) : VCInv (V ++ vcOuts outs) s' := by
  obtain ⟨⟨l, h1, h1', h1''⟩, h2, h3⟩ := hs
  refine ⟨h2, Nat.le_trans h.pos h3, ?_, ?_⟩
  · rw [List.append_assoc, h1, ← List.append_assoc, h.all, h1']
  · rw [h1']; exact h.climb.append h1''

theorem VCInv.ext {V : List Nat} {s : RState} (t : List (Nat × Atom)) (nb : Nat) (h : VCInv V s) :
    VCInv V { s with truth := t, nextBytes := nb } := ⟨h.wait, h.pos, h.all, h.climb⟩

def stepV (k : Keys) (c : RCfg) (p : RState × List Nat) (e : Ev) : RState × List Nat :=
  ((step k c p.1 e).1, p.2 ++ vcOuts (step k c p.1 e).2)

def startV (k : Keys) (c : RCfg) (s : RState) : RState × List Nat := ((start k c s).1, vcOuts (start k c s).2)

def runV (k : Keys) (c : RCfg) (p : RState × List Nat) (es : List Ev) : RState × List Nat := es.foldl (stepV k c) p

theorem runV_fst (k : Keys) (c : RCfg) (p : RState × List Nat) (es : List Ev) :
    (runV k c p es).1 = es.foldl (fun s e => (step k c s e).1) p.1 := by
  induction es generalizing p with
  | nil => rfl
  | cons e es ih => exact ih _

theorem stepV_sig (k : Keys) (c : RCfg) (p : RState × List Nat) (e : Ev) (he : e.noVC = true) (h : VCInv p.2 p.1) :
    VCInv (stepV k c p e).2 (stepV k c p e).1 := by
  have := step_signal k c p.1 e h.wait
  rw [evVCs_noVC e he, List.append_nil] at this
  exact h.step this

theorem startV_sig (k : Keys) (c : RCfg) : VCInv (startV k c {}).2 (startV k c {}).1 := by
  have := VCInv.init.step (start_signal k c {} rfl)
  simpa [startV] using this

theorem runV_sig (k : Keys) (c : RCfg) (es : List Ev) (hes : ∀ e ∈ es, e.noVC = true) (p : RState × List Nat)
    (h : VCInv p.2 p.1) : VCInv (runV k c p es).2 (runV k c p es).1 := by
  induction es generalizing p with
  | nil => exact h
  | cons e es ih =>
    exact ih (fun x hx => hes x (List.mem_cons_of_mem _ hx)) _ (stepV_sig k c p e (hes e (List.mem_cons_self ..)) h)

end HsVerif.Model
