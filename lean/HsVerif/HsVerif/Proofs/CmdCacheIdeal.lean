import HsVerif.Proofs.CmdCache
import HsVerif.Spec.BatchQueue
/-! The cache model refines the ideal batching queue (one caller at a time). -/
namespace HsVerif.Model.CmdCache
open HsVerif.Spec.BatchQueue

theorem isFresh_queue (i : Ideal) (q : List Cmd) : ({ i with queue := q } : Ideal).isFresh = i.isFresh := rfl

/-- `Proposed` computes the ideal queue's `topAfter`: both keep the maximum per client. -/
theorem get_foldl_mark (b : List Cmd) (x : Nat) : ∀ m : Marks, (b.foldl mark m).get x = topAfter b x (m.get x) := by
  induction b with
  | nil => exact fun _ => rfl
  | cons p ps ih => intro m; rw [List.foldl_cons, ih, get_mark]; simp only [topAfter, List.foldl_cons, eq_comm]

structure Ref (bs : Nat) (s : Cache) (i : Ideal) : Prop where
  hbs : s.bs = bs
  htop : ∀ x, s.marks.get x = i.top x
  howed : freshOf s.marks s.cache = i.owed
  hready : ReadyInv s

theorem fresh_eq_isFresh {m : Marks} {i : Ideal} (h : ∀ x, m.get x = i.top x) : fresh m = i.isFresh :=
  funext fun c => by rw [Bool.eq_iff_iff, fresh_iff, h]; simp [Ideal.isFresh]

theorem Ref.init (bs : Nat) (h1 : 1 ≤ bs) : Ref bs (Cache.new bs) {} :=
  ⟨rfl, fun _ => rfl, rfl, ReadyInv.init bs h1⟩

variable {bs : Nat} {s : Cache} {i : Ideal} (r : Ref bs s i)
include r

theorem Ref.add (c : Cmd) : Ref bs (add s c) { i with queue := i.queue ++ [c] } := by
  refine ⟨(add_bs s c).trans r.hbs, (add_marks s c).symm ▸ r.htop, ?_, r.hready.add c⟩
  rw [freshOf_add, freshOf_append, r.howed, freshOf, fresh_eq_isFresh r.htop]
  exact (List.filter_append ..).symm

theorem Ref.proposed (b : List Cmd) : Ref bs (proposed s b) (i.mark b) := by
  have htop : ∀ x, (CmdCache.proposed s b).marks.get x = (i.mark b).top x := fun x => by
    rw [CmdCache.proposed, get_foldl_mark, r.htop]; rfl
  refine ⟨r.hbs, htop, ?_, r.hready.proposed b⟩
  -- the new predicate is the old one and `freshHm b`, on the cache and on the queue alike
  have key : ∀ l : List Cmd, l.filter (i.mark b).isFresh = (l.filter i.isFresh).filter (freshHm b) := fun l => by
    rw [List.filter_filter, ← fresh_eq_isFresh htop, ← fresh_eq_isFresh r.htop]
    exact List.filter_congr fun c _ => by rw [CmdCache.proposed, fresh_foldl_mark, Bool.and_comm]
  have := r.howed
  rw [freshOf, fresh_eq_isFresh r.htop] at this
  show s.cache.filter (fresh (CmdCache.proposed s b).marks) = i.queue.filter (i.mark b).isFresh
  rw [fresh_eq_isFresh htop, key, key, this]; rfl

theorem Ref.batch (r0 : Bool) (hle : bs ≤ i.owed.length) :
    Ref bs (getLocked { s with ready := r0 }).2 { i with queue := i.owed.drop bs } := by
  have hf : (⟨s.bs, s.cache, s.marks, r0⟩ : Cache).bs ≤ freshCount ⟨s.bs, s.cache, s.marks, r0⟩ := by
    rw [freshCount, r.howed, r.hbs]; exact hle
  refine ⟨(getLocked_bs _).trans r.hbs, (getLocked_marks _).symm ▸ r.htop, ?_, getLocked_readyInv _⟩
  rw [freshOf_getLocked hf, r.howed, r.hbs]
  exact (List.filter_eq_self.mpr fun a ha => (List.mem_filter.mp ((List.drop_sublist ..).subset ha)).2).symm

theorem Ref.idle (r0 : Bool) (h : ¬ bs ≤ i.owed.length ∨ r0 = s.ready) : Ref bs { s with ready := r0 } i :=
  ⟨r.hbs, r.htop, r.howed, fun hle => by
    rcases h with h | h
    · exact absurd (r.howed ▸ r.hbs ▸ hle) h
    · subst h; exact r.hready hle⟩

theorem Ref.seqStep (op : Op) :
    (seqStep s op).2 = (step bs i op).2 ∧ Ref bs (seqStep s op).1 (step bs i op).1 := by
  have hfull : s.bs ≤ freshCount s ↔ bs ≤ i.owed.length := by rw [freshCount, r.howed, r.hbs]
  have hret : Ret.batch ((freshOf s.marks s.cache).take s.bs) = .batch (i.owed.take bs) := by rw [r.howed, r.hbs]
  have hrdy : bs ≤ i.owed.length → s.ready = true := fun h => r.hready (hfull.mpr h)
  cases op with
  | add c => exact ⟨rfl, r.add c⟩
  | proposed b => exact ⟨rfl, r.proposed b⟩
  | get =>
    rw [seqStep_get]; simp only [step, Ideal.take, hfull, hret]
    by_cases hle : bs ≤ i.owed.length
    · simp only [hle, hrdy hle, and_self, ↓reduceIte]; exact ⟨trivial, r.batch false hle⟩
    · simp only [hle, and_false, ↓reduceIte]; exact ⟨trivial, r.idle false (.inl hle)⟩
  | getc t =>
    rw [seqStep_getc]
    cases t
    · simp only [step, Bool.and_false, Bool.false_eq_true, false_and, ↓reduceIte]
      exact ⟨trivial, r.idle _ (.inr (by simp))⟩
    · simp only [step, Ideal.take, hfull, hret]
      by_cases hle : bs ≤ i.owed.length
      · simp only [hle, hrdy hle, and_self, Bool.and_self, ↓reduceIte]; exact ⟨trivial, r.batch false hle⟩
      · simp only [hle, and_false, ↓reduceIte]; exact ⟨trivial, r.idle _ (.inl hle)⟩
  | body =>
    rw [seqStep_body]; simp only [step, Ideal.take, hfull, hret]
    by_cases hle : bs ≤ i.owed.length
    · simp only [hle, ↓reduceIte]; exact ⟨trivial, r.batch s.ready hle⟩
    · simp only [hle, ↓reduceIte]; exact ⟨trivial, r.idle s.ready (.inl hle)⟩

omit r in
theorem run_refines (bs : Nat) : ∀ (ops : List Op) (s : Cache) (h : Hist) (i : Ideal), Ref bs s i →
    (run s h ops).2.2 = runIdeal bs i ops
  | [], _, _, _, _ => rfl
  | op :: ops, s, h, i, r => by
    obtain ⟨h1, h2⟩ := r.seqStep op
    simp only [run, runIdeal]
    rw [h1, run_refines bs ops _ _ _ h2]

end HsVerif.Model.CmdCache
