import HsVerif.Model.CmdCache
/-! Helper lemmas for C15 (command cache). -/
namespace HsVerif.Model.CmdCache

def freshOf (m : Marks) (l : List Cmd) : List Cmd := l.filter (fresh m)

def freshCount (s : Cache) : Nat := (freshOf s.marks s.cache).length

theorem freshOf_length_le (m : Marks) (l : List Cmd) : (freshOf m l).length ≤ l.length :=
  List.length_filter_le _ _

theorem freshOf_cons (m : Marks) (c : Cmd) (l : List Cmd) :
    freshOf m (c :: l) = if fresh m c = true then c :: freshOf m l else freshOf m l :=
  List.filter_cons

theorem freshOf_append (m : Marks) (a b : List Cmd) : freshOf m (a ++ b) = freshOf m a ++ freshOf m b :=
  List.filter_append ..

theorem get_nil (x : Nat) : Marks.get [] x = 0 := rfl

theorem fresh_iff (m : Marks) (c : Cmd) : fresh m c = true ↔ m.get c.client < c.seq := by
  simp [fresh, isDup]

theorem isDup_eq (m : Marks) (c : Cmd) : isDup m c = !fresh m c := by simp [fresh]

theorem get_cons (k v : Nat) (m : Marks) (x : Nat) :
    Marks.get ((k, v) :: m) x = if x = k then v else m.get x := by
  unfold Marks.get
  rw [List.lookup_cons]
  by_cases h : x = k
  · rw [if_pos h, beq_iff_eq.mpr h]; rfl
  · rw [if_neg h, beq_eq_false_iff_ne.mpr h]

/-- `Proposed` keeps the highest sequence number per client. -/
theorem get_mark (m : Marks) (p : Cmd) (x : Nat) :
    (mark m p).get x = if x = p.client then max (m.get x) p.seq else m.get x := by
  unfold mark isDup
  by_cases hd : p.seq ≤ m.get p.client
  · rw [decide_eq_true hd, if_pos rfl]
    split
    · subst x; exact (Nat.max_eq_left hd).symm
    · rfl
  · rw [decide_eq_false hd, if_neg Bool.false_ne_true, get_cons]
    split
    · subst x; exact (Nat.max_eq_right (Nat.le_of_not_le hd)).symm
    · rfl

/-- `c` is above every sequence number that was passed to `Proposed` for its client — and above
0, the value Go's map yields for a client nothing was marked for (sequence numbers start at 1;
a command numbered 0 is never accepted). -/
def freshH (marked : List Cmd) (c : Cmd) : Bool :=
  decide (0 < c.seq) && marked.all fun p => p.client != c.client || decide (p.seq < c.seq)

def freshHm (marked : List Cmd) (c : Cmd) : Bool :=
  marked.all fun p => p.client != c.client || decide (p.seq < c.seq)

theorem freshH_eq (marked : List Cmd) (c : Cmd) : freshH marked c = (decide (0 < c.seq) && freshHm marked c) := rfl

theorem fresh_mark (m : Marks) (p c : Cmd) :
    fresh (mark m p) c = (fresh m c && (p.client != c.client || decide (p.seq < c.seq))) := by
  rw [Bool.eq_iff_iff]
  simp only [Bool.and_eq_true, Bool.or_eq_true, bne_iff_ne, decide_eq_true_eq, fresh_iff, get_mark]
  by_cases hc : c.client = p.client
  · rw [if_pos hc, Nat.max_lt]
    exact ⟨fun ⟨a, b⟩ => ⟨a, .inr b⟩, fun ⟨a, b⟩ => ⟨a, b.resolve_left fun h => h hc.symm⟩⟩
  · rw [if_neg hc]
    exact ⟨fun a => ⟨a, .inl (Ne.symm hc)⟩, And.left⟩

theorem fresh_foldl_mark (b : List Cmd) : ∀ (m : Marks) (c : Cmd),
    fresh (b.foldl mark m) c = (fresh m c && freshHm b c) := by
  induction b with
  | nil => intro m c; simp [freshHm]
  | cons p ps ih =>
    intro m c
    rw [List.foldl_cons, ih, fresh_mark, Bool.and_assoc]; rfl

theorem freshH_append (a b : List Cmd) (c : Cmd) : freshH (a ++ b) c = (freshH a c && freshHm b c) := by
  simp only [freshH, freshHm, List.all_append, Bool.and_assoc]

theorem freshOf_proposed (m : Marks) (b l : List Cmd) :
    freshOf (b.foldl mark m) l = (freshOf m l).filter (freshHm b) := by
  unfold freshOf
  rw [List.filter_filter]
  exact List.filter_congr fun x _ => by rw [fresh_foldl_mark, Bool.and_comm]

theorem extractLoop_spec (bs : Nat) (m : Marks) : ∀ (rest batch : List Cmd), batch.length ≤ bs →
    ∃ ex, rest = ex ++ (extractLoop bs m rest batch).2 ∧
      (extractLoop bs m rest batch).1 = batch ++ freshOf m ex ∧
      freshOf m ex = (freshOf m rest).take (bs - batch.length) := by
  intro rest
  induction rest with
  | nil => exact fun batch _ => ⟨[], rfl, (List.append_nil _).symm, List.take_nil.symm⟩
  | cons c cs ih =>
    intro batch hb
    rw [extractLoop]
    by_cases h1 : batch.length = bs
    · rw [if_pos h1]; exact ⟨[], rfl, (List.append_nil _).symm, by rw [h1, Nat.sub_self]; rfl⟩
    · rw [if_neg h1, isDup_eq]
      cases hf : fresh m c <;> simp only [Bool.not_false, Bool.not_true, Bool.false_eq_true, ↓reduceIte]
      · have hc : ∀ l, freshOf m (c :: l) = freshOf m l := fun l => by rw [freshOf_cons, hf]; rfl
        obtain ⟨ex, h1, h2, h3⟩ := ih batch hb
        exact ⟨c :: ex, congrArg (c :: ·) h1, by rw [hc, h2], by rw [hc, hc, h3]⟩
      · have hc : ∀ l, freshOf m (c :: l) = c :: freshOf m l := fun l => by rw [freshOf_cons, hf]; rfl
        have hlt : batch.length < bs := Nat.lt_of_le_of_ne hb h1
        obtain ⟨ex, h1, h2, h3⟩ := ih (batch ++ [c]) (by rw [List.length_append]; exact hlt)
        refine ⟨c :: ex, congrArg (c :: ·) h1, by rw [hc, h2, List.append_assoc]; rfl, ?_⟩
        rw [hc, hc, h3, List.length_append, List.length_singleton, ← Nat.sub_sub,
          ← List.take_succ_cons, Nat.sub_add_cancel (Nat.sub_pos_of_lt hlt)]

theorem signal_eq (s : Cache) :
    (if hasFullBatch s then signalReady s else s) =
      { s with ready := s.ready || decide (s.bs ≤ s.cache.length) } := by
  unfold hasFullBatch signalReady
  split <;> rename_i h <;> simp [h]

theorem add_eq (s : Cache) (c : Cmd) :
    add s c = if fresh s.marks c then
      { s with cache := s.cache ++ [c], ready := s.ready || decide (s.bs ≤ s.cache.length + 1) } else s := by
  unfold add
  rw [signal_eq, isDup_eq]
  cases fresh s.marks c <;> simp

abbrev afterBatch (s : Cache) : List Cmd := (extractLoop s.bs s.marks s.cache []).2

theorem getLocked_eq (s : Cache) :
    getLocked s = if s.bs ≤ freshCount s then
      (.batch ((freshOf s.marks s.cache).take s.bs),
        { s with cache := afterBatch s, ready := s.ready || decide (s.bs ≤ (afterBatch s).length) })
      else (.again, s) := by
  obtain ⟨ex, _, h1, h2⟩ := extractLoop_spec s.bs s.marks s.cache [] (Nat.zero_le _)
  have hl : (extractLoop s.bs s.marks s.cache []).1.length = min s.bs (freshCount s) := by
    rw [h1, h2, List.nil_append, List.length_take]; rfl
  unfold getLocked tryExtractBatch
  by_cases hle : s.bs ≤ freshCount s
  · have hfull : hasFullBatch s = true := decide_eq_true (Nat.le_trans hle (freshOf_length_le ..))
    rw [if_pos hle, hfull, if_neg nofun, if_pos (hl.trans (Nat.min_eq_left hle)), h1, h2]
    exact congrArg _ (signal_eq _)
  · rw [if_neg hle, if_neg fun h => hle (Nat.le_trans (Nat.le_of_eq (hl.symm.trans h).symm) (Nat.min_le_right ..))]
    split <;> rfl

theorem afterBatch_spec (s : Cache) : ∃ ex, s.cache = ex ++ afterBatch s ∧
    freshOf s.marks ex = (freshOf s.marks s.cache).take s.bs ∧
    freshOf s.marks (afterBatch s) = (freshOf s.marks s.cache).drop s.bs := by
  obtain ⟨ex, h1, _, h2⟩ := extractLoop_spec s.bs s.marks s.cache [] (Nat.zero_le _)
  refine ⟨ex, h1, h2, ?_⟩
  have h3 : freshOf s.marks s.cache = freshOf s.marks ex ++ freshOf s.marks (afterBatch s) := by
    rw [← freshOf_append, ← h1]
  rw [h2] at h3
  exact (List.append_cancel_left ((List.take_append_drop _ _).trans h3)).symm

theorem freshOf_add (s : Cache) (c : Cmd) :
    freshOf (add s c).marks (add s c).cache = freshOf s.marks (s.cache ++ [c]) := by
  rw [add_eq]; cases hf : fresh s.marks c <;> simp [freshOf, hf]

theorem add_cache_sublist (s : Cache) (c : Cmd) : (add s c).cache.Sublist (s.cache ++ [c]) := by
  rw [add_eq]; split
  · exact .refl _
  · exact List.sublist_append_left ..

theorem proposed_bs (s : Cache) (b : List Cmd) : (proposed s b).bs = s.bs := rfl

theorem add_bs (s : Cache) (c : Cmd) : (add s c).bs = s.bs := by
  rw [add_eq]; split <;> rfl

theorem add_marks (s : Cache) (c : Cmd) : (add s c).marks = s.marks := by
  rw [add_eq]; split <;> rfl

theorem getLocked_bs (s : Cache) : (getLocked s).2.bs = s.bs := by
  rw [getLocked_eq]; split <;> rfl

theorem getLocked_marks (s : Cache) : (getLocked s).2.marks = s.marks := by
  rw [getLocked_eq]; split <;> rfl

theorem freshOf_getLocked {s : Cache} (h : s.bs ≤ freshCount s) :
    freshOf (getLocked s).2.marks (getLocked s).2.cache = (freshOf s.marks s.cache).drop s.bs := by
  obtain ⟨_, _, _, hd⟩ := afterBatch_spec s
  rw [getLocked_eq, if_pos h]; exact hd

/-! ### the wake-up invariant for one caller at a time -/

def ReadyInv (s : Cache) : Prop := s.bs ≤ (freshOf s.marks s.cache).length → s.ready = true

theorem ReadyInv.init (bs : Nat) (h1 : 1 ≤ bs) : ReadyInv (Cache.new bs) :=
  fun h => absurd h (by simp [Cache.new, freshOf]; omega)

theorem add_wake (s : Cache) (c : Cmd) : add s c = s ∨ ReadyInv (add s c) := by
  rw [add_eq]
  split
  · refine .inr fun hle => ?_
    rw [Bool.or_eq_true, decide_eq_true_eq]
    exact .inr (Nat.le_trans hle (Nat.le_trans (freshOf_length_le ..) (Nat.le_of_eq List.length_append)))
  · exact .inl rfl

theorem ReadyInv.add {s : Cache} (r : ReadyInv s) (c : Cmd) : ReadyInv (add s c) := by
  rcases add_wake s c with h | h
  · rwa [h]
  · exact h

theorem proposed_freshCount_le (s : Cache) (b : List Cmd) : freshCount (proposed s b) ≤ freshCount s := by
  simp only [freshCount, proposed, freshOf_proposed]
  exact List.length_filter_le _ _

theorem ReadyInv.proposed {s : Cache} (r : ReadyInv s) (b : List Cmd) : ReadyInv (proposed s b) :=
  fun hle => r (Nat.le_trans hle (proposed_freshCount_le s b))

theorem getLocked_readyInv (s : Cache) : ReadyInv (getLocked s).2 := by
  rw [getLocked_eq]
  split
  · intro hle
    rw [Bool.or_eq_true, decide_eq_true_eq]
    exact .inr (Nat.le_trans hle (freshOf_length_le ..))
  · exact fun hle => absurd hle ‹_›

/-- accepted-and-still-owed commands, computed from the observable history alone: everything
passed to `Add`, minus what is at or below a sequence number passed to `Proposed` for the same
client, minus what was already handed out — in arrival order. -/
def pending (h : Hist) : List Cmd :=
  h.added.filter fun c => freshH h.marked c && !h.handed.contains c

/-- the marks are exactly what the `Proposed` calls so far dictate (no hypothesis on identities) -/
def MarksInv (s : Cache) (h : Hist) : Prop := ∀ c, fresh s.marks c = freshH h.marked c

theorem MarksInv.init (bs : Nat) : MarksInv (Cache.new bs) {} := fun c => by
  rw [Bool.eq_iff_iff]; simp [Cache.new, fresh_iff, freshH, get_nil]

theorem MarksInv.proposed {s : Cache} {h : Hist} (i : MarksInv s h) (b : List Cmd) :
    MarksInv (proposed s b) { h with marked := h.marked ++ b } := fun c => by
  rw [CmdCache.proposed, fresh_foldl_mark, freshH_append, i c]

/-- The history invariant: the fresh commands in the cache are exactly what the history says is
pending (`hmarks` is `MarksInv s h`).  It does not mention the `ready` token; that is `ReadyInv`. -/
structure InvS (bs : Nat) (s : Cache) (h : Hist) : Prop where
  hbs : s.bs = bs
  hmarks : ∀ c, fresh s.marks c = freshH h.marked c
  hpend : freshOf s.marks s.cache = pending h
  hsplit : ∃ A1 A2, h.added = A1 ++ A2 ∧ h.handed.Sublist A1 ∧ s.cache.Sublist A2

theorem InvS.setReady {bs s h} (r : Bool) (i : InvS bs s h) : InvS bs { s with ready := r } h :=
  ⟨i.hbs, i.hmarks, i.hpend, i.hsplit⟩

theorem InvS.handed_sublist {bs s h} (i : InvS bs s h) : h.handed.Sublist h.added := by
  obtain ⟨A1, A2, h1, h2, _⟩ := i.hsplit
  rw [h1]; exact List.sublist_append_of_sublist_left h2

theorem InvS.init (bs : Nat) : InvS bs (Cache.new bs) {} :=
  ⟨rfl, MarksInv.init bs, rfl, [], [], rfl, .slnil, .slnil⟩

theorem InvS.add {bs s h} (i : InvS bs s h) (c : Cmd) (hn : (h.added ++ [c]).Nodup) :
    InvS bs (add s c) { h with added := h.added ++ [c] } := by
  have hch : c ∉ h.handed := fun hc =>
    (List.nodup_append.mp hn).2.2 c (i.handed_sublist.subset hc) c (List.mem_singleton_self c) rfl
  obtain ⟨A1, A2, h1, h2, h3⟩ := i.hsplit
  refine ⟨(add_bs s c).trans i.hbs, (add_marks s c).symm ▸ i.hmarks, ?_, A1, A2 ++ [c], by simp [h1], h2,
    (add_cache_sublist s c).trans (h3.append (.refl _))⟩
  rw [freshOf_add, freshOf_append, i.hpend]
  simp [pending, freshOf, List.filter_append, List.filter_cons, i.hmarks, hch]

theorem InvS.proposed {bs s h} (i : InvS bs s h) (b : List Cmd) :
    InvS bs (proposed s b) { h with marked := h.marked ++ b } := by
  refine ⟨i.hbs, MarksInv.proposed i.hmarks b, ?_, i.hsplit⟩
  simp only [CmdCache.proposed, freshOf_proposed, i.hpend, pending, List.filter_filter]
  exact List.filter_congr fun x _ => by rw [freshH_append, Bool.and_comm, Bool.and_right_comm]

theorem drop_eq_filter_not_mem_take {L : List Cmd} (hn : L.Nodup) (n : Nat) :
    L.drop n = L.filter fun c => !(L.take n).contains c := by
  rw [← List.take_append_drop n L, List.nodup_append] at hn
  conv => rhs; arg 2; rw [← List.take_append_drop n L]
  rw [List.filter_append, List.filter_eq_nil_iff.mpr (by simp), List.nil_append]
  exact (List.filter_eq_self.mpr fun a ha => by
    simpa using fun h : a ∈ L.take n => hn.2.2 a h a ha rfl).symm

theorem pending_handed (h : Hist) (hn : h.added.Nodup) (n : Nat) :
    pending { h with handed := h.handed ++ (pending h).take n } = (pending h).drop n := by
  rw [drop_eq_filter_not_mem_take (L := pending h) (hn.sublist List.filter_sublist)]
  simp only [pending, List.filter_filter]
  exact List.filter_congr fun x _ => by
    rw [List.contains_append, Bool.not_or, ← Bool.and_assoc, Bool.and_comm]

theorem InvS.getLocked {bs s h} (i : InvS bs s h) (hn : h.added.Nodup) (hle : s.bs ≤ freshCount s) :
    InvS bs (getLocked s).2 { h with handed := h.handed ++ (freshOf s.marks s.cache).take s.bs } := by
  obtain ⟨ex, hex, htake, hdrop⟩ := afterBatch_spec s
  rw [getLocked_eq, if_pos hle]
  refine ⟨i.hbs, i.hmarks, ?_, ?_⟩
  · rw [i.hpend, pending_handed h hn, ← i.hpend]; exact hdrop
  · obtain ⟨A1, A2, h1, h2, h3⟩ := i.hsplit
    rw [hex] at h3
    obtain ⟨R1, R2, hr1, hr2, hr3⟩ := List.append_sublist_iff.mp h3
    refine ⟨A1 ++ R1, R2, by simp [h1, hr1], h2.append ?_, hr3⟩
    rw [← htake]; exact List.filter_sublist.trans hr2

def batchesOf : List Ret → List Cmd
  | [] => []
  | .batch b :: rs => b ++ batchesOf rs
  | _ :: rs => batchesOf rs

theorem getLocked_batch {s : Cache} (h : s.bs ≤ freshCount s) :
    getLocked s = (.batch ((freshOf s.marks s.cache).take s.bs), (getLocked s).2) := by
  rw [getLocked_eq, if_pos h]

theorem getLocked_again {s : Cache} (h : ¬ s.bs ≤ freshCount s) : getLocked s = (.again, s) := by
  rw [getLocked_eq, if_neg h]

theorem seqStep_body (s : Cache) : seqStep s .body =
    if s.bs ≤ freshCount s then ((getLocked s).2, .batch ((freshOf s.marks s.cache).take s.bs))
    else (s, .again) := by
  simp only [seqStep]
  by_cases h : s.bs ≤ freshCount s
  · rw [if_pos h, getLocked_batch h]
  · rw [if_neg h, getLocked_again h]

theorem setReady_self {s : Cache} {r : Bool} (h : s.ready = r) : { s with ready := r } = s := by
  subst h; rfl

/-- `Get` with the token present runs the locked body on the cache without it; if that gives no
batch the call is back at the `select` and blocks. -/
theorem seqStep_get (s : Cache) : seqStep s .get =
    if s.ready = true ∧ s.bs ≤ freshCount s then
      ((getLocked { s with ready := false }).2, .batch ((freshOf s.marks s.cache).take s.bs))
    else ({ s with ready := false }, .blocked) := by
  simp only [seqStep]
  by_cases hr : s.ready = true
  · by_cases h : s.bs ≤ freshCount s
    · rw [if_pos hr, if_pos ⟨hr, h⟩, getLocked_batch (s := { s with ready := false }) h]
    · rw [if_pos hr, if_neg (h ·.2), getLocked_again (s := { s with ready := false }) h]
  · rw [if_neg hr, if_neg (hr ·.1), setReady_self (by simpa using hr)]

theorem seqStep_getc (s : Cache) (t : Bool) : seqStep s (.getc t) =
    if (s.ready && t) = true ∧ s.bs ≤ freshCount s then
      ((getLocked { s with ready := false }).2, .batch ((freshOf s.marks s.cache).take s.bs))
    else ({ s with ready := s.ready && !t }, .cancelled) := by
  simp only [seqStep]
  by_cases hr : (s.ready && t) = true
  · have ht : (s.ready && !t) = false := by revert hr; cases t <;> simp
    by_cases h : s.bs ≤ freshCount s
    · rw [if_pos hr, if_pos ⟨hr, h⟩, getLocked_batch (s := { s with ready := false }) h]
    · rw [if_pos hr, if_neg (h ·.2), getLocked_again (s := { s with ready := false }) h, ht]
  · rw [if_neg hr, if_neg (hr ·.1), setReady_self (by revert hr; cases t <;> simp)]

/-- What one operation does to cache and history, and what it returns.  The three forms of `Get`
differ only in whether the token is taken first and in what they report without a batch; without
a batch the cache changes at most in the token, and that only when no full batch is there. -/
inductive Outcome (s : Cache) (h : Hist) : Cache → Hist → Ret → Prop where
  | add (c : Cmd) : Outcome s h (add s c) { h with added := h.added ++ [c] } .none
  | proposed (b : List Cmd) : Outcome s h (proposed s b) { h with marked := h.marked ++ b } .none
  | idle (r : Bool) (ret : Ret) : (∀ b, ret ≠ .batch b) → ¬ s.bs ≤ freshCount s ∨ r = s.ready →
      Outcome s h { s with ready := r } h ret
  | batch (r : Bool) : s.bs ≤ freshCount s →
      Outcome s h (getLocked { s with ready := r }).2
        { h with handed := h.handed ++ (freshOf s.marks s.cache).take s.bs }
        (.batch ((freshOf s.marks s.cache).take s.bs))

theorem seqStep_outcome (s : Cache) (h : Hist) (op : Op) :
    Outcome s h (seqStep s op).1 (h.push op (seqStep s op).2) (seqStep s op).2 := by
  cases op with
  | add c => exact .add c
  | proposed b => exact .proposed b
  | get =>
    rw [seqStep_get]; split <;> rename_i hc
    · exact .batch false hc.2
    · exact .idle false _ nofun (Decidable.byCases (fun hr : s.ready = true => .inl fun h => hc ⟨hr, h⟩)
        fun hr => .inr (eq_false_of_ne_true hr).symm)
  | getc t =>
    rw [seqStep_getc]; split <;> rename_i hc
    · exact .batch false hc.2
    · exact .idle _ _ nofun (Decidable.byCases (fun hr : (s.ready && t) = true => .inl fun h => hc ⟨hr, h⟩)
        fun hr => .inr (by revert hr; cases s.ready <;> cases t <;> decide))
  | body =>
    rw [seqStep_body]; split <;> rename_i hc
    · exact .batch s.ready hc
    · exact .idle s.ready _ nofun (.inl hc)

section
variable {s s' : Cache} {h h' : Hist} {r : Ret} (o : Outcome s h s' h' r)
include o

theorem Outcome.bs : s'.bs = s.bs := by
  cases o with
  | add c => exact add_bs s c
  | batch => exact getLocked_bs _
  | _ => rfl

theorem Outcome.marksInv (i : MarksInv s h) : MarksInv s' h' := by
  cases o with
  | add c => exact fun x => by rw [add_marks]; exact i x
  | proposed b => exact i.proposed b
  | idle => exact i
  | batch => exact fun x => by rw [getLocked_marks]; exact i x

theorem Outcome.readyInv (i : ReadyInv s) : ReadyInv s' := by
  cases o with
  | add c => exact i.add c
  | proposed b => exact i.proposed b
  | idle _ _ _ hr =>
    rcases hr with hr | hr
    · exact fun hle => absurd hle hr
    · subst hr; exact i
  | batch => exact getLocked_readyInv _

theorem Outcome.batch_eq {b : List Cmd} (hb : r = .batch b) :
    s.bs ≤ freshCount s ∧ b = (freshOf s.marks s.cache).take s.bs := by
  cases o with
  | idle _ _ hn => exact absurd hb (hn b)
  | batch _ hle => exact ⟨hle, (Ret.batch.inj hb).symm⟩
  | _ => cases hb

theorem Outcome.handed : h'.handed = h.handed ++ batchesOf [r] := by
  cases o with
  | idle _ _ hn => cases r with
    | batch b => exact absurd rfl (hn b)
    | _ => simp [batchesOf]
  | _ => simp [batchesOf]

theorem Outcome.nodup (hn : h'.added.Nodup) : h.added.Nodup := by
  cases o with
  | add c => exact hn.sublist (List.sublist_append_left ..)
  | _ => exact hn

theorem Outcome.invS {bs : Nat} (i : InvS bs s h) (hn : h'.added.Nodup) : InvS bs s' h' := by
  cases o with
  | add c => exact i.add c hn
  | proposed b => exact i.proposed b
  | idle r => exact i.setReady r
  | batch r hle => exact (i.setReady r).getLocked hn hle

end

theorem seqStep_batch (s : Cache) (op : Op) (b : List Cmd) (hb : (seqStep s op).2 = .batch b) :
    s.bs ≤ freshCount s ∧ b = (freshOf s.marks s.cache).take s.bs :=
  (seqStep_outcome s {} op).batch_eq hb

theorem getter_ret {s : Cache} (i : ReadyInv s) :
    let B := Ret.batch ((freshOf s.marks s.cache).take s.bs)
    (seqStep s .get).2 = (if s.bs ≤ freshCount s then B else .blocked) ∧
    (seqStep s (.getc true)).2 = (if s.bs ≤ freshCount s then B else .cancelled) ∧
    (seqStep s (.getc false)).2 = .cancelled ∧
    (seqStep s .body).2 = (if s.bs ≤ freshCount s then B else .again) := by
  have hr : s.bs ≤ freshCount s → s.ready = true := i
  rw [seqStep_get, seqStep_getc, seqStep_getc, seqStep_body]
  by_cases hle : s.bs ≤ freshCount s <;> simp [hle, hr]

theorem run_induction_results {P : Cache → Hist → List Ret → Prop}
    (step : ∀ {s h s' h' r} (rs : List Ret), Outcome s h s' h' r → P s h rs → P s' h' (rs ++ [r])) :
    ∀ (ops : List Op) (s : Cache) (h : Hist) (rs : List Ret), P s h rs →
      P (run s h ops).1 (run s h ops).2.1 (rs ++ (run s h ops).2.2)
  | [], _, _, rs, p => by simpa [run] using p
  | op :: ops, s, h, rs, p => by
    simpa [run] using run_induction_results step ops _ _ _ (step rs (seqStep_outcome s h op) p)

theorem run_induction {P : Cache → Hist → Prop}
    (step : ∀ {s h s' h' r}, Outcome s h s' h' r → P s h → P s' h')
    (ops : List Op) (s : Cache) (h : Hist) (p : P s h) : P (run s h ops).1 (run s h ops).2.1 :=
  run_induction_results (P := fun s h _ => P s h) (fun _ => step) ops s h [] p

theorem run_batch_length (ops : List Op) (s : Cache) (h : Hist) {b : List Cmd} (hb : Ret.batch b ∈ (run s h ops).2.2) :
    b.length = s.bs := by
  have := run_induction_results (P := fun s' _ rs => s'.bs = s.bs ∧ ∀ b, Ret.batch b ∈ rs → b.length = s.bs)
    (fun rs o p => ⟨o.bs.trans p.1, fun b hb => (List.mem_append.mp hb).elim (p.2 b) fun hb => by
      obtain ⟨hle, he⟩ := o.batch_eq (List.mem_singleton.mp hb).symm
      rw [he, List.length_take]; exact (Nat.min_eq_left hle).trans p.1⟩)
    ops s h [] ⟨rfl, nofun⟩
  exact this.2 b (by simpa using hb)

theorem run_marksInv (ops : List Op) (bs : Nat) :
    MarksInv (run (Cache.new bs) {} ops).1 (run (Cache.new bs) {} ops).2.1 :=
  run_induction Outcome.marksInv ops _ _ (MarksInv.init bs)

theorem run_readyInv (ops : List Op) (bs : Nat) (h1 : 1 ≤ bs) : ReadyInv (run (Cache.new bs) {} ops).1 :=
  run_induction (P := fun s _ => ReadyInv s) Outcome.readyInv ops _ {} (ReadyInv.init bs h1)

/-- The history invariant needs `Add` calls with distinct identities only up to the point it
speaks of, so it is carried as an implication. -/
theorem run_invS (ops : List Op) (bs : Nat) (hn : (run (Cache.new bs) {} ops).2.1.added.Nodup) :
    InvS bs (run (Cache.new bs) {} ops).1 (run (Cache.new bs) {} ops).2.1 :=
  run_induction (P := fun s h => h.added.Nodup → InvS bs s h)
    (fun o p hn => o.invS (p (o.nodup hn)) hn) ops _ _ (fun _ => InvS.init bs) hn

theorem run_append (a b : List Op) : ∀ (s : Cache) (h : Hist),
    run s h (a ++ b) =
      ((run (run s h a).1 (run s h a).2.1 b).1, (run (run s h a).1 (run s h a).2.1 b).2.1,
        (run s h a).2.2 ++ (run (run s h a).1 (run s h a).2.1 b).2.2) := by
  induction a with
  | nil => intro s h; simp [run]
  | cons op ops ih => intro s h; simp only [List.cons_append, run]; rw [ih]

theorem run_split (pre : List Op) (op : Op) (post : List Op) (s : Cache) (h : Hist) :
    (run s h (pre ++ op :: post)).2.2 =
      (run s h pre).2.2 ++ (seqStep (run s h pre).1 op).2 ::
        (run (seqStep (run s h pre).1 op).1 ((run s h pre).2.1.push op (seqStep (run s h pre).1 op).2) post).2.2 := by
  rw [run_append]; simp [run]

theorem run_snoc (s : Cache) (h : Hist) (ops : List Op) (op : Op) :
    (run s h (ops ++ [op])).1 = (seqStep (run s h ops).1 op).1 ∧
    (run s h (ops ++ [op])).2.2 = (run s h ops).2.2 ++ [(seqStep (run s h ops).1 op).2] := by
  rw [run_append]; simp [run]

theorem batchesOf_append : ∀ (a b : List Ret), batchesOf (a ++ b) = batchesOf a ++ batchesOf b
  | [], _ => rfl
  | r :: a, b => by cases r <;> simp [batchesOf, batchesOf_append a b]

theorem run_handed (ops : List Op) (s : Cache) (h : Hist) :
    (run s h ops).2.1.handed = h.handed ++ batchesOf (run s h ops).2.2 := by
  simpa using run_induction_results (P := fun _ h' rs => h'.handed = h.handed ++ batchesOf rs)
    (fun rs o p => by rw [o.handed, p, batchesOf_append, List.append_assoc]) ops s h [] (by simp [batchesOf])

/-- What one getter does in a step with label `k i`, to the cache and to itself. -/
inductive GStep (c : Cache) (g : Getter) : (Nat → Label) → Cache → Getter → Prop where
  | cancel : GStep c g .cancel c { g with cancelled := true }
  | recv : g.pc = .sel → c.ready = true → GStep c g .recv { c with ready := false } { g with pc := .woken }
  | ctxDone : g.pc = .sel → g.cancelled = true → GStep c g .ctxDone c { g with pc := .retCancelled }
  | batch : g.pc = .woken → c.bs ≤ freshCount c →
      GStep c g .body (getLocked c).2 { g with pc := .retBatch ((freshOf c.marks c.cache).take c.bs) }
  | again : g.pc = .woken → ¬ c.bs ≤ freshCount c → GStep c g .body c { g with pc := .sel }

/-- `Sys.step` as a relation. -/
inductive Step (st : Sys) : Label → Sys → Prop where
  | add (c : Cmd) : Step st (.add c) { st with c := add st.c c }
  | proposed (b : List Cmd) : Step st (.proposed b) { st with c := proposed st.c b }
  | spawn : Step st .spawn { st with gs := st.gs ++ [⟨.sel, false⟩] }
  | getter {i g k c' g'} : st.gs[i]? = some g → GStep st.c g k c' g' →
      Step st (k i) { c := c', gs := st.gs.set i g' }

theorem Sys.step_spec {st st' : Sys} {l : Label} (hs : st.step l = some st') : Step st l st' := by
  cases l <;> simp only [Sys.step] at hs
  case add c => cases hs; exact .add c
  case proposed b => cases hs; exact .proposed b
  case spawn => cases hs; exact .spawn
  case cancel i =>
    split at hs
    · rename_i g hg; cases hs; exact .getter hg .cancel
    · cases hs
  case recv i =>
    split at hs
    · rename_i g hg
      split at hs
      · rename_i hc; cases hs; exact .getter hg (.recv hc.1 hc.2)
      · cases hs
    · cases hs
  case ctxDone i =>
    split at hs
    · rename_i g hg
      split at hs
      · rename_i hc; cases hs; exact .getter hg (.ctxDone hc.1 hc.2)
      · cases hs
    · cases hs
  case body i =>
    split at hs
    · rename_i g hg
      split at hs
      · rename_i hc
        by_cases h : st.c.bs ≤ freshCount st.c
        · rw [getLocked_batch h] at hs; cases hs; exact .getter hg (.batch hc h)
        · rw [getLocked_again h] at hs; cases hs; exact .getter hg (.again hc h)
      · cases hs
    · cases hs

theorem forall_mem_set {P : Getter → Prop} {gs : List Getter} {x : Getter} (i : Nat)
    (h : ∀ a ∈ gs, P a) (hx : P x) : ∀ a ∈ gs.set i x, P a :=
  fun a ha => (List.mem_or_eq_of_mem_set ha).elim (h a) (· ▸ hx)

theorem woken_set {gs : List Getter} {i : Nat} {g0 x : Getter} (hi : gs[i]? = some g0)
    (hx : g0.pc = .woken → x.pc = .woken) (h : ∃ (j : Nat) (g : Getter), gs[j]? = some g ∧ g.pc = PC.woken) :
    ∃ (j : Nat) (g : Getter), (gs.set i x)[j]? = some g ∧ g.pc = PC.woken := by
  obtain ⟨j, g, hj, hp⟩ := h
  by_cases hij : i = j
  · subst hij
    cases hi.symm.trans hj
    exact ⟨i, x, List.getElem?_set_self (List.getElem?_eq_some_iff.mp hi).1, hx hp⟩
  · exact ⟨j, g, by rw [List.getElem?_set_ne hij]; exact hj, hp⟩

structure CInv (bs : Nat) (st : Sys) : Prop where
  hbs : st.c.bs = bs
  hwake : bs ≤ freshCount st.c →
    st.c.ready = true ∨ ∃ (j : Nat) (g : Getter), st.gs[j]? = some g ∧ g.pc = PC.woken
  hret : ∀ g ∈ st.gs,
    (g.pc = .retCancelled → g.cancelled = true) ∧ (∀ b, g.pc = .retBatch b → b.length = bs)

theorem CInv.init (bs : Nat) (h1 : 1 ≤ bs) : CInv bs { c := Cache.new bs } :=
  ⟨rfl, fun h => .inl (ReadyInv.init bs h1 h), fun _ h => absurd h List.not_mem_nil⟩

theorem CInv.step {bs : Nat} {st st' : Sys} {l : Label} (i : CInv bs st) (hs : Step st l st') : CInv bs st' := by
  cases hs with
  | add c =>
    refine ⟨(add_bs ..).trans i.hbs, fun hle => ?_, i.hret⟩
    rcases add_wake st.c c with he | hw
    · simp only [he] at hle ⊢; exact i.hwake hle
    · exact .inl (hw (by rwa [add_bs, i.hbs]))
  | proposed b => exact ⟨i.hbs, fun hle => i.hwake (Nat.le_trans hle (proposed_freshCount_le ..)), i.hret⟩
  | spawn =>
    refine ⟨i.hbs, fun hle => ?_, fun g hg => ?_⟩
    · rcases i.hwake hle with h | ⟨j, g, hj, hp⟩
      · exact .inl h
      · exact .inr ⟨j, g, by simp only; rwa [List.getElem?_append_left (List.getElem?_eq_some_iff.mp hj).1], hp⟩
    · rcases List.mem_append.mp hg with hg | hg
      · exact i.hret g hg
      · cases List.mem_singleton.mp hg; exact ⟨nofun, nofun⟩
  | @getter k g _ c' g' hg hk =>
    have old := i.hret g (List.mem_of_getElem? hg)
    have hlt := (List.getElem?_eq_some_iff.mp hg).1
    cases hk with
    | cancel =>
      exact ⟨i.hbs, fun hle => (i.hwake hle).imp_right (woken_set hg id),
        forall_mem_set k i.hret ⟨fun _ => rfl, old.2⟩⟩
    | recv =>
      exact ⟨i.hbs, fun _ => .inr ⟨k, _, List.getElem?_set_self hlt, rfl⟩,
        forall_mem_set k i.hret ⟨nofun, nofun⟩⟩
    | ctxDone hp hc =>
      exact ⟨i.hbs, fun hle => (i.hwake hle).imp_right (woken_set hg fun h => by cases hp.symm.trans h),
        forall_mem_set k i.hret ⟨fun _ => hc, nofun⟩⟩
    | batch _ hle =>
      refine ⟨(getLocked_bs _).trans i.hbs, fun h => .inl (getLocked_readyInv _ (by rwa [getLocked_bs, i.hbs])),
        forall_mem_set k i.hret ⟨nofun, fun b hb => ?_⟩⟩
      cases hb; rw [List.length_take, ← i.hbs]; exact Nat.min_eq_left hle
    | again _ hlt =>
      exact ⟨i.hbs, fun hle => absurd (i.hbs ▸ hle) hlt, forall_mem_set k i.hret ⟨nofun, nofun⟩⟩

theorem Reach.inv {bs : Nat} (h1 : 1 ≤ bs) {st : Sys} (r : Reach bs st) : CInv bs st := by
  induction r with
  | init => exact CInv.init bs h1
  | step l _ hs ih => exact ih.step (Sys.step_spec hs)

/-! ### every concurrent execution is a run of the atomic operations -/

def Same (s t : Cache) : Prop := s.bs = t.bs ∧ s.cache = t.cache ∧ s.marks = t.marks

theorem Same.setReady (s : Cache) (r : Bool) : Same { s with ready := r } s := ⟨rfl, rfl, rfl⟩

theorem Same.add {s t : Cache} (h : Same s t) (c : Cmd) : Same (add s c) (add t c) := by
  obtain ⟨h1, h2, h3⟩ := h
  rw [add_eq, add_eq, h3]
  cases fresh t.marks c <;> simp only [↓reduceIte, Bool.false_eq_true]
  · exact ⟨h1, h2, h3⟩
  · exact ⟨h1, by rw [h2], rfl⟩

theorem Same.proposed {s t : Cache} (h : Same s t) (b : List Cmd) : Same (proposed s b) (proposed t b) :=
  ⟨h.1, h.2.1, by simp only [CmdCache.proposed, h.2.2]⟩

theorem Same.getLocked {s t : Cache} (h : Same s t) : Same (getLocked s).2 (getLocked t).2 := by
  obtain ⟨h1, h2, h3⟩ := h
  simp only [getLocked_eq, freshCount, afterBatch, h1, h2, h3]
  by_cases hle : t.bs ≤ (freshOf t.marks t.cache).length <;> simp only [hle, ↓reduceIte]
  · exact ⟨rfl, rfl, rfl⟩
  · exact ⟨h1, h2, h3⟩

theorem Same.body {s t : Cache} (h : Same s t) :
    Same (seqStep s .body).1 (seqStep t .body).1 ∧ (seqStep s .body).2 = (seqStep t .body).2 := by
  have hg := h.getLocked
  obtain ⟨h1, h2, h3⟩ := h
  simp only [seqStep_body, freshCount, h1, h2, h3]
  by_cases hle : t.bs ≤ (freshOf t.marks t.cache).length <;> simp only [hle, ↓reduceIte]
  · exact ⟨hg, trivial⟩
  · exact ⟨⟨h1, h2, h3⟩, trivial⟩

/-- only the three operations that touch the cache under the mutex -/
def Op.atomic : Op → Bool
  | .add _ | .proposed _ | .body => true
  | _ => false

theorem Same.seqStep {s t : Cache} (h : Same s t) {op : Op} (hop : op.atomic = true) :
    Same (seqStep s op).1 (seqStep t op).1 ∧ (seqStep s op).2 = (seqStep t op).2 := by
  cases op with
  | add c => exact ⟨h.add c, rfl⟩
  | proposed b => exact ⟨h.proposed b, rfl⟩
  | body => exact h.body
  | _ => cases hop

structure Proj (bs : Nat) (st : Sys) (ops : List Op) : Prop where
  hat : ∀ op ∈ ops, op.atomic = true
  hsame : Same (run (Cache.new bs) {} ops).1 st.c
  hret : ∀ g ∈ st.gs, ∀ b, g.pc = .retBatch b → Ret.batch b ∈ (run (Cache.new bs) {} ops).2.2

theorem Proj.snoc {bs : Nat} {st : Sys} {ops : List Op} (p : Proj bs st ops) {op : Op} (hop : op.atomic = true) :
    Proj bs { st with c := (seqStep st.c op).1 } (ops ++ [op]) ∧
    (seqStep st.c op).2 ∈ (run (Cache.new bs) {} (ops ++ [op])).2.2 := by
  obtain ⟨h1, h2⟩ := run_snoc (Cache.new bs) {} ops op
  obtain ⟨h3, h4⟩ := p.hsame.seqStep hop
  refine ⟨⟨?_, h1 ▸ h3, fun g hg b hb => ?_⟩, ?_⟩
  · simp only [List.forall_mem_append, List.forall_mem_singleton]; exact ⟨p.hat, hop⟩
  · rw [h2]; exact List.mem_append_left _ (p.hret g hg b hb)
  · rw [h2, h4]; exact List.mem_append_right _ (List.mem_singleton_self _)

theorem Reach.proj {bs : Nat} {st : Sys} (r : Reach bs st) : ∃ ops, Proj bs st ops := by
  induction r with
  | init =>
    exact ⟨[], ⟨fun _ h => absurd h List.not_mem_nil, ⟨rfl, rfl, rfl⟩, fun _ h => absurd h List.not_mem_nil⟩⟩
  | @step st st' l _ hs ih =>
    obtain ⟨ops, p⟩ := ih
    cases Sys.step_spec hs with
    | add c => exact ⟨_, (p.snoc (op := .add c) rfl).1⟩
    | proposed b => exact ⟨_, (p.snoc (op := .proposed b) rfl).1⟩
    | spawn =>
      refine ⟨ops, p.hat, p.hsame, fun g hg => ?_⟩
      rcases List.mem_append.mp hg with hg | hg
      · exact p.hret g hg
      · cases List.mem_singleton.mp hg; exact nofun
    | @getter k g _ c' g' hg hk =>
      cases hk with
      | cancel => exact ⟨ops, p.hat, p.hsame, forall_mem_set k p.hret (p.hret g (List.mem_of_getElem? hg))⟩
      | recv => exact ⟨ops, p.hat, p.hsame, forall_mem_set k p.hret nofun⟩
      | ctxDone => exact ⟨ops, p.hat, p.hsame, forall_mem_set k p.hret nofun⟩
      | again => exact ⟨ops, p.hat, p.hsame, forall_mem_set k p.hret nofun⟩
      | batch _ hle =>
        obtain ⟨q, hq⟩ := p.snoc (op := .body) rfl
        rw [seqStep_body, if_pos hle] at q hq
        exact ⟨_, q.hat, q.hsame, forall_mem_set k q.hret fun b hb => by cases hb; exact hq⟩

/-! ### what ends a call of `Get` -/

def PC.terminal : PC → Bool
  | .retBatch _ | .retCancelled => true
  | _ => false

end HsVerif.Model.CmdCache
