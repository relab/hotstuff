import HsVerif.Model.IDSet
/-! Helper lemmas for C19 (bit-field and signer lists). -/
namespace HsVerif.Model.Bitfield

theorem bitAt_false_of_ge (data : List Nat) (k : Nat) (h : 8 * data.length ≤ k) : bitAt data k = false := by
  have : data.length ≤ k / 8 := by omega
  simp [bitAt, isSet, List.getD_eq_getElem?_getD, List.getElem?_eq_none this]

theorem mem_idsOf (data : List Nat) (j : Nat) : j ∈ idsOf data ↔ 1 ≤ j ∧ bitAt data (j - 1) = true := by
  simp only [idsOf, List.mem_map, List.mem_filter, List.mem_range]
  constructor
  · rintro ⟨k, ⟨_, hk⟩, rfl⟩
    exact ⟨by omega, by simpa using hk⟩
  · rintro ⟨h1, h2⟩
    refine ⟨j - 1, ⟨?_, h2⟩, by omega⟩
    false_or_by_contra
    rw [bitAt_false_of_ge data _ (by omega)] at h2
    cases h2

theorem idsOf_pairwise (data : List Nat) : (idsOf data).Pairwise (· < ·) :=
  List.Pairwise.map (R := (· < ·)) _ (fun a b h => by omega)
    (List.Pairwise.filter _ List.pairwise_lt_range)

theorem idsOf_nodup (data : List Nat) : (idsOf data).Nodup :=
  List.nodup_iff_pairwise_ne.mpr ((idsOf_pairwise data).imp Nat.ne_of_lt)

theorem ids_nodup (bf : Bitfield) : bf.ids.Nodup := idsOf_nodup bf.data

@[simp] theorem ids_empty : empty.ids = [] := rfl

/-! `Add`: the data is first padded with zero bytes up to the byte that holds the bit. -/

theorem getD_pad (data : List Nat) (b j : Nat) :
    (if data.length ≤ b then data ++ List.replicate (b + 1 - data.length) 0 else data).getD j 0 = data.getD j 0 := by
  split
  · simp only [List.getD_eq_getElem?_getD, List.getElem?_append, List.getElem?_replicate]
    split
    · rfl
    · split <;> simp_all
  · rfl

theorem lt_length_pad (data : List Nat) (b : Nat) :
    b < (if data.length ≤ b then data ++ List.replicate (b + 1 - data.length) 0 else data).length := by
  split
  · simp; omega
  · omega

theorem getD_add (bf : Bitfield) (id j : Nat) :
    (bf.add id).data.getD j 0 =
      if (id - 1) / 8 = j then bf.data.getD j 0 ||| 1 <<< ((id - 1) % 8) else bf.data.getD j 0 := by
  rw [add, List.getD_eq_getElem?_getD, List.getElem?_set]
  show _ = if (index id).1 = j then _ else _
  split
  · rename_i h
    simp only [lt_length_pad, ↓reduceIte, Option.getD_some, getD_pad, h]; rfl
  · rw [← List.getD_eq_getElem?_getD, getD_pad]

theorem bitAt_add (bf : Bitfield) (id k : Nat) :
    bitAt (bf.add id).data k = (decide (k = id - 1) || bitAt bf.data k) := by
  rw [bitAt, isSet, getD_add, bitAt, isSet]
  split
  · rw [Nat.testBit_or, Nat.one_shiftLeft, Nat.testBit_two_pow, Bool.or_comm]
    congr 1
    apply decide_eq_decide.mpr; omega
  · rename_i h
    have : ¬ k = id - 1 := fun e => h (e ▸ rfl)
    simp [this]

theorem mem_ids_add (bf : Bitfield) (id j : Nat) (hid : 1 ≤ id) :
    j ∈ (bf.add id).ids ↔ j = id ∨ j ∈ bf.ids := by
  simp only [ids, mem_idsOf, bitAt_add, Bool.or_eq_true, decide_eq_true_eq]
  constructor
  · rintro ⟨h1, h | h⟩
    · exact Or.inl (by omega)
    · exact Or.inr ⟨h1, h⟩
  · rintro (rfl | ⟨h1, h2⟩)
    · exact ⟨hid, Or.inl rfl⟩
    · exact ⟨h1, Or.inr h2⟩

theorem add_len (bf : Bitfield) (id : Nat) :
    (bf.add id).len = if bitAt bf.data (id - 1) then bf.len else bf.len + 1 := by
  simp only [add, isSet, getD_pad]; rfl

/-- `Contains` tests the bit; its length guard only avoids the out-of-range index. -/
theorem contains_eq_bitAt (bf : Bitfield) (id : Nat) : bf.contains id = bitAt bf.data (id - 1) := by
  unfold contains
  split
  · rename_i h
    exact (bitAt_false_of_ge _ _ (by simp only [index] at h; omega)).symm
  · rfl

theorem contains_eq (bf : Bitfield) (id : Nat) (hid : 1 ≤ id) :
    bf.contains id = decide (id ∈ bf.ids) := by
  simp [contains_eq_bitAt, ids, mem_idsOf, hid]

def Inv (bf : Bitfield) : Prop := bf.len = bf.ids.length

theorem inv_empty : Inv empty := rfl

theorem inv_fromBytes (b : List Nat) : Inv (fromBytes b) := rfl

theorem ids_add_perm (bf : Bitfield) (id : Nat) (hid : 1 ≤ id) :
    (bf.add id).ids.Perm (if bitAt bf.data (id - 1) then bf.ids else id :: bf.ids) := by
  have hin : id ∈ bf.ids ↔ bitAt bf.data (id - 1) = true := by simp [ids, mem_idsOf, hid]
  split
  · rename_i h
    refine (List.perm_ext_iff_of_nodup (ids_nodup _) (ids_nodup _)).mpr fun j => ?_
    rw [mem_ids_add _ _ _ hid]
    exact or_iff_right_of_imp fun e => e ▸ hin.mpr h
  · rename_i h
    refine (List.perm_ext_iff_of_nodup (ids_nodup _) (List.nodup_cons.mpr ⟨mt hin.mp h, ids_nodup _⟩)).mpr fun j => ?_
    rw [mem_ids_add _ _ _ hid, List.mem_cons]

theorem inv_add (bf : Bitfield) (id : Nat) (hid : 1 ≤ id) (h : Inv bf) : Inv (bf.add id) := by
  unfold Inv at *
  rw [add_len, (ids_add_perm bf id hid).length_eq]
  split <;> simp [h]

theorem foldl_add_spec : ∀ (xs : List Nat) (bf : Bitfield), (∀ x ∈ xs, 1 ≤ x) → Inv bf →
    Inv (xs.foldl add bf) ∧ ∀ j, j ∈ (xs.foldl add bf).ids ↔ j ∈ bf.ids ∨ j ∈ xs
  | [], bf, _, hi => ⟨hi, by simp⟩
  | x :: xs, bf, hx, hi => by
    have hx1 : 1 ≤ x := hx x (by simp)
    obtain ⟨h1, h2⟩ := foldl_add_spec xs (bf.add x) (fun y hy => hx y (by simp [hy])) (inv_add _ _ hx1 hi)
    refine ⟨h1, fun j => ?_⟩
    rw [List.foldl_cons, h2, mem_ids_add _ _ _ hx1, List.mem_cons, or_assoc, or_left_comm]

end HsVerif.Model.Bitfield

namespace HsVerif.Model
open Bitfield

theorem ids_ge_one (bf : Bitfield) : ∀ x ∈ bf.ids, 1 ≤ x :=
  fun x hx => ((mem_idsOf _ x).mp hx).1

/-! ECDSA/EdDSA `Combine` on signer lists succeeds exactly when no signer repeats, and concatenates. -/

theorem multiAppend_eq : ∀ (s acc : List Nat), acc.Nodup →
    multiAppend acc s = if (acc ++ s).Nodup then some (acc ++ s) else none
  | [], acc, hn => by simp [multiAppend, hn]
  | x :: xs, acc, hn => by
    unfold multiAppend
    by_cases hx : x ∈ acc
    · have : ¬ (acc ++ x :: xs).Nodup := fun h => (List.nodup_append.mp h).2.2 x hx x (by simp) rfl
      simp [hx, this]
    · have hn' : (acc ++ [x]).Nodup := by
        simpa [List.nodup_append, hn] using fun a ha (e : a = x) => hx (e ▸ ha)
      simp [hx, multiAppend_eq xs (acc ++ [x]) hn']

theorem multiCombineAux_eq : ∀ (sigs : List (List Nat)) (acc : List Nat), acc.Nodup →
    multiCombineAux acc sigs = if (acc ++ sigs.flatten).Nodup then some (acc ++ sigs.flatten) else none
  | [], acc, hn => by simp [multiCombineAux, hn]
  | s :: rest, acc, hn => by
    rw [multiCombineAux, multiAppend_eq s acc hn, List.flatten_cons, ← List.append_assoc]
    by_cases hs : (acc ++ s).Nodup
    · simp only [hs, ↓reduceIte]
      exact multiCombineAux_eq rest (acc ++ s) hs
    · simp only [hs, ↓reduceIte]
      exact (if_neg fun h => hs (List.nodup_append.mp h).1).symm

/-! BLS `Combine` on bit-fields inserts the members of each signature into the accumulator. -/

theorem blsCombineOne_eq_foldl : ∀ (xs : List Nat) (acc r : Bitfield),
    blsCombineOne acc xs = some r → r = xs.foldl Bitfield.add acc
  | [], acc, r, h => by simpa [blsCombineOne, eq_comm] using h
  | x :: xs, acc, r, h => by
    unfold blsCombineOne at h
    split at h
    · cases h
    · exact blsCombineOne_eq_foldl xs _ r h

theorem blsCombineOne_spec (xs : List Nat) (acc r : Bitfield) (h : blsCombineOne acc xs = some r)
    (hi : Inv acc) (hx : ∀ x ∈ xs, 1 ≤ x) : Inv r ∧ (∀ j, j ∈ r.ids ↔ j ∈ acc.ids ∨ j ∈ xs) :=
  blsCombineOne_eq_foldl xs acc r h ▸ foldl_add_spec xs acc hx hi

theorem blsCombineAux_spec : ∀ (sigs : List Bitfield) (acc r : Bitfield), blsCombineAux acc sigs = some r →
    Inv acc → Inv r ∧ (∀ j, j ∈ r.ids ↔ j ∈ acc.ids ∨ ∃ s ∈ sigs, j ∈ s.ids)
  | [], acc, r, h, hi => by simp only [blsCombineAux, Option.some.injEq] at h; subst h; simp [hi]
  | s :: rest, acc, r, h, hi => by
    unfold blsCombineAux at h
    split at h
    · cases h
    · rename_i acc' ha
      obtain ⟨h1, h2⟩ := blsCombineOne_spec _ _ _ ha hi (ids_ge_one s)
      obtain ⟨h3, h4⟩ := blsCombineAux_spec rest acc' r h h1
      refine ⟨h3, fun j => ?_⟩
      rw [h4, h2, or_assoc]
      simp only [List.mem_cons, exists_eq_or_imp]

end HsVerif.Model
