import HsVerif.Model.Quorum
/-! The arithmetic of `numFaulty n` and `quorumSize n`, and the counting form of quorum intersection: among ids `0..n-1`,
two sets of at least `quorumSize n` members share a member outside any set of at most `numFaulty n` members. -/
namespace HsVerif.QuorumCount
open HsVerif.Model

theorem numFaulty_max (n : Nat) (h : 1 ≤ n) : 3 * numFaulty n < n ∧ ∀ f, 3 * f < n → f ≤ numFaulty n := by
  unfold numFaulty; constructor <;> intros <;> omega

theorem quorum_intersection (n : Nat) : n + numFaulty n + 1 ≤ 2 * quorumSize n := by
  unfold quorumSize; omega

theorem quorumSize_minimal (n q : Nat) (hq : n + numFaulty n + 1 ≤ 2 * q) : quorumSize n ≤ q := by
  unfold quorumSize; omega

theorem quorum_availability (n : Nat) (h : 1 ≤ n) : quorumSize n + numFaulty n ≤ n := by
  have := (numFaulty_max n h).1
  unfold quorumSize; omega

theorem numFaulty_lt_quorumSize (n : Nat) : numFaulty n < quorumSize n := by
  have := quorum_intersection n
  have : numFaulty n ≤ n := by unfold numFaulty; omega
  omega

theorem quorumSize_le (n : Nat) (h : 1 ≤ n) : quorumSize n ≤ n :=
  Nat.le_trans (Nat.le_add_right _ _) (quorum_availability n h)

/-- `n ≥ 2`: a quorum has at least two members; `n ≥ 4` (`f ≥ 1`): at least three -/
theorem quorumSize_ge (n : Nat) : (2 ≤ n → 2 ≤ quorumSize n) ∧ (4 ≤ n → 3 ≤ quorumSize n) := by
  have h1 := quorum_intersection n
  refine ⟨fun h => by omega, fun h => ?_⟩
  have := (numFaulty_max n (by omega)).2 1 (by omega)
  omega

def count (P : Nat → Bool) : Nat → Nat
  | 0 => 0
  | n + 1 => count P n + (if P n then 1 else 0)

theorem count_le (P : Nat → Bool) (n : Nat) : count P n ≤ n := by
  induction n with
  | zero => simp [count]
  | succ n ih => simp only [count]; split <;> omega

theorem count_union (P Q : Nat → Bool) (n : Nat) :
    count P n + count Q n ≤ n + count (fun i => P i && Q i) n := by
  induction n with
  | zero => simp [count]
  | succ n ih =>
    simp only [count]
    by_cases hp : P n = true <;> by_cases hq : Q n = true <;> simp [hp, hq] <;> omega

theorem count_mono (P Q : Nat → Bool) (n : Nat) (h : ∀ i, i < n → P i = true → Q i = true) :
    count P n ≤ count Q n := by
  induction n with
  | zero => simp [count]
  | succ n ih =>
    simp only [count]
    have ih' := ih (fun i hi => h i (by omega))
    by_cases hp : P n = true
    · have := h n (by omega) hp; simp [hp, this]; omega
    · simp [hp]; split <;> omega

theorem quorums_share_honest (n : Nat) (A B byz : Nat → Bool)
    (hA : quorumSize n ≤ count A n) (hB : quorumSize n ≤ count B n) (hf : count byz n ≤ numFaulty n) :
    ∃ i, i < n ∧ A i = true ∧ B i = true ∧ byz i = false := by
  apply Classical.byContradiction
  intro hne
  have hsub : ∀ i, i < n → (A i && B i) = true → byz i = true := by
    intro i hi hab
    cases hbz : byz i
    · exfalso; apply hne
      simp only [Bool.and_eq_true] at hab
      exact ⟨i, hi, hab.1, hab.2, hbz⟩
    · rfl
  have h1 := count_union A B n
  have h2 := count_mono (fun i => A i && B i) byz n hsub
  have h3 := quorum_intersection n
  omega

end HsVerif.QuorumCount
