import HsVerif.Model.Cert
import HsVerif.Proofs.IDSet
import HsVerif.Proofs.ListFacts
/-! Helper lemmas for C02: what `verify` and `batchVerify` accept, soundness of the certificate checks. -/
namespace HsVerif.Model
open Bitfield

theorem hasDup_eq_false {l : List Nat} : hasDup l = false ↔ l.Nodup := by
  induction l with
  | nil => simp [hasDup]
  | cons x xs ih => simp [hasDup, ih]

/-- the signature value contains a genuine signature of `a.signer` over `a.msg`, attributed to
that signer -/
def SigHas (T : Truth) : Sig → Atom → Prop
  | .multi _ es, a => ∃ e ∈ es, e.claimed = a.signer ∧ T e.bytes = some a
  | .bls atoms _ _, a => a ∈ atoms

/-- cached size of the bit-field is its number of members, i.e. `Bitfield.Inv bits` (true of every
bit-field produced by `Sign`, `Combine` or wire decoding, see `Props.C19.len_eq_card`) -/
def Sig.WF : Sig → Prop
  | .multi _ _ => True
  | .bls _ _ bits => bits.len = bits.ids.length

theorem first_of_len_one (bits : Bitfield) (h : bits.ids.length = 1) : bits.ids = [bits.first] := by
  obtain ⟨a, ha⟩ := List.length_eq_one_iff.mp h
  simp [Bitfield.first, ha]

/-! `Verify` and `BatchVerify`, scheme by scheme.  For a well-formed BLS signature the single-participant
branch of `Verify` is the general one. -/

theorem verify_multi (T : Truth) (c : Cfg) (k : Scheme) (es : List Entry) (m : Msg) :
    verify T c (.multi k es) m = true ↔ k = c.scheme ∧ k ≠ .bls12 ∧ es ≠ [] ∧ (es.map (·.claimed)).Nodup ∧
      ∀ e ∈ es, c.has e.claimed = true ∧ T e.bytes = some ⟨e.claimed, m⟩ := by
  simp [verify, verifySingle, hasDup_eq_false, and_assoc]

theorem verify_bls (T : Truth) (c : Cfg) (a : List Atom) (j : List Nat) (bits : Bitfield) (m : Msg)
    (hw : bits.len = bits.ids.length) :
    verify T c (.bls a j bits) m = true ↔ c.scheme = .bls12 ∧ bits.ids ≠ [] ∧ (∀ i ∈ bits.ids, c.has i = true) ∧
      j = [] ∧ a.Perm (bits.ids.map fun i => ⟨i, m⟩) := by
  have h0 : bits.len ≠ 0 ↔ bits.ids ≠ [] := by rw [hw]; exact not_congr List.length_eq_zero_iff
  by_cases h1 : bits.len = 1
  · simp [verify, h1, first_of_len_one bits (hw ▸ h1), and_assoc, List.isPerm_iff]
  · simp [verify, h1, h0, and_assoc, List.isPerm_iff]

theorem batchVerify_multi (T : Truth) (c : Cfg) (k : Scheme) (es : List Entry) (batch : List (Nat × Msg)) :
    batchVerify T c (.multi k es) batch = true ↔ k = c.scheme ∧ k ≠ .bls12 ∧ es ≠ [] ∧ (es.map (·.claimed)).Nodup ∧
      (∀ e ∈ es, ∃ m, batch.lookup e.claimed = some m ∧ c.has e.claimed = true ∧ T e.bytes = some ⟨e.claimed, m⟩) ∧
      distinctCount (es.filterMap fun e => batch.lookup e.claimed) = batch.length := by
  simp [batchVerify, hasDup_eq_false, and_assoc]
  intro _ _ _ _ _
  exact forall₂_congr fun e _ => by cases List.lookup e.claimed batch <;> simp [verifySingle]

theorem batchVerify_bls (T : Truth) (c : Cfg) (a : List Atom) (j : List Nat) (bits : Bitfield) (batch : List (Nat × Msg)) :
    batchVerify T c (.bls a j bits) batch = true ↔ c.scheme = .bls12 ∧ bits.len = batch.length ∧
      (∀ p ∈ batch, c.has p.1 = true) ∧
      (batch.length ≠ 1 → distinctCount (batch.map (·.2)) = batch.length ∧ 1 ≤ batch.length) ∧
      j = [] ∧ a.Perm (batch.map fun p => ⟨p.1, p.2⟩) := by
  by_cases h1 : batch.length = 1 <;> simp [batchVerify, h1, and_assoc, List.isPerm_iff]

theorem verify_sound (T : Truth) (c : Cfg) (s : Sig) (m : Msg) (hv : verify T c s m = true) (hw : s.WF) :
    s.participants.Nodup ∧ s.participants.length = s.len ∧ 1 ≤ s.len ∧
    ∀ i ∈ s.participants, c.has i = true ∧ SigHas T s ⟨i, m⟩ := by
  cases s with
  | multi k es =>
    obtain ⟨_, _, hne, hd, hall⟩ := (verify_multi T c k es m).mp hv
    refine ⟨hd, List.length_map _, List.length_pos_iff.mpr hne, fun i hi => ?_⟩
    obtain ⟨e, he, rfl⟩ := List.mem_map.mp hi
    exact ⟨(hall e he).1, e, he, rfl, (hall e he).2⟩
  | bls a j bits =>
    obtain ⟨_, hne, hall, _, hp⟩ := (verify_bls T c a j bits m hw).mp hv
    exact ⟨ids_nodup bits, hw.symm, Nat.lt_of_lt_of_eq (List.length_pos_iff.mpr hne) hw.symm,
      fun i hi => ⟨hall i hi, hp.mem_iff.mpr (List.mem_map_of_mem hi)⟩⟩

theorem batchVerify_sound (T : Truth) (c : Cfg) (s : Sig) (batch : List (Nat × Msg))
    (hk : (batch.map (·.1)).Nodup)
    (hv : batchVerify T c s batch = true) (hw : s.WF) :
    ∃ S : List Nat, S.Nodup ∧ S.length = s.len ∧
      ∀ i ∈ S, c.has i = true ∧ ∃ m, (i, m) ∈ batch ∧ SigHas T s ⟨i, m⟩ := by
  cases s with
  | multi k es =>
    obtain ⟨_, _, _, hd, hall, _⟩ := (batchVerify_multi T c k es batch).mp hv
    refine ⟨es.map (·.claimed), hd, List.length_map _, fun i hi => ?_⟩
    obtain ⟨e, he, rfl⟩ := List.mem_map.mp hi
    obtain ⟨m, hm, hc, ht⟩ := hall e he
    obtain ⟨l₁, l₂, rfl, _⟩ := List.lookup_eq_some_iff.mp hm
    exact ⟨hc, m, by simp, e, he, rfl, ht⟩
  | bls a j bits =>
    obtain ⟨_, hlen, hhas, _, _, hp⟩ := (batchVerify_bls T c a j bits batch).mp hv
    refine ⟨batch.map (·.1), hk, (List.length_map _).trans hlen.symm, fun i hi => ?_⟩
    obtain ⟨p, hp', rfl⟩ := List.mem_map.mp hi
    exact ⟨hhas p hp', p.2, hp', hp.mem_iff.mpr (List.mem_map_of_mem (f := fun p : Nat × Msg => (⟨p.1, p.2⟩ : Atom)) hp')⟩

theorem isInsert_insertDesc : IsInsert (fun q x : QC => x.view < q.view) insertDesc :=
  ⟨fun _ => rfl, fun _ _ _ => rfl⟩

theorem mem_sortDesc (x : QC) (l : List QC) : x ∈ sortDesc l ↔ x ∈ l :=
  (isInsert_insertDesc.foldr_perm l).mem_iff

theorem sortDesc_sorted (l : List QC) : (sortDesc l).Pairwise (fun a b => b.view ≤ a.view) :=
  isInsert_insertDesc.foldr_pairwise (r := fun a b => b.view ≤ a.view)
    (fun _ _ _ h1 h2 => Nat.le_trans h2 h1) (fun _ _ => Nat.le_of_lt) (fun _ _ => Nat.le_of_not_lt) l

theorem findHighestValidQC_some (E : CertEnv) (qcs : List QC) (q : QC) (h : findHighestValidQC E qcs = some q) :
    verifyQC E q = true ∧ q ∈ qcs ∧ ∀ x ∈ qcs, verifyQC E x = true → x.view ≤ q.view := by
  obtain ⟨hq, as, bs, hl, has⟩ := List.find?_eq_some_iff_append.mp h
  have hs := hl ▸ sortDesc_sorted qcs
  refine ⟨hq, (mem_sortDesc q qcs).mp (by simp [hl]), fun x hx hv => ?_⟩
  rw [← mem_sortDesc, hl, List.mem_append, List.mem_cons] at hx
  rcases hx with hx | rfl | hx
  · exact absurd hv (by simpa using has x hx)
  · exact Nat.le_refl _
  · exact (List.pairwise_cons.mp (List.pairwise_append.mp hs).2.1).1 x hx

theorem findHighestValidQC_isSome (E : CertEnv) (qcs : List QC) (q0 : QC) (hm : q0 ∈ qcs) (hv : verifyQC E q0 = true) :
    ∃ q, findHighestValidQC E qcs = some q := by
  cases h : findHighestValidQC E qcs with
  | some q => exact ⟨q, rfl⟩
  | none => simpa [hv] using List.find?_eq_none.mp h q0 ((mem_sortDesc _ _).mpr hm)

/-! `VerifyQuorumCert` / `VerifyTimeoutCert` outside their shortcuts (genesis block, view 0); `verifyTC_of_verify` is the
direction the completeness theorems use, and holds at view 0 too -/

theorem verifyQC_iff (E : CertEnv) (qc : QC) (hg : qc.hash ≠ genesisHash) :
    verifyQC E qc = true ↔ ∃ s b, qc.sig = some s ∧ E.cfg.quorum ≤ s.len ∧ E.get qc.hash = some b ∧
      b.view = qc.view ∧ verify E.T E.cfg s (blkMsg b.hash) = true := by
  rw [verifyQC, if_neg (by simpa using hg)]
  cases qc.sig with
  | none => simp
  | some s => cases E.get qc.hash <;> simp [Nat.not_lt, eq_comm (a := qc.view)]

theorem verifyTC_iff (E : CertEnv) (tc : TC) (hv : tc.view ≠ 0) :
    verifyTC E tc = true ↔ ∃ s, tc.sig = some s ∧ E.cfg.quorum ≤ s.len ∧
      verify E.T E.cfg s (viewMsg tc.view) = true := by
  rw [verifyTC, if_neg (by simpa using hv)]
  cases tc.sig <;> simp [Nat.not_lt]

theorem verifyTC_of_verify (E : CertEnv) (s : Sig) (v : Nat) (hq : E.cfg.quorum ≤ s.len)
    (hv : verify E.T E.cfg s (viewMsg v) = true) : verifyTC E ⟨some s, v⟩ = true := by
  by_cases h0 : v = 0
  · simp [verifyTC, h0]
  · exact (verifyTC_iff E _ h0).mpr ⟨s, rfl, hq, hv⟩

theorem verifyAggQC_ok_iff (E : CertEnv) (a : AggQC) (high : QC) :
    verifyAggQC E a = .ok high ↔ ∃ s, a.sig = some s ∧ E.cfg.quorum ≤ s.len ∧
      batchVerify E.T E.cfg s (a.qcs.map fun p => (p.1, E.tmoMsg p.1 a.view p.2)) = true ∧
      findHighestValidQC E (a.qcs.map (·.2)) = some high := by
  rw [verifyAggQC]
  cases a.sig with
  | none => simp
  | some s =>
    by_cases hq : s.len < E.cfg.quorum
    · simp [hq, Nat.not_le.mpr hq]
    · cases hb : batchVerify E.T E.cfg s (a.qcs.map fun p => (p.1, E.tmoMsg p.1 a.view p.2))
      · simp [hq, hb]
      · cases findHighestValidQC E (a.qcs.map (·.2)) <;> simp [hq, hb, Nat.not_lt.mp hq]

/-- `VerifyAnyQC` accepts exactly when the block's own QC verifies and, where aggregate QCs are enabled and the proposal
carries one, `VerifyAggregateQC` accepts it with a high QC of the view and block hash of the block's QC -/
theorem verifyAnyQC_ok_iff (E : CertEnv) (agg : Bool) (qc : QC) (a : Option AggQC) :
    verifyAnyQC E agg qc a = .ok () ↔ verifyQC E qc = true ∧
      ∀ x, agg = true → a = some x →
        ∃ high, verifyAggQC E x = .ok high ∧ qc.view = high.view ∧ qc.hash = high.hash := by
  rw [verifyAnyQC]
  cases agg with
  | false => cases verifyQC E qc <;> simp
  | true =>
    cases a with
    | none => cases verifyQC E qc <;> simp
    | some x =>
      cases hs : x.sig with
      | none => simp [verifyAggQC, hs]
      | some s => cases hv : verifyAggQC E x <;> cases verifyQC E qc <;> simp [hs, hv]

end HsVerif.Model
