import HsVerif.Proofs.SysSafety
import HsVerif.Proofs.ReplicaCover
import HsVerif.Proofs.ReplicaRecovery
/-!
C05: the hypothesis `cover` of the recovery theorem (`RecSetupLive.cover`, Proofs/ReplicaRecovery.lean) follows from
reachability, because THE HIGH QC COVERS THE VOTES (`HC`, every handler keeps it: Proofs/ReplicaCover.lean).  The property
theorems are in Props/C05Cover.lean.  System level, under `Ctx` (at most `numFaulty n` ids outside `C.honest`): the lock of
a replica is genesis, or the honest voters of its certified child — a quorum of ids — have high QCs at least as new as the
lock; hence (`quorums_share_honest_id`) the block of the highest high QC of any quorum has view `≥` the lock's, and if
equal it IS the lock; hence `RuleReady`, provided the block's own certified block is known (or has the empty hash).
-/
namespace HsVerif.Model
open HsVerif.Props.C01Sys

theorem reach_hc (k : Keys) (C : SysCfg) (σ : SysState) (h : Reach k C σ) : ∀ i s, σ.reps.lookup i = some s → HC s :=
  reach_rep k C (fun _ s => HC s) (fun _ => hc_init) (fun _ _ _ _ h => h) (fun _ _ _ h => h)
    (fun _ => start_hc k _) (fun _ => step_hc k _) σ h

theorem all_ids (H : List Nat) (n : Nat) (hnd : H.Nodup) (hr : ∀ i ∈ H, 1 ≤ i ∧ i ≤ n) (hl : H.length = n) :
    ∀ i, 1 ≤ i → i ≤ n → i ∈ H := by
  intro i h1 h2
  apply Classical.byContradiction
  intro hni
  have hn : (i :: H).Nodup := List.nodup_cons.mpr ⟨hni, hnd⟩
  have := nodup_length_le (i :: H) (List.range' 1 n) hn (by
    intro x hx
    rw [List.mem_range'_1]
    simp only [List.mem_cons] at hx
    rcases hx with rfl | hx
    · omega
    · have := hr x hx; omega)
  simp only [List.length_cons, List.length_range'] at this
  omega

theorem count_false (P : Nat → Bool) (n : Nat) (h : ∀ i, i < n → P i = false) : HsVerif.QuorumCount.count P n = 0 := by
  induction n with
  | zero => rfl
  | succ n ih =>
    simp only [HsVerif.QuorumCount.count]
    rw [ih (fun i hi => h i (by omega)), h n (by omega)]
    rfl

theorem fewFaulty_of_all (C : SysCfg) (h : ∀ i, 1 ≤ i → i ≤ C.n → i ∈ C.honest) : FewFaulty C := by
  unfold FewFaulty
  rw [count_false]
  · exact Nat.zero_le _
  · intro i hi
    have := h (i + 1) (by omega) (by omega)
    simp [this]

end HsVerif.Model

namespace HsVerif.SysSafety
open HsVerif.Model HsVerif.Props HsVerif.Props.C01Sys HsVerif.Props.C01SysWF HsVerif.Safety

section
variable {k : Keys} {C : SysCfg} {σ : SysState} {blk : Hash → Block} (X : Ctx k C σ blk)
include X

theorem Ctx.accepted_gc {j : Nat} {s : RState} {q : QC} {b : Block} (hs : σ.reps.lookup j = some s)
    (hv : verifyQC (env k (C.rcfg j) { s with truth := σ.truth }) q = true)
    (hb : sget s q.hash = some b) : GC (SysAbs C σ blk) b := by
  rw [(X.stored hs hb).1]
  exact accepted_qc_gc k C X.hk σ X.hr X.hsch blk X.hca.1 j { s with truth := σ.truth } q (fun _ _ h => h)
    (fun h b hb => ((X.hca.1.2 j s hs).1 h b hb).2) hv

theorem Ctx.lock_cover_live {j : Nat} {s : RState} (hs : σ.reps.lookup j = some s) :
    GC (SysAbs C σ blk) s.lock ∧
    (s.lock = genesisBlock ∨ ∃ S : List Nat, S.Nodup ∧ quorumSize C.n ≤ S.length ∧
      ∀ r ∈ S, (1 ≤ r ∧ r ≤ C.n) ∧
        (r ∈ C.honest → ∃ sr, σ.reps.lookup r = some sr ∧ s.lock.view ≤ sr.highQC.view)) := by
  rcases (X.safe hs).linv.2.2 with hg | ⟨x, id, hm, p, hp1, _, hp2⟩
  · exact ⟨Or.inl hg, Or.inl hg⟩
  · obtain ⟨hc, hL, hgc, _⟩ := X.two_links hs hm hp1 hp2
    refine ⟨hgc, Or.inr ?_⟩
    obtain ⟨Q, ⟨S, hnd, hlen, hS⟩, hv⟩ := hc
    refine ⟨S, hnd, hlen, ?_⟩
    intro r hr
    obtain ⟨r1, r2, hQr⟩ := hS r hr
    refine ⟨⟨r1, r2⟩, ?_⟩
    intro hh
    obtain ⟨sr, idr, hsr, hmr⟩ := hv r hQr hh
    refine ⟨sr, hsr, ?_⟩
    -- the lock is `p`'s parent, and the voter `r` of `p` checked `p.qc` against the view of that block
    rw [hL, (X.base.voted hsr hmr).qcv]
    exact (reach_hc k C σ X.hr r sr hsr).1 p idr hmr

theorem Ctx.lock_cover {j : Nat} {s : RState} (hs : σ.reps.lookup j = some s)
    (hall : ∀ i, 1 ≤ i → i ≤ C.n → i ∈ C.honest) :
    GC (SysAbs C σ blk) s.lock ∧
    (s.lock = genesisBlock ∨ ∃ S : List Nat, S.Nodup ∧ quorumSize C.n ≤ S.length ∧
      ∀ r ∈ S, r ∈ C.honest ∧ ∃ sr, σ.reps.lookup r = some sr ∧ s.lock.view ≤ sr.highQC.view) := by
  obtain ⟨hgc, hcov⟩ := X.lock_cover_live hs
  refine ⟨hgc, hcov.imp id ?_⟩
  rintro ⟨S, hnd, hlen, hS⟩
  refine ⟨S, hnd, hlen, fun r hr => ?_⟩
  have hh : r ∈ C.honest := hall r (hS r hr).1.1 (hS r hr).1.2
  exact ⟨hh, (hS r hr).2 hh⟩

/-- The quorum of `Top` (all honest) and the voters of the lock's certified child (a quorum of ids, at most `numFaulty n`
of them not honest) share an HONEST replica (`quorums_share_honest_id`). -/
theorem Ctx.top_ge_lock (D : RecData) (s0 : Nat → RState)
    (hrange : ∀ i ∈ C.honest, 1 ≤ i ∧ i ≤ C.n)
    (hreps : ∀ j ∈ C.honest, σ.reps.lookup j = some (s0 j))
    (hhq : ∀ j ∈ C.honest, (s0 j).highQC = D.hq j)
    (hknow : ∀ j ∈ C.honest, KnowsAll k C D j { s0 j with truth := σ.truth }) :
    ∀ j ∈ C.honest, ∀ i ∈ C.honest, Top C D i →
      (s0 j).lock.view ≤ (D.hb i).view ∧ ((s0 j).lock.view = (D.hb i).view → D.hb i = (s0 j).lock) := by
  intro j hj i hi ht
  have hs := hreps j hj
  obtain ⟨hgcL, hcov⟩ := X.lock_cover_live hs
  obtain ⟨hv, hst, hvw, hlt⟩ := (hknow j hj).qc i hi
  have hgcB : GC (SysAbs C σ blk) (D.hb i) := X.accepted_gc hs hv hst
  refine ⟨?_, fun e => X.base.vd.gc_unique hgcB hgcL e.symm⟩
  rcases hcov with hg | ⟨S, hSn, hSl, hS⟩
  · rw [hg]; exact Nat.zero_le _
  · obtain ⟨Q, hQn, hQm, hQl, _, hQmax⟩ := ht
    obtain ⟨x, hxS, hxQ, hxh⟩ := quorums_share_honest_id C.n X.hn C.honest S Q X.hf hSn hSl (fun r hr => (hS r hr).1)
      hQn hQl (fun r hr => hrange r (hQm r hr))
    obtain ⟨sr, hsr, hl⟩ := (hS x hxS).2 hxh
    have : sr = s0 x := by
      have := hreps x hxh
      rw [hsr] at this; exact Option.some.inj this
    subst this
    have h1 : (s0 j).lock.view ≤ (D.hb x).view := by
      rw [← ((hknow j hj).qc x hxh).2.2.1, ← hhq x hxh]; exact hl
    exact Nat.le_trans h1 (hQmax x hxQ)

theorem Ctx.cover (D : RecData) (s0 : Nat → RState)
    (hrange : ∀ i ∈ C.honest, 1 ≤ i ∧ i ≤ C.n)
    (hreps : ∀ j ∈ C.honest, σ.reps.lookup j = some (s0 j))
    (hhq : ∀ j ∈ C.honest, (s0 j).highQC = D.hq j)
    (hknow : ∀ j ∈ C.honest, KnowsAll k C D j { s0 j with truth := σ.truth })
    (hpar : ∀ j ∈ C.honest, ∀ i ∈ C.honest, Top C D i →
      ((D.hb i).qc.hash = "" ∨ ∃ gb, (s0 j).chain.blocks.lookup (D.hb i).qc.hash = some gb)) :
    ∀ j ∈ C.honest, ∀ i ∈ C.honest, Top C D i → RuleReady (C.rcfg j) (s0 j) (D.v + 1) (D.hb i) := by
  intro j hj i hi ht
  obtain ⟨hle, heq⟩ := X.top_ge_lock D s0 hrange hreps hhq hknow j hj i hi ht
  obtain ⟨_, _, hvw, hlt⟩ := (hknow j hj).qc i hi
  refine ⟨hpar j hj i hi ht, ?_⟩
  split
  · by_cases hlt' : (s0 j).lock.view < (D.hb i).view
    · exact Or.inl hlt'
    · have e : (s0 j).lock.view = (D.hb i).view := by omega
      refine Or.inr ⟨by omega, ?_⟩
      rw [heq e]
      have hf : (s0 j).chain.fuel - 1 = ((s0 j).chain.blocks.length + (s0 j).chain.fetchable.length) + 1 := by
        unfold RChain.fuel; omega
      rw [hf]
      unfold extWalk
      simp
  · exact hle
  · rename_i hfast
    exact absurd hfast X.hrl

end
end HsVerif.SysSafety

namespace HsVerif.Model
open HsVerif.Props.C01Sys HsVerif.Props.C01SysWF HsVerif.SysSafety

/-- the fields of `RecSetupLive` except `cover`; `few` (at most `numFaulty n` ids are outside `C.honest`); and `parents`:
the block certified by the certificate of a `Top` block is stored at every replica (or the `Top` block carries the empty
certificate hash, as genesis does) — the first clause of `RuleReady`, which the vote rule needs to find the block to lock
on. -/
structure RecPreLive (k : Keys) (C : SysCfg) (D : RecData) (s0 : Nat → RState) (ℓ : Nat) (T0 : List (Nat × Atom)) : Prop where
  agg : C.agg = false
  scheme : C.scheme ≠ .bls12
  rules : C.rules ≠ .fast
  v0 : D.v ≠ 0
  nodup : C.honest.Nodup
  range : ∀ i ∈ C.honest, 1 ≤ i ∧ i ≤ C.n
  qh : (C.rcfg 0).cfg.quorum ≤ C.honest.length
  few : FewFaulty C
  two : 2 ≤ C.n
  leader : ∀ j ∈ C.honest, (C.rcfg j).leader (D.v + 1) = ℓ
  lmem : ℓ ∈ C.honest
  init : ∀ j ∈ C.honest, RColl C D (s0 j) j [] (s0 j) ∧ (s0 j).waitingVC = [] ∧ (s0 j).lastVoted ≤ D.v ∧
    KnowsAll k C D j { s0 j with truth := T0 }
  mark : ∀ i ∈ C.honest, markWalk ((s0 ℓ).chain.fuel + 1) (s0 ℓ).chain.blocks (s0 ℓ).lastProposed (D.hb i) = true
  parents : ∀ j ∈ C.honest, ∀ i ∈ C.honest, Top C D i →
    ((D.hb i).qc.hash = "" ∨ ∃ gb, (s0 j).chain.blocks.lookup (D.hb i).qc.hash = some gb)

section
variable {k : Keys} {C : SysCfg} {D : RecData} {s0 : Nat → RState} {ℓ : Nat} {σ : SysState} {blk : Hash → Block}
  (hP : RecPreLive k C D s0 ℓ σ.truth) (hk : KeysOK k) (hr : Reach k C σ) (hca : CA' σ blk)
  (hreps : ∀ j ∈ C.honest, σ.reps.lookup j = some (s0 j))
include hP hk hr hca

theorem RecPreLive.ctx : Ctx k C σ blk :=
  ⟨hk, hr, Nat.le_trans (by decide) hP.two, hP.few, hP.scheme, hP.rules, hca⟩

include hreps

theorem RecPreLive.top_ge_lock (j i : Nat) (hj : j ∈ C.honest) (hi : i ∈ C.honest) (ht : Top C D i) :
    (s0 j).lock.view ≤ (D.hb i).view ∧ ((s0 j).lock.view = (D.hb i).view → D.hb i = (s0 j).lock) :=
  (hP.ctx hk hr hca).top_ge_lock D s0 hP.range hreps
    (fun j hj => (hP.init j hj).1.hqc) (fun j hj => (hP.init j hj).2.2.2) j hj i hi ht

theorem RecPreLive.cover :
    ∀ j ∈ C.honest, ∀ i ∈ C.honest, Top C D i → RuleReady (C.rcfg j) (s0 j) (D.v + 1) (D.hb i) :=
  (hP.ctx hk hr hca).cover D s0 hP.range hreps
    (fun j hj => (hP.init j hj).1.hqc) (fun j hj => (hP.init j hj).2.2.2) hP.parents

theorem RecPreLive.setup : RecSetupLive k C D s0 ℓ σ.truth :=
  ⟨hP.agg, hP.scheme, hP.rules, hP.v0, hP.nodup, hP.range, hP.qh, hP.two, hP.leader, hP.lmem, hP.init, hP.mark,
    hP.cover hk hr hca hreps⟩

end
end HsVerif.Model
