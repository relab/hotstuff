import HsVerif.Proofs.SysInv
import HsVerif.Proofs.ReplicaHappy
/-!
The synchronous network over the system of replica models: `deliverAll` hands messages to their addressees in order and collects
what they send, a round (`syncRound`) delivers everything in flight, `syncRun k C r` is `Synchronizer.Start` everywhere and then
`r` rounds.  Every delivery is a `sysStep`, so all theorems about `Reach` apply to the run.  A round is a fold over its messages, stated
for any invariant (`deliver_*`).  From `sysInit` only the leader of view 1 does anything in `Start` (`syncStart_leader`; everybody
else is an `InitialRep`), and the rounds alternate between two phases (`syncRun_phases`, read at a round `r` by `phase_at`).  The
configurations of the liveness theorems (`RotCfg`: any leader schedule; `HappyLive`, `HappyCfg`: a fixed leader) are here as well.
-/
namespace HsVerif.Model

/-- `SysState.run` that also returns the effects -/
def SysState.runOut (σ : SysState) (i : Nat) (f : RState → RState × List Out) : SysState × List Out :=
  match σ.reps.lookup i with
  | none => (σ, [])
  | some s =>
    let r := f { s with truth := σ.truth, nextBytes := σ.nextBytes }
    ({ reps := setKV i r.1 σ.reps, truth := r.1.truth, nextBytes := r.1.nextBytes }, r.2)

theorem runOut_fst (σ : SysState) (i : Nat) (f : RState → RState × List Out) : (σ.runOut i f).1 = σ.run i f := by
  cases h : σ.reps.lookup i <;> simp [SysState.runOut, SysState.run, h]

/-- deliver the messages one after the other, collecting what the addressees send -/
def deliverAll (k : Keys) (C : SysCfg) : SysState × Msgs → Msgs → SysState × Msgs
  | acc, [] => acc
  | (σ, out), (i, e) :: rest =>
    let r := σ.runOut i (fun s => step k (C.rcfg i) s e)
    deliverAll k C (r.1, out ++ route C i r.2) rest

/-- one synchronous round: every message in flight reaches its addressee, in order -/
def syncRound (k : Keys) (C : SysCfg) (x : SysState × Msgs) : SysState × Msgs :=
  deliverAll k C (x.1, []) x.2

/-- `Synchronizer.Start` at every replica, in the order of `C.honest` -/
def startAll (k : Keys) (C : SysCfg) : SysState × Msgs → List Nat → SysState × Msgs
  | acc, [] => acc
  | (σ, out), i :: rest =>
    let r := σ.runOut i (start k (C.rcfg i))
    startAll k C (r.1, out ++ route C i r.2) rest

def syncStart (k : Keys) (C : SysCfg) : SysState × Msgs := startAll k C (sysInit k C, []) C.honest

def syncRun (k : Keys) (C : SysCfg) : Nat → SysState × Msgs
  | 0 => syncStart k C
  | r + 1 => syncRound k C (syncRun k C r)

theorem deliverAll_reach (k : Keys) (C : SysCfg) : ∀ (ms : Msgs) (σ : SysState) (acc : Msgs),
    Reach k C σ → Reach k C (deliverAll k C (σ, acc) ms).1
  | [], _, _, h => h
  | (i, e) :: rest, σ, acc, h => by
    unfold deliverAll
    exact deliverAll_reach k C rest _ _ (by rw [runOut_fst]; exact .step σ (.deliver i e) h)

theorem startAll_reach (k : Keys) (C : SysCfg) : ∀ (l : List Nat) (σ : SysState) (acc : Msgs),
    Reach k C σ → Reach k C (startAll k C (σ, acc) l).1
  | [], _, _, h => h
  | i :: rest, σ, acc, h => by
    unfold startAll
    exact startAll_reach k C rest _ _ (by rw [runOut_fst]; exact .step σ (.start i) h)

theorem syncRun_reach (k : Keys) (C : SysCfg) : ∀ r, Reach k C (syncRun k C r).1
  | 0 => startAll_reach k C C.honest _ _ .init
  | r + 1 => deliverAll_reach k C _ _ _ (syncRun_reach k C r)

structure Acts (σ : SysState) (i : Nat) (s' : RState) (σ' : SysState) : Prop where
  self : σ'.reps.lookup i = some s'
  others : ∀ x, x ≠ i → σ'.reps.lookup x = σ.reps.lookup x
  keys : σ'.reps.map (·.1) = σ.reps.map (·.1)
  truth : σ'.truth = s'.truth
  next : σ'.nextBytes = s'.nextBytes

/-- `f` is `step k c · e` or `start k c` -/
theorem runOut_spec (σ : SysState) (i : Nat) (f : RState → RState × List Out) (s : RState) (hl : σ.reps.lookup i = some s) :
    Acts σ i (f { s with truth := σ.truth, nextBytes := σ.nextBytes }).1 (σ.runOut i f).1 ∧
    (σ.runOut i f).2 = (f { s with truth := σ.truth, nextBytes := σ.nextBytes }).2 := by
  unfold SysState.runOut
  rw [hl]
  exact ⟨⟨lookup_setKV_self _ _ _, fun x hx => lookup_setKV_ne _ _ _ _ hx, keys_setKV_of_lookup _ hl, rfl, rfl⟩, rfl⟩

/-- the participants: pairwise different ids in `1..n`, at least a quorum; chained or simplified HotStuff, plain timeout rule,
ECDSA / EdDSA; NO assumption on who leads which view -/
structure RotCfg (C : SysCfg) : Prop where
  scheme : C.scheme ≠ .bls12
  agg : C.agg = false
  rules : C.rules = .chained ∨ C.rules = .simple
  nodup : C.honest.Nodup
  range : ∀ i ∈ C.honest, 1 ≤ i ∧ i ≤ C.n
  qh : (C.rcfg 0).cfg.quorum ≤ C.honest.length
  two : 2 ≤ C.n

theorem RotCfg.has {C : SysCfg} (h : RotCfg C) (i j : Nat) (hi : i ∈ C.honest) : (C.rcfg j).cfg.has i = true := by
  have := h.range i hi
  simp [Cfg.has, RCfg.cfg, SysCfg.rcfg, this.1, this.2]

theorem RotCfg.quorum {C : SysCfg} (h : RotCfg C) (i : Nat) :
    2 ≤ (C.rcfg i).cfg.quorum ∧ (C.rcfg i).cfg.quorum ≤ C.n := by
  show 2 ≤ quorumSize C.n ∧ quorumSize C.n ≤ C.n
  exact quorum_le_n C.n h.two

/-- the fault-free configuration: all `n ≥ 2` replicas run the model, leader `L` is fixed, chained or
simplified HotStuff, plain timeout rule, ECDSA / EdDSA -/
structure HappyCfg (C : SysCfg) (L : Nat) : Prop where
  scheme : C.scheme ≠ .bls12
  agg : C.agg = false
  rules : C.rules = .chained ∨ C.rules = .simple
  leaders : C.leaders = .fixed L
  nodup : C.honest.Nodup
  range : ∀ i ∈ C.honest, 1 ≤ i ∧ i ≤ C.n
  all : C.honest.length = C.n
  leader : L ∈ C.honest
  two : 2 ≤ C.n

/-- `HappyCfg` with a silent minority: the `C.honest` replicas (pairwise different ids in `1..n`, at least a quorum of
them) run the model, the fixed leader `L` is one of them -/
structure HappyLive (C : SysCfg) (L : Nat) : Prop where
  scheme : C.scheme ≠ .bls12
  agg : C.agg = false
  rules : C.rules = .chained ∨ C.rules = .simple
  leaders : C.leaders = .fixed L
  nodup : C.honest.Nodup
  range : ∀ i ∈ C.honest, 1 ≤ i ∧ i ≤ C.n
  qh : (C.rcfg 0).cfg.quorum ≤ C.honest.length
  leader : L ∈ C.honest
  two : 2 ≤ C.n

theorem HappyLive.lead {C : SysCfg} {L : Nat} (h : HappyLive C L) (i v : Nat) : (C.rcfg i).leader v = L := by
  unfold RCfg.leader SysCfg.rcfg
  simp [h.leaders]

theorem HappyLive.toRot {C : SysCfg} {L : Nat} (h : HappyLive C L) : RotCfg C :=
  ⟨h.scheme, h.agg, h.rules, h.nodup, h.range, h.qh, h.two⟩

theorem HappyLive.has {C : SysCfg} {L : Nat} (h : HappyLive C L) (i j : Nat) (hi : i ∈ C.honest) : (C.rcfg j).cfg.has i = true :=
  h.toRot.has i j hi

theorem HappyLive.quorum {C : SysCfg} {L : Nat} (h : HappyLive C L) (i : Nat) :
    2 ≤ (C.rcfg i).cfg.quorum ∧ (C.rcfg i).cfg.quorum ≤ C.n :=
  h.toRot.quorum i

theorem HappyCfg.toLive {C : SysCfg} {L : Nat} (h : HappyCfg C L) : HappyLive C L :=
  ⟨h.scheme, h.agg, h.rules, h.leaders, h.nodup, h.range, by rw [h.all]; exact (quorum_le_n C.n h.two).2, h.leader, h.two⟩

theorem HappyCfg.lead {C : SysCfg} {L : Nat} (h : HappyCfg C L) (i v : Nat) : (C.rcfg i).leader v = L := h.toLive.lead i v

theorem HappyCfg.has {C : SysCfg} {L : Nat} (h : HappyCfg C L) (i j : Nat) (hi : i ∈ C.honest) : (C.rcfg j).cfg.has i = true :=
  h.toLive.has i j hi

theorem HappyCfg.quorum {C : SysCfg} {L : Nat} (h : HappyCfg C L) (i : Nat) :
    2 ≤ (C.rcfg i).cfg.quorum ∧ (C.rcfg i).cfg.quorum ≤ C.n :=
  h.toLive.quorum i

def othersOf (C : SysCfg) (L : Nat) : List Nat := C.honest.filter (· != L)

theorem filter_ne_length (l : List Nat) (a : Nat) (hn : l.Nodup) (hm : a ∈ l) : (l.filter (· != a)).length + 1 = l.length := by
  induction l with
  | nil => simp at hm
  | cons x rest ih =>
    rw [List.nodup_cons] at hn
    by_cases hx : x = a
    · subst hx
      have : rest.filter (· != x) = rest := by
        apply List.filter_eq_self.mpr
        intro y hy
        simp only [bne_iff_ne, ne_eq]
        exact fun e => hn.1 (e ▸ hy)
      simp [this]
    · have hm' : a ∈ rest := by
        simp only [List.mem_cons] at hm
        rcases hm with h | h
        · exact absurd h.symm hx
        · exact h
      have := ih hn.2 hm'
      simp [hx, this]

theorem mem_othersOf {C : SysCfg} {L i : Nat} : i ∈ othersOf C L ↔ i ∈ C.honest ∧ i ≠ L := by
  simp only [othersOf, List.mem_filter, bne_iff_ne, ne_eq]

/-- the replicas other than `L` when all `n` ids run the model -/
theorem othersOf_facts (C : SysCfg) (L : Nat) (hnd : C.honest.Nodup) (hL : L ∈ C.honest) (hall : C.honest.length = C.n) :
    (othersOf C L).Nodup ∧ (∀ i ∈ othersOf C L, i ∈ C.honest ∧ i ≠ L) ∧ (othersOf C L).length + 1 = C.n :=
  ⟨hnd.filter _, fun _ hi => mem_othersOf.mp hi, by rw [← hall]; exact filter_ne_length C.honest L hnd hL⟩

theorem flatMap_congr' {α β} (l : List α) (f g : α → List β) (h : ∀ x ∈ l, f x = g x) : l.flatMap f = l.flatMap g := by
  induction l with
  | nil => rfl
  | cons a rest ih =>
    simp only [List.flatMap_cons]
    rw [h a (by simp), ih (fun x hx => h x (by simp [hx]))]

theorem deliverAll_append (k : Keys) (C : SysCfg) (a b : Msgs) (x : SysState × Msgs) :
    deliverAll k C x (a ++ b) = deliverAll k C (deliverAll k C x a) b := by
  induction a generalizing x with
  | nil => rfl
  | cons m rest ih =>
    obtain ⟨σ, out⟩ := x
    obtain ⟨i, e⟩ := m
    simp only [List.cons_append, deliverAll]
    exact ih _

theorem deliverAll_one (k : Keys) (C : SysCfg) (σ : SysState) (acc : Msgs) (i : Nat) (e : Ev) :
    deliverAll k C (σ, acc) [(i, e)] =
      ((σ.runOut i (fun s => step k (C.rcfg i) s e)).1, acc ++ route C i (σ.runOut i (fun s => step k (C.rcfg i) s e)).2) := rfl

theorem deliverAll_acc (k : Keys) (C : SysCfg) (ms : Msgs) (σ : SysState) (acc : Msgs) :
    deliverAll k C (σ, acc) ms = ((deliverAll k C (σ, []) ms).1, acc ++ (deliverAll k C (σ, []) ms).2) := by
  induction ms generalizing σ acc with
  | nil => simp [deliverAll]
  | cons m rest ih =>
    obtain ⟨i, e⟩ := m
    simp only [deliverAll]
    rw [ih _ (acc ++ _), ih _ ([] ++ _), List.nil_append, List.append_assoc]

theorem deliver_senders (k : Keys) (C : SysCfg) (Phase : List Nat → SysState × Msgs → Prop) (msgs : Nat → Msgs) (good : Nat → Prop)
    (hone : ∀ (i : Nat) (done : List Nat) (x : SysState × Msgs), good i → i ∉ done → Phase done x →
      Phase (done ++ [i]) (deliverAll k C x (msgs i))) :
    ∀ (todo done : List Nat) (x : SysState × Msgs), todo.Nodup → (∀ i ∈ todo, good i ∧ i ∉ done) → Phase done x →
      Phase (done ++ todo) (deliverAll k C x (todo.flatMap msgs)) := by
  intro todo
  induction todo with
  | nil => intro done x _ _ h; rw [List.append_nil]; exact h
  | cons i rest ih =>
    intro done x hnd hmem h
    obtain ⟨hi, hid⟩ := hmem i (by simp)
    rw [List.flatMap_cons, deliverAll_append, show done ++ i :: rest = done ++ [i] ++ rest by simp]
    refine ih _ _ (List.nodup_cons.mp hnd).2 ?_ (hone i done x hi hid h)
    intro a ha
    refine ⟨(hmem a (by simp [ha])).1, ?_⟩
    simp only [List.mem_append, List.mem_singleton, not_or]
    exact ⟨(hmem a (by simp [ha])).2, fun e => (List.nodup_cons.mp hnd).1 (e ▸ ha)⟩

/-- `b`: the byte id of the entry `⟨i, m⟩` that the step of `i` leaves in the table; `G`: any fact about the table that growth
preserves -/
theorem deliver_each (k : Keys) (C : SysCfg) (ev : Ev) (m : Msg) (todo : List Nat)
    (Pre : Nat → RState → Prop) (Post : Nat → Nat → RState → Prop) (out : Nat → Nat → Msgs) (G : List (Nat × Atom) → Prop)
    (hG : ∀ T T' : List (Nat × Atom), G T → (∀ b a, T.lookup b = some a → T'.lookup b = some a) → G T')
    (hstep : ∀ (i : Nat) (s : RState), i ∈ todo → Pre i s → FreshS s → G s.truth →
      ∃ b, Post i b (step k (C.rcfg i) s ev).1 ∧
        (step k (C.rcfg i) s ev).1.truth.lookup b = some ⟨i, m⟩ ∧ route C i (step k (C.rcfg i) s ev).2 = out b i)
    (hpre : ∀ (i : Nat) (s : RState) (T : List (Nat × Atom)) (nb : Nat), Pre i s → Pre i { s with truth := T, nextBytes := nb })
    (σ : SysState) (hnd : todo.Nodup)
    (hfr : FreshL σ.truth σ.nextBytes) (hkeys : σ.reps.map (·.1) = C.honest) (hg : G σ.truth)
    (hreps : ∀ i ∈ todo, ∃ si, σ.reps.lookup i = some si ∧ Pre i si) (b0 : Nat → Nat) :
    ∃ (bytes : Nat → Nat) (σ' : SysState), (∀ i, i ∉ todo → bytes i = b0 i) ∧
      deliverAll k C (σ, []) (todo.map fun i => (i, ev)) = (σ', todo.flatMap fun i => out (bytes i) i) ∧
      FreshL σ'.truth σ'.nextBytes ∧ σ'.reps.map (·.1) = C.honest ∧ G σ'.truth ∧
      (∀ i ∈ todo, (∃ si, σ'.reps.lookup i = some si ∧ Post i (bytes i) si) ∧ σ'.truth.lookup (bytes i) = some ⟨i, m⟩) ∧
      (∀ b a, σ.truth.lookup b = some a → σ'.truth.lookup b = some a) ∧
      (∀ i, i ∉ todo → σ'.reps.lookup i = σ.reps.lookup i) := by
  let Phase : List Nat → SysState × Msgs → Prop := fun done x =>
    ∃ bytes : Nat → Nat, (∀ i, i ∉ done → bytes i = b0 i) ∧ x.2 = done.flatMap (fun i => out (bytes i) i) ∧
      FreshL x.1.truth x.1.nextBytes ∧ x.1.reps.map (·.1) = C.honest ∧ G x.1.truth ∧
      (∀ i ∈ done, (∃ si, x.1.reps.lookup i = some si ∧ Post i (bytes i) si) ∧ x.1.truth.lookup (bytes i) = some ⟨i, m⟩) ∧
      (∀ b a, σ.truth.lookup b = some a → x.1.truth.lookup b = some a) ∧
      (∀ i, i ∉ done → x.1.reps.lookup i = σ.reps.lookup i)
  have hone : ∀ (i : Nat) (done : List Nat) (x : SysState × Msgs), i ∈ todo → i ∉ done → Phase done x →
      Phase (done ++ [i]) (deliverAll k C x [(i, ev)]) := by
    rintro i done ⟨σ1, acc⟩ hi hid ⟨bytes, hb0, hacc, hfr1, hkeys1, hg1, hdone, hle, hsame⟩
    obtain ⟨si, hli, hpi⟩ := hreps i hi
    rw [← hsame i hid] at hli
    obtain ⟨b, hpost, hbt, hroute⟩ := hstep i { si with truth := σ1.truth, nextBytes := σ1.nextBytes } hi
      (hpre i si _ _ hpi) hfr1 hg1
    have hf1 := step_fresh k (C.rcfg i) { si with truth := σ1.truth, nextBytes := σ1.nextBytes } ev hfr1
    have hext := step_ext k (C.rcfg i) { si with truth := σ1.truth, nextBytes := σ1.nextBytes } ev hfr1.2
    obtain ⟨⟨rs, ro, rk, r2, r3⟩, r4⟩ := runOut_spec σ1 i (fun s => step k (C.rcfg i) s ev) si hli
    have hTle : ∀ x a, σ1.truth.lookup x = some a →
        (σ1.runOut i (fun s => step k (C.rcfg i) s ev)).1.truth.lookup x = some a := by
      intro x a hx; rw [r2]; exact hext.truth x a hx
    have hb1 : ∀ x, x ≠ i → (if x = i then b else bytes x) = bytes x := fun x h => if_neg h
    have hb2 : (if i = i then b else bytes i) = b := if_pos rfl
    rw [deliverAll_one]
    refine ⟨fun x => if x = i then b else bytes x,
      fun x hx => by
        simp only [List.mem_append, List.mem_singleton, not_or] at hx
        exact (hb1 x hx.2).trans (hb0 x hx.1),
      ?_, by rw [r2, r3]; exact hf1,
      rk.trans hkeys1, hG _ _ hg1 hTle, ?_,
      fun x a hx => hTle x a (hle x a hx), ?_⟩
    · have hacc : acc = _ := hacc
      show acc ++ route C i _ = _
      rw [r4, hroute, hacc, List.flatMap_append]
      congr 1
      · exact flatMap_congr' _ _ _ (fun x hx => by dsimp only; rw [hb1 x (fun e => hid (e ▸ hx))])
      · rw [List.flatMap_cons, List.flatMap_nil, List.append_nil]; dsimp only; rw [hb2]
    · intro x hx
      dsimp only
      simp only [List.mem_append, List.mem_singleton] at hx
      rcases hx with hx | rfl
      · obtain ⟨⟨sx, h1, h2⟩, h3⟩ := hdone x hx
        have hxi : x ≠ i := fun e => hid (e ▸ hx)
        rw [hb1 x hxi, ro _ hxi]
        exact ⟨⟨sx, h1, h2⟩, hTle _ _ h3⟩
      · rw [hb2, rs, r2]
        exact ⟨⟨_, rfl, hpost⟩, hbt⟩
    · intro x hx
      simp only [List.mem_append, List.mem_singleton, not_or] at hx
      rw [ro _ hx.2]
      exact hsame x hx.1
  obtain ⟨bytes, h0, h1, h2, h3, h4, h5, h6, h7⟩ := deliver_senders k C Phase (fun i => [(i, ev)]) (· ∈ todo) hone todo [] (σ, []) hnd
    (fun i hi => ⟨hi, List.not_mem_nil⟩) ⟨b0, fun _ _ => rfl, rfl, hfr, hkeys, hg, by simp, fun _ _ h => h, fun _ _ => rfl⟩
  rw [List.nil_append] at h0 h1 h5 h7
  rw [← List.map_eq_flatMap] at h1 h2 h3 h4 h5 h6 h7
  exact ⟨bytes, _, h0, Prod.ext rfl h1, h2, h3, h4, h5, h6, h7⟩

theorem deliver_list (k : Keys) (C : SysCfg) (msg : Nat → Nat × Ev) (ok : Nat → Prop) (Inv : List Nat → SysState × Msgs → Prop)
    (hstep : ∀ done σ acc j, Inv done (σ, acc) → ok j → j ∉ done → Inv (done ++ [j]) (deliverAll k C (σ, acc) [msg j]))
    (ord : List Nat) (x : SysState × Msgs) (h0 : Inv [] x) (hnd : ord.Nodup) (hok : ∀ j ∈ ord, ok j) :
    Inv ord (deliverAll k C x (ord.map msg)) := by
  have := deliver_senders k C Inv (fun j => [msg j]) ok (fun j done x hj hn h => hstep done x.1 x.2 j h hj hn) ord [] x hnd
    (fun j hj => ⟨hok j hj, List.not_mem_nil⟩) h0
  rwa [List.nil_append, ← List.map_eq_flatMap] at this

theorem runOut_noop (σ : SysState) (L : Nat) (f : RState → RState × List Out) (sL : RState)
    (hl : σ.reps.lookup L = some sL)
    (hf : f { sL with truth := σ.truth, nextBytes := σ.nextBytes } =
      ({ ({ sL with truth := σ.truth, nextBytes := σ.nextBytes } : RState) with out := [] }, [])) :
    Acts σ L { ({ sL with truth := σ.truth, nextBytes := σ.nextBytes } : RState) with out := [] } (σ.runOut L f).1 ∧
    (σ.runOut L f).1.truth = σ.truth ∧ (σ.runOut L f).1.nextBytes = σ.nextBytes ∧ (σ.runOut L f).2 = [] := by
  obtain ⟨h1, h4⟩ := runOut_spec σ L f sL hl
  rw [hf] at h1 h4
  exact ⟨h1, h1.truth, h1.next, h4⟩

theorem deliver_effect (k : Keys) (C : SysCfg) (σ : SysState) (acc : Msgs) (j : Nat) (e : Ev) (s : RState)
    (hl : σ.reps.lookup j = some s) :
    ∃ σ', deliverAll k C (σ, acc) [(j, e)] =
        (σ', acc ++ route C j (step k (C.rcfg j) { s with truth := σ.truth, nextBytes := σ.nextBytes } e).2) ∧
      Acts σ j (step k (C.rcfg j) { s with truth := σ.truth, nextBytes := σ.nextBytes } e).1 σ' := by
  obtain ⟨ra, r4⟩ := runOut_spec σ j (fun s => step k (C.rcfg j) s e) s hl
  exact ⟨(σ.runOut j (fun s => step k (C.rcfg j) s e)).1, by rw [deliverAll_one, r4], ra⟩

theorem deliver_frame (k : Keys) (C : SysCfg) (σ : SysState) (acc : Msgs) (j : Nat) (e : Ev) (s : RState)
    (hl : σ.reps.lookup j = some s) (hf : FreshL σ.truth σ.nextBytes) :
    ∃ σ', deliverAll k C (σ, acc) [(j, e)] =
        (σ', acc ++ route C j (step k (C.rcfg j) { s with truth := σ.truth, nextBytes := σ.nextBytes } e).2) ∧
      Acts σ j (step k (C.rcfg j) { s with truth := σ.truth, nextBytes := σ.nextBytes } e).1 σ' ∧
      FreshL σ'.truth σ'.nextBytes ∧ ∀ b a, σ.truth.lookup b = some a → σ'.truth.lookup b = some a := by
  obtain ⟨σ', hd, ra⟩ := deliver_effect k C σ acc j e s hl
  refine ⟨σ', hd, ra, ?_, ?_⟩
  · rw [ra.truth, ra.next]; exact step_fresh k (C.rcfg j) { s with truth := σ.truth, nextBytes := σ.nextBytes } e hf
  · rw [ra.truth]; exact (step_ext k (C.rcfg j) { s with truth := σ.truth, nextBytes := σ.nextBytes } e hf.2).truth

def recUpd (rec : Nat → List Nat) (j i : Nat) : Nat → List Nat := fun x => if x = j then rec j ++ [i] else rec x

theorem recUpd_same (rec : Nat → List Nat) (j i : Nat) : recUpd rec j i j = rec j ++ [i] := by simp [recUpd]
theorem recUpd_other (rec : Nat → List Nat) (j i x : Nat) (h : x ≠ j) : recUpd rec j i x = rec x := by simp [recUpd, h]

/-- the record of processed senders after the deliveries `msgs` (pairs receiver, sender) -/
def recAll (rec : Nat → List Nat) : List (Nat × Nat) → Nat → List Nat
  | [] => rec
  | (j, i) :: rest => recAll (recUpd rec j i) rest

theorem recAll_mem (msgs : List (Nat × Nat)) : ∀ (rec : Nat → List Nat) (j i : Nat),
    (i ∈ rec j ∨ (j, i) ∈ msgs) → i ∈ recAll rec msgs j := by
  induction msgs with
  | nil => intro rec j i h; rcases h with h | h; exact h; simp at h
  | cons p rest ih =>
    intro rec j i h
    obtain ⟨j', i'⟩ := p
    unfold recAll
    apply ih
    rcases h with h | h
    · left
      by_cases hjj : j = j'
      · subst hjj; rw [recUpd_same]; simp [h]
      · rw [recUpd_other _ _ _ _ hjj]; exact h
    · simp only [List.mem_cons, Prod.mk.injEq] at h
      rcases h with ⟨rfl, rfl⟩ | h
      · left; rw [recUpd_same]; simp
      · right; exact h

theorem deliver_pairs (k : Keys) (C : SysCfg) (msg : Nat → Nat → Nat × Ev) (ok : Nat → Nat → Prop)
    (Inv : (Nat → List Nat) → SysState × Msgs → Prop)
    (step : ∀ (rec : Nat → List Nat) (σ : SysState) (acc : Msgs) (j i : Nat), Inv rec (σ, acc) → ok j i → i ∉ rec j →
      Inv (recUpd rec j i) (deliverAll k C (σ, acc) [msg j i])) :
    ∀ (msgs : List (Nat × Nat)) (rec : Nat → List Nat) (x : SysState × Msgs),
      Inv rec x → msgs.Nodup → (∀ p ∈ msgs, ok p.1 p.2 ∧ p.2 ∉ rec p.1) →
      Inv (recAll rec msgs) (deliverAll k C x (msgs.map fun p => msg p.1 p.2)) := by
  intro msgs
  induction msgs with
  | nil => intro rec x h _ _; exact h
  | cons p rest ih =>
    intro rec x h hnd hall
    obtain ⟨j, i⟩ := p
    obtain ⟨σ, acc⟩ := x
    obtain ⟨h1, h4⟩ := hall (j, i) (by simp)
    have hstep := step rec σ acc j i h h1 h4
    simp only [List.map_cons]
    rw [show (msg j i :: rest.map fun p => msg p.1 p.2) = [msg j i] ++ rest.map fun p => msg p.1 p.2 from rfl, deliverAll_append]
    unfold recAll
    apply ih _ _ hstep (List.nodup_cons.mp hnd).2
    intro p hp
    obtain ⟨q1, q4⟩ := hall p (by simp [hp])
    refine ⟨q1, ?_⟩
    by_cases hpj : p.1 = j
    · rw [hpj, recUpd_same]
      simp only [List.mem_append, List.mem_singleton, not_or]
      refine ⟨by rw [← hpj]; exact q4, ?_⟩
      intro e
      have : p = (j, i) := by
        obtain ⟨a, b⟩ := p
        simp only at hpj e
        rw [hpj, e]
      exact (List.nodup_cons.mp hnd).1 (this ▸ hp)
    · rw [recUpd_other _ _ _ _ hpj]; exact q4

/-- the initial replica state with a table installed: what a replica is after a `start` that did nothing -/
def InitialRep (s : RState) : Prop := ∃ T nb, s = { ({ ({} : RState) with truth := T, nextBytes := nb } : RState) with out := [] }

theorem InitialRep.base {cL : Who} {sg : Nat → Sig} {s : RState} (h : InitialRep s) : Base cL sg 0 s := by
  obtain ⟨T, nb, rfl⟩ := h
  exact ⟨rfl, rfl, rfl, rfl, rfl, rfl, rfl, rfl, rfl, rfl, rfl⟩

theorem startAll_append (k : Keys) (C : SysCfg) (a b : List Nat) (x : SysState × Msgs) :
    startAll k C x (a ++ b) = startAll k C (startAll k C x a) b := by
  induction a generalizing x with
  | nil => rfl
  | cons i rest ih =>
    obtain ⟨σ, out⟩ := x
    simp only [List.cons_append, startAll]
    exact ih _

theorem startAll_idle (k : Keys) (C : SysCfg) (L : Nat) (hL : ∀ i, (C.rcfg i).leader 1 = L) :
    ∀ (todo : List Nat) (σ : SysState) (acc : Msgs), L ∉ todo → todo.Nodup → (∀ i ∈ todo, σ.reps.lookup i = some {}) →
      ∃ σ', startAll k C (σ, acc) todo = (σ', acc) ∧ σ'.truth = σ.truth ∧ σ'.nextBytes = σ.nextBytes ∧
        (∀ i ∈ todo, ∃ s, σ'.reps.lookup i = some s ∧ InitialRep s) ∧
        ∀ i, i ∉ todo → σ'.reps.lookup i = σ.reps.lookup i := by
  intro todo
  induction todo with
  | nil => intro σ acc _ _ _; exact ⟨σ, rfl, rfl, rfl, fun _ h => by simp at h, fun _ _ => rfl⟩
  | cons i rest ih =>
    intro σ acc hLt hnd hall
    have hiL : i ≠ L := fun e => hLt (by simp [e])
    have hno := start_nonleader k (C.rcfg i) { ({} : RState) with truth := σ.truth, nextBytes := σ.nextBytes } rfl
      (by rw [hL]; exact fun e => hiL e.symm)
    obtain ⟨ra, r2, r3, r4⟩ := runOut_noop σ i (start k (C.rcfg i)) {} (hall i (by simp)) hno
    obtain ⟨σ', e, t, n, hd, ho⟩ := ih (σ.runOut i (start k (C.rcfg i))).1 acc (fun h => hLt (by simp [h]))
      (List.nodup_cons.mp hnd).2 (fun j hj => by
        rw [ra.others j (fun e => (List.nodup_cons.mp hnd).1 (e ▸ hj))]; exact hall j (by simp [hj]))
    refine ⟨σ', ?_, t.trans r2, n.trans r3, ?_, ?_⟩
    · show startAll k C ((σ.runOut i (start k (C.rcfg i))).1, acc ++ route C i (σ.runOut i (start k (C.rcfg i))).2) rest = _
      rw [r4]
      simpa [route] using e
    · intro j hj
      rcases List.mem_cons.mp hj with rfl | hj
      · exact ⟨_, (ho j (List.nodup_cons.mp hnd).1).trans ra.self, _, _, rfl⟩
      · exact hd j hj
    · intro j hj
      simp only [List.mem_cons, not_or] at hj
      rw [ho j hj.2, ra.others j hj.1]

theorem startAll_leader (k : Keys) (C : SysCfg) (L : Nat) (hL : ∀ i, (C.rcfg i).leader 1 = L) (todo : List Nat) (σ : SysState)
    (hLt : L ∈ todo) (hnd : todo.Nodup) (hall : ∀ i ∈ todo, σ.reps.lookup i = some {}) :
    let r := start k (C.rcfg L) { ({} : RState) with truth := σ.truth, nextBytes := σ.nextBytes }
    ∃ σ', startAll k C (σ, []) todo = (σ', route C L r.2) ∧ σ'.reps.lookup L = some r.1 ∧
      σ'.truth = r.1.truth ∧ σ'.nextBytes = r.1.nextBytes ∧
      ∀ i ∈ todo, i ≠ L → ∃ s, σ'.reps.lookup i = some s ∧ InitialRep s := by
  intro r
  obtain ⟨pre, post, rfl⟩ := List.append_of_mem hLt
  obtain ⟨npre, npost, hdis⟩ := List.nodup_append.mp hnd
  have hLpre : L ∉ pre := fun h => hdis L h L (by simp) rfl
  obtain ⟨σ1, e1, t1, n1, d1, o1⟩ := startAll_idle k C L hL pre σ [] hLpre npre (fun i hi => hall i (by simp [hi]))
  obtain ⟨⟨rs, ro, _, r2, r3⟩, r4⟩ := runOut_spec σ1 L (start k (C.rcfg L)) {}
    (by rw [o1 L hLpre]; exact hall L (by simp))
  rw [t1, n1] at rs r2 r3 r4
  obtain ⟨σ2, e2, t2, n2, d2, o2⟩ := startAll_idle k C L hL post (σ1.runOut L (start k (C.rcfg L))).1 (route C L r.2)
    (List.nodup_cons.mp npost).1 (List.nodup_cons.mp npost).2 (fun i hi => by
      rw [ro i (fun e => (List.nodup_cons.mp npost).1 (e ▸ hi)),
        o1 i (fun h => hdis i h i (by simp [hi]) rfl)]
      exact hall i (by simp [hi]))
  refine ⟨σ2, ?_, (o2 L (List.nodup_cons.mp npost).1).trans rs, t2.trans r2, n2.trans r3, fun i hi hiL => ?_⟩
  · rw [startAll_append, e1]
    show startAll k C ((σ1.runOut L (start k (C.rcfg L))).1, [] ++ route C L (σ1.runOut L (start k (C.rcfg L))).2) post = _
    rw [r4]
    simpa using e2
  · rcases List.mem_append.mp hi with hp | hp
    · obtain ⟨s, h1, h2⟩ := d1 i hp
      exact ⟨s, by rw [o2 i (fun h => hdis i hp i (by simp [h]) rfl), ro i hiL]; exact h1, h2⟩
    · exact d2 i ((List.mem_cons.mp hp).resolve_left hiL)

theorem syncStart_leader (k : Keys) (C : SysCfg) (L : Nat) (hL : ∀ i, (C.rcfg i).leader 1 = L) (hLm : L ∈ C.honest)
    (hnd : C.honest.Nodup) :
    let r := start k (C.rcfg L) { ({} : RState) with truth := [], nextBytes := 1 }
    (syncStart k C).2 = route C L r.2 ∧ (syncStart k C).1.reps.lookup L = some r.1 ∧
      (syncStart k C).1.truth = r.1.truth ∧ (syncStart k C).1.nextBytes = r.1.nextBytes ∧
      ∀ i ∈ C.honest, i ≠ L → ∃ s, (syncStart k C).1.reps.lookup i = some s ∧ InitialRep s := by
  intro r
  obtain ⟨σ', e, hl, t, n, hd⟩ := startAll_leader k C L hL C.honest (sysInit k C) hLm hnd
    (fun i hi => by show (C.honest.map (fun i => (i, ({} : RState)))).lookup i = _; rw [lookup_init, if_pos hi])
  have e' : syncStart k C = (σ', route C L r.2) := e
  rw [e']
  exact ⟨rfl, hl, t, n, hd⟩

theorem syncRun_phases (k : Keys) (C : SysCfg) (even odd : Nat → SysState × Msgs → Prop) (h0 : even 0 (syncStart k C))
    (hEO : ∀ j x, even j x → odd j (syncRound k C x)) (hOE : ∀ j x, odd j x → even (j + 1) (syncRound k C x)) (j : Nat) :
    even j (syncRun k C (2 * j)) ∧ odd j (syncRun k C (2 * j + 1)) := by
  induction j with
  | zero => exact ⟨h0, hEO 0 _ h0⟩
  | succ j ih =>
    have hE : even (j + 1) (syncRun k C (2 * (j + 1))) := by
      rw [show 2 * (j + 1) = (2 * j + 1) + 1 by omega]
      exact hOE j _ ih.2
    exact ⟨hE, hEO (j + 1) _ hE⟩

theorem phase_at {α : Type} {even odd : Nat → α → Prop} (f : Nat → α) (h : ∀ j, even j (f (2 * j)) ∧ odd j (f (2 * j + 1)))
    (r : Nat) : (r % 2 = 0 ∧ even (r / 2) (f r)) ∨ (r % 2 = 1 ∧ odd (r / 2) (f r)) := by
  obtain ⟨hE, hO⟩ := h (r / 2)
  rcases Nat.mod_two_eq_zero_or_one r with h2 | h2
  · rw [show 2 * (r / 2) = r by omega] at hE; exact Or.inl ⟨h2, hE⟩
  · rw [show 2 * (r / 2) + 1 = r by omega] at hO; exact Or.inr ⟨h2, hO⟩

end HsVerif.Model
