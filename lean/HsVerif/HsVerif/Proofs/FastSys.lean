import HsVerif.Proofs.SysLedger
import HsVerif.Proofs.ReplicaFastLock
/-!
C01, Fast-HotStuff, system layer: THE SYSTEM OF REPLICA MODELS IS SAFE UNDER FAST-HOTSTUFF.  The property theorems are in
Props/C01FastSys.lean.  Namespace `HsVerif.Safety` has the UNTIMED abstract argument over `Safety.Sys`: `FastDiscipline S`
is `VoteDiscipline S` plus `lockjust` (the QC views of an honest replica's votes never go down) in place of the lock rule,
and `TwoChain` is the commit condition.  Namespace `HsVerif.FastSys` instantiates it under `FCtx k C σ blk`: `rules = .fast`
and content addressing `CA` — the conjunct of `CA'` about the empty hash is NOT needed: Fast-HotStuff has no lock, and
`CommitChain` for `.fast` carries its own `≠ ""` clauses.  With `FTip` as commit condition Fast-HotStuff satisfies the
hypotheses `LCtx` of the ledger argument of Proofs/SysLedger.lean.
-/
namespace HsVerif.Safety

/-- As `Discipline`, with the lock rule replaced by `lockjust` (votes of one honest replica have pairwise
different views, so "`x` was voted before `w`" is "`view x < view w`"). -/
structure FastDiscipline (S : Sys) : Prop where
  gen_view : S.view S.gen = 0
  par_gen : S.par S.gen = S.gen
  inter : ∀ Q1 Q2, S.Quorum Q1 → S.Quorum Q2 → ∃ r, Q1 r ∧ Q2 r ∧ S.honest r
  one_per_view : ∀ r x y, S.honest r → S.voted r x → S.voted r y → S.view x = S.view y → x = y
  wf : ∀ r w, S.honest r → S.voted r w → GC S (S.par w) ∧ S.view (S.par w) < S.view w
  lockjust : ∀ r x w, S.honest r → S.voted r x → S.voted r w → S.view x < S.view w →
    S.view (S.par x) ≤ S.view (S.par w)

theorem FastDiscipline.base {S : Sys} (D : FastDiscipline S) : VoteDiscipline S :=
  ⟨D.gen_view, D.par_gen, D.inter, D.one_per_view, D.wf⟩

variable {S : Sys}

structure TwoChain (b0 b1 : S.Blk) : Prop where
  p1 : S.par b1 = b0
  v1 : S.view b1 = S.view b0 + 1
  cert : Certified S b1

section
variable (D : FastDiscipline S)
include D

theorem TwoChain.gc {b0 b1 : S.Blk} (T : TwoChain (S := S) b0 b1) : GC S b0 :=
  T.p1 ▸ (D.base.cert_par T.cert).1

theorem TwoChain.ext {b0 b1 : S.Blk} (T : TwoChain (S := S) b0 b1)
    (w : S.Blk) (hw : GC S w) (hge : S.view b0 ≤ S.view w) : Ext S w b0 := by
  refine extends_of_step (by rw [D.gen_view]; omega) (fun x hx hv => D.base.gc_unique hx (T.gc D) hv)
    (fun w hw hlt => ?_) w hw hge
  -- a certified block above `b0` extends its parent, which is not below `b0`
  obtain ⟨hpgc, hplt⟩ := D.base.cert_par hw
  refine ⟨S.par w, hpgc, ?_, hplt, Ext.step (Ext.refl _)⟩
  by_cases h1 : S.view w = S.view b1
  · rw [D.base.gc_unique (Or.inr hw) (Or.inr T.cert) h1, T.p1]; exact Nat.le_refl _
  · -- above the chain: an honest voter of both `b1` and `w` kept `lockjust`
    obtain ⟨r, hh, hvb, hvw⟩ := common_voter D.inter T.cert hw
    have := D.lockjust r b1 w hh hvb hvw (by have := T.v1; omega)
    rwa [T.p1] at this

theorem TwoChain.final {b0 b1 : S.Blk} (T : TwoChain (S := S) b0 b1) : Final S b0 := ⟨T.gc D, T.ext D⟩

theorem fast_committed_on_one_branch {b0 b1 c0 c1 : S.Blk}
    (Tb : TwoChain (S := S) b0 b1) (Tc : TwoChain (S := S) c0 c1) : Ext S b0 c0 ∨ Ext S c0 b0 :=
  (Tb.final D).total (Tc.final D)

end
end HsVerif.Safety

namespace HsVerif.FastSys
open HsVerif.Model HsVerif.Props.C01Sys HsVerif.Props.C01SysWF HsVerif.Safety HsVerif.SysSafety

/-- `QCInv` reads the ghost history and `lastVoted` only -/
theorem reach_qcInv (k : Keys) (C : SysCfg) (σ : SysState) (hr : Reach k C σ) :
    ∀ i s, σ.reps.lookup i = some s → QCInv k (C.rcfg i) s :=
  reach_rep k C (fun i s => QCInv k (C.rcfg i) s) (fun _ => qcInv_init k _) (fun _ _ _ _ h => h) (fun _ _ _ h => h)
    (fun _ => start_q k _) (fun _ => step_q k _) σ hr

structure FCtx (k : Keys) (C : SysCfg) (σ : SysState) (blk : Hash → Block) : Prop where
  hk : KeysOK k
  hr : Reach k C σ
  hn : 1 ≤ C.n
  hf : FewFaulty C
  hsch : C.scheme ≠ .bls12
  hrl : C.rules = .fast
  hca : CA σ blk

def FTip (C : SysCfg) (σ : SysState) (blk : Hash → Block) (x : Block) : Prop :=
  x = genesisBlock ∨ ∃ b1, TwoChain (S := SysAbs C σ blk) x b1

section
variable {k : Keys} {C : SysCfg} {σ : SysState} {blk : Hash → Block} (X : FCtx k C σ blk)
include X

theorem FCtx.base : Base k C σ blk := ⟨X.hk, X.hr, X.hn, X.hf, X.hsch, X.hca⟩

theorem FCtx.stored {i : Nat} {s : RState} {h : Hash} {b : Block} (hs : σ.reps.lookup i = some s)
    (hb : sget s h = some b) : b = blk h ∧ b.hash = h :=
  X.base.stored hs hb

theorem FCtx.lockjust : ∀ r x w, (SysAbs C σ blk).honest r → (SysAbs C σ blk).voted r x → (SysAbs C σ blk).voted r w →
    (SysAbs C σ blk).view x < (SysAbs C σ blk).view w →
    (SysAbs C σ blk).view ((SysAbs C σ blk).par x) ≤ (SysAbs C σ blk).view ((SysAbs C σ blk).par w) := by
  intro r x w _ ⟨s, idx, hs, hx⟩ ⟨s', id, hs', hw⟩ hlt
  obtain rfl : s' = s := Option.some.inj (hs'.symm.trans hs)
  obtain ⟨pre, post, he⟩ := List.append_of_mem hw
  obtain ⟨h3, hq⟩ := reach_qcInv k C σ X.hr r s' hs
  have hxpre := ghost_before k _ s' h3 pre post x w idx id he hx hlt
  have hord : QCOrd s'.ghost := hq X.hrl
  unfold QCOrd at hord
  rw [he, List.pairwise_append] at hord
  have hle : x.qc.view ≤ w.qc.view := hord.2.2 _ hxpre (GRec.vote w id) (by simp) x.qc.view w.qc.view rfl rfl
  show Block.view ((SysAbs C σ blk).par x) ≤ Block.view ((SysAbs C σ blk).par w)
  rw [(X.base.voted hs hx).qcv, (X.base.voted hs hw).qcv]; exact hle

theorem FCtx.discipline : FastDiscipline (SysAbs C σ blk) :=
  { X.base.vd with lockjust := X.lockjust }

theorem FCtx.two {i : Nat} {s : RState} {x p g : Block} {id : Nat} (hs : σ.reps.lookup i = some s)
    (hm : GRec.vote x id ∈ s.ghost) (h1 : sget s x.qc.hash = some p) (h2 : sget s p.qc.hash = some g)
    (hp : p.parent = g.hash) (v : p.view = g.view + 1) : TwoChain (S := SysAbs C σ blk) g p := by
  have hne : p ≠ genesisBlock := by
    intro e; rw [e] at v; exact absurd v (by show (0 : Nat) ≠ _; omega)
  have hgc : GC (SysAbs C σ blk) p := X.base.link_voted hs hm h1 ▸ (X.base.voted hs hm).gc
  refine ⟨?_, v, hgc.resolve_left hne⟩
  rw [sysAbs_par, if_neg hne, hp]
  exact (X.base.stored_known hs h2).symm

theorem FCtx.commit_chain {i : Nat} {s : RState} {x g : Block} {id : Nat} (hs : σ.reps.lookup i = some s)
    (hm : GRec.vote x id ∈ s.ghost) (h : CommitChain (C.rcfg i) s x g) :
    ∃ p, TwoChain (S := SysAbs C σ blk) g p := by
  have hr : (C.rcfg i).rules = .fast := X.hrl
  simp only [CommitChain, hr] at h
  obtain ⟨p, _, l1, _, l2, _, _, hp, v⟩ := h
  exact ⟨p, X.two hs hm l1 l2 hp v⟩

theorem FCtx.commit : LCtx k C σ blk (FTip C σ blk) where
  base := X.base
  gen := Or.inl rfl
  rule hs hm h := Or.inr (X.commit_chain hs hm h)
  final h := by
    rcases h with rfl | ⟨b1, T⟩
    · exact X.base.vd.final_gen
    · exact T.final X.discipline

theorem FCtx.committed {i : Nat} {s : RState} (hs : σ.reps.lookup i = some s) :
    s.committed = genesisBlock ∨ ∃ p, TwoChain (S := SysAbs C σ blk) s.committed p :=
  X.commit.committed hs

end
end HsVerif.FastSys
