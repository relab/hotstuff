import HsVerif.Proofs.ReplicaCur
import HsVerif.Proofs.ReplicaView
/-!
Primitive updates that CARRY THEIR EVIDENCE.  `EUpd k c s0` is `Upd` with, for the three kinds of update that the
invariants of C03 and C07 do not keep unconditionally, what the handler has established when it performs them, about
the state AT the update: `voted` — what `voterVerify` checked (`VoteEv`); `highQC` — the certificate has passed the
verifier and `nb` is the stored block of its hash; `adv` — the certified view is backed by a verified certificate.
`ESteps k c s0` is its closure from the state `s0` in which the handler started.  An invariant that holds after every
assignment reads this trace: one case per kind of update it does not keep unconditionally.
-/
open Std.Do
namespace HsVerif.Model
open HsVerif.Proofs

/-- the certificate `q` has passed the verifier, as seen from the later state `s` of a handler started in `s0`: its
block is stored with its view; it verifies in `s` itself if the signature table was `Fresh` in `s0` (signing has not
overwritten an entry since) -/
structure CertAt (k : Keys) (c : RCfg) (s0 : RState) (q : QC) (s : RState) : Prop where
  seen : ∃ s1 : RState, verifyQC (env k c s1) q = true
  block : QCBlockView q s
  now : Fresh s0 → verifyQC (env k c s) q = true

theorem CertAt.of_verify {k : Keys} {c : RCfg} {s0 : RState} {q : QC} {s : RState} (h : verifyQC (env k c s) q = true) :
    CertAt k c s0 q s :=
  ⟨⟨s, h⟩, verifyQC_blockView k c s q h, fun _ => h⟩

theorem CertAt.mono {k : Keys} {c : RCfg} {s0 : RState} {q : QC} {t : Tag} {s s' : RState} (h : CertAt k c s0 q s)
    (hu : Upd t s s') (hf : Fresh s0 → Fresh s) : CertAt k c s0 q s' :=
  ⟨h.seen, h.block.mono hu.chainGrows, fun h0 => verifyQC_ext k c s s' q (hu.ext (hf h0)) (h.now h0)⟩

structure VoteEv (k : Keys) (c : RCfg) (s0 : RState) (id : Nat) (b : Block) (s : RState) : Prop where
  newer : s.lastVoted < b.view
  leader : id = c.leader b.view
  parent : b.parent = b.qc.hash
  below : b.qc.view < b.view
  cert : CertAt k c s0 b.qc s
  fast : ∃ agg, FastOK c b agg s.ghost

theorem VoteEv.facts {k : Keys} {c : RCfg} {s0 : RState} {id : Nat} {b : Block} {s : RState} (e : VoteEv k c s0 id b s) :
    Facts k c b id :=
  ⟨e.leader, e.parent, e.below, e.cert.seen⟩

abbrev evTags : List Tag := [.voted, .highQC, .adv]

inductive EUpd (k : Keys) (c : RCfg) (s0 : RState) : Tag → RState → RState → Prop
  | plain {t : Tag} {s s' : RState} : Upd t s s' → t ∉ evTags → EUpd k c s0 t s s'
  | voted (s : RState) (b : Block) (id : Nat) : VoteEv k c s0 id b s →
      EUpd k c s0 .voted s { s with lastVoted := b.view, ghost := s.ghost ++ [.vote b id] }
  | highQC (s : RState) (q : QC) (nb : Block) : CertAt k c s0 q s → s.chain.blocks.lookup q.hash = some nb →
      EUpd k c s0 .highQC s { s with highQC := if nb.view ≤ s.highQC.view then s.highQC else q }
  | adv (s : RState) (view : Nat) (timeout : Bool) : ¬ view < s.view → (view = 0 ∨ Evidence k c view) →
      EUpd k c s0 .adv s { s with view := view + 1, lastTimeout := none, ghost := s.ghost ++ [.adv s.view view timeout] }

theorem EUpd.upd {k : Keys} {c : RCfg} {s0 : RState} {t : Tag} {s s' : RState} (h : EUpd k c s0 t s s') : Upd t s s' := by
  cases h with
  | plain hu _ => exact hu
  | voted s b id _ => exact .voted s b id
  | highQC s q nb _ _ => exact .highQC s q nb
  | adv s v t hv _ => exact .adv s v t hv

inductive ESteps (k : Keys) (c : RCfg) (s0 : RState) : RState → Prop
  | refl : ESteps k c s0 s0
  | snoc {s s' : RState} {t : Tag} : ESteps k c s0 s → EUpd k c s0 t s s' → ESteps k c s0 s'

theorem ESteps.fresh {k : Keys} {c : RCfg} {s0 s : RState} (h : ESteps k c s0 s) (h0 : Fresh s0) : Fresh s := by
  induction h with
  | refl => exact h0
  | snoc _ hu ih => exact (hu.upd.ext ih).fresh

theorem ESteps.preserves {k : Keys} {c : RCfg} {s0 : RState} {P : RState → Prop}
    (hu : ∀ {t s s'}, EUpd k c s0 t s s' → P s → P s') {s : RState} (h : ESteps k c s0 s) (hp : P s0) : P s := by
  induction h with
  | refl => exact hp
  | snoc _ hu' ih => exact hu hu' ih

theorem EUpd.of_voted {k : Keys} {c : RCfg} {s0 : RState} {P : RState → Prop}
    (hu : ∀ {t s s'}, Upd t s s' → t ∉ [Tag.voted] → P s → P s')
    (hv : ∀ s b id, VoteEv k c s0 id b s → P s → P { s with lastVoted := b.view, ghost := s.ghost ++ [.vote b id] })
    {t : Tag} {s s' : RState} (h : EUpd k c s0 t s s') (hp : P s) : P s' := by
  cases h with
  | plain hu' ht => exact hu hu' (fun hm => ht (List.mem_cons.2 (Or.inl (List.mem_singleton.1 hm)))) hp
  | voted s b id e => exact hv s b id e hp
  | highQC s q nb => exact hu (.highQC s q nb) (by decide) hp
  | adv s v t hv => exact hu (.adv s v t hv) (by decide) hp

section Chain
variable (k : Keys) (c : RCfg) (s0 : RState)

theorem Upd.es {t : Tag} {s s' : RState} (hu : Upd t s s') (ht : t ∉ evTags) (h : ESteps k c s0 s) : ESteps k c s0 s' :=
  h.snoc (.plain hu ht)

theorem Upd.esv (id : Nat) (b : Block) {t : Tag} {s s' : RState} (hu : Upd t s s')
    (ht : t ∉ [Tag.voted, .highQC, .adv, .timedOut]) (h : ESteps k c s0 s ∧ VoteEv k c s0 id b s) :
    ESteps k c s0 s' ∧ VoteEv k c s0 id b s' :=
  have e := hu.vs_eq (t := t) (by simp_all)
  have e1 : s'.lastVoted = s.lastVoted := congrArg Prod.snd e
  have e2 : s'.ghost = s.ghost := congrArg Prod.fst e
  ⟨hu.es k c s0 (by simp_all) h.1, e1 ▸ h.2.newer, h.2.leader, h.2.parent, h.2.below, h.2.cert.mono hu h.1.fresh,
    e2 ▸ h.2.fast⟩

theorem voterVerify_ev (id : Nat) (b : Block) (agg : Option AggQC) :
    ⦃fun s => ⌜ESteps k c s0 s⌝⦄ voterVerify k c id b agg
    ⦃⇓ r s => ⌜ESteps k c s0 s ∧ (r = .ok () → VoteEv k c s0 id b s)⌝⦄ :=
  triple_of_run _ _ _ fun s h =>
    have h2 := run_res_of_triple _ _ _ (voterVerify_facts k c id b agg s.ghost s.lastVoted) s rfl
    ⟨run_res_of_triple _ _ _ ((voterVerify_steps k c id b agg).preserves (upd_of_notin (Upd.es k c s0) _)) s h, fun hr =>
      have f := h2.2 hr
      have e1 : ((voterVerify k c id b agg).run s).2.lastVoted = s.lastVoted := congrArg Prod.snd h2.1
      have e2 : ((voterVerify k c id b agg).run s).2.ghost = s.ghost := congrArg Prod.fst h2.1
      ⟨e1 ▸ f.newer, f.leader, f.parent, f.below, .of_verify f.cert, agg, e2 ▸ f.fast⟩⟩

theorem voteFor_ev (b : Block) (id : Nat) :
    ⦃fun s => ⌜ESteps k c s0 s ∧ VoteEv k c s0 id b s⌝⦄ voteFor c b id ⦃⇓ _ s => ⌜ESteps k c s0 s⌝⦄ :=
  voteFor_rule c b id ((signMsg_steps c _).preserves (upd_of_notin (Upd.esv k c s0 id b) _))
    fun s h => h.1.snoc (.voted s b id h.2)

theorem onValidPropose_ev (id : Nat) (b : Block) :
    ⦃fun s => ⌜ESteps k c s0 s ∧ VoteEv k c s0 id b s⌝⦄ onValidPropose k c id b ⦃⇓ _ s => ⌜ESteps k c s0 s⌝⦄ :=
  onValidPropose_rule k c id b ((tryCommit_steps c b).preserves (upd_of_notin (Upd.esv k c s0 id b) _))
    (voteFor_ev k c s0 b id) (upd_of_notin (Upd.es k c s0) _)

theorem createAndPropose_ev (si : SyncInfo) :
    ⦃fun s => ⌜ESteps k c s0 s⌝⦄ createAndPropose k c si ⦃⇓ _ s => ⌜ESteps k c s0 s⌝⦄ :=
  createAndPropose_rule k c si (W := VoteEv k c s0 c.id) (J := fun _ => ESteps k c s0)
    (voterVerify_ev k c s0 c.id) (fun b => voteFor_ev k c s0 b c.id) (fun b => (tryCommit_steps c b).preserves (upd_of_notin (Upd.es k c s0) _))
    (upd_of_notin (Upd.es k c s0) _)

theorem advanceView_ev (si : SyncInfo) :
    ⦃fun s => ⌜ESteps k c s0 s⌝⦄ advanceView k c si ⦃⇓ _ s => ⌜ESteps k c s0 s⌝⦄ := by
  refine advanceView_rule_guard k c si
    (R := fun x s => ESteps k c s0 s ∧ (x.2.1 = 0 ∨ Evidence k c x.2.1) ∧ ∀ q, x.1 = some q → CertAt k c s0 q s)
    (R' := fun x s => ESteps k c s0 s ∧ (x.2.1 = 0 ∨ Evidence k c x.2.1)) (Q' := fun _ => ESteps k c s0)
    ?_ (fun _ tc s _ h => ?_) ?_ (fun _ _ _ h => ⟨h.1, h.2.1⟩) (fun _ _ _ _ h _ => h.1)
    (fun _ v t s h hv => ?_) (createAndPropose_ev k c s0)
    (fun si' l s h => Upd.es k c s0 (.out s (.sendNewView l si')) (by simp [Out.tag]) h)
  · exact triple_of_run _ _ _ fun s hs =>
      have h := run_res_of_triple _ _ _ ((verifySyncInfo_steps k c si).preserves (upd_of_notin (Upd.es k c s0) _)) s hs
      have ho := (run_res_of_triple _ _ _ (verifySyncInfo_ok k c si (AP s)) s rfl).2
      ⟨fun _ => h, fun x hx => ⟨h, (ho _ _ _ hx).1, fun q hq => .of_verify ((ho _ _ _ hx).2.1 q hq)⟩⟩
  · have hu := Upd.highTC s tc
    exact ⟨hu.es k c s0 (by decide) h.1, h.2.1, fun q hq => (h.2.2 q hq).mono hu h.1.fresh⟩
  · refine fun q _ _ => triple_of_run _ _ _ fun s ⟨h, he, hq⟩ => ?_
    have hu : Upd .chain s ((getBlock q.hash).run s).2 := .chain s _ (chainGrows_get _ _ _ (.refl _))
    have h' := hu.es k c s0 (by decide) h
    exact ⟨fun _ => ⟨h', he⟩, fun nb hnb => ⟨h'.snoc
      (.highQC _ q nb ((hq q rfl).mono hu h.fresh) (get_snd_some s.chain q.hash nb hnb)), he⟩⟩
  · exact Upd.es k c s0 (.enq _ (.viewChange (v + 1) t)) (by simp [Ev.tag]) (h.1.snoc (.adv s v t hv h.2))

theorem runLoop_ev (fuel : Nat) :
    ⦃fun s => ⌜ESteps k c s0 s⌝⦄ runLoop k c fuel ⦃⇓ _ s => ⌜ESteps k c s0 s⌝⦄ :=
  runLoop_of k c (W := VoteEv k c s0) (bad := evTags) (advanceView_ev k c s0) (voterVerify_ev k c s0)
    (onValidPropose_ev k c s0) (Upd.es k c s0) fuel

end Chain

theorem step_ev (k : Keys) (c : RCfg) {P : RState → Prop} (s : RState) (e : Ev)
    (hu : ∀ {t s1 s2}, EUpd k c { s with out := [], queue := s.queue ++ [e] } t s1 s2 → P s1 → P s2)
    (ho : ∀ s, P s → P { s with out := [] }) (h : P { s with out := [], queue := s.queue ++ [e] }) :
    P (step k c s e).1 := by
  obtain ⟨s1, h1, he⟩ := step_rule k c (runLoop_ev k c _ 100000) s e .refl
  rw [he]
  exact ho _ (h1.preserves hu h)

theorem start_ev (k : Keys) (c : RCfg) {P : RState → Prop} (s : RState)
    (hu : ∀ {t s1 s2}, EUpd k c { s with out := [] } t s1 s2 → P s1 → P s2)
    (ho : ∀ s, P s → P { s with out := [] }) (h : P s) : P (start k c s).1 := by
  obtain ⟨s1, h1, he⟩ := start_rule k c (createAndPropose_ev k c _) (runLoop_ev k c _ 100000) s .refl
  rw [he]
  exact ho _ (h1.preserves hu (ho _ h))

section Read
variable (k : Keys) (c : RCfg) {s0 : RState}

theorem EUpd.inv3 {t : Tag} {s s' : RState} : EUpd k c s0 t s s' → Inv3 k c s → Inv3 k c s' :=
  EUpd.of_voted (Upd.inv3 k c) fun _ b id e hi =>
    InvV_vote k c _ _ b id hi e.newer e.facts

/-- the vote record is written where the certificate has just been verified, and signing has only added to the
signature table since (`Fresh s0`) -/
theorem EUpd.cur (h0 : Fresh s0) {t : Tag} {s s' : RState} : EUpd k c s0 t s s' → Cur k c s → Cur k c s' :=
  EUpd.of_voted (Upd.cur k c) fun _ _ _ e hc =>
    ⟨hc.1, votes_snoc hc.2 fun _ _ e' => by cases e'; exact e.cert.now h0⟩

theorem EUpd.ia {t : Tag} {s s' : RState} (h : EUpd k c s0 t s s') (hi : InvA k c (AP s)) : InvA k c (AP s') := by
  cases h with
  | plain hu ht => exact hu.ia k c (fun hm => ht (List.mem_cons_of_mem _ (List.mem_cons_of_mem _ hm))) hi
  | voted => simpa [AP, GRec.isAdv] using hi
  | highQC => exact hi
  | adv s v t hv e => exact InvA_step k c s.ghost s.view s.highQC s.highQC v t hi (Nat.le_of_not_lt hv) e

end Read

theorem EUpd.hq {k : Keys} {c : RCfg} {s0 : RState} (hv : Nat) {t : Tag} {s s' : RState} (h : EUpd k c s0 t s s')
    (hi : HQ hv s) : HQ hv s' := by
  cases h with
  | plain hu ht => exact hu.hq hv (fun hm => ht (List.mem_cons_of_mem _ (List.mem_cons.2 (Or.inl (List.mem_singleton.1 hm))))) hi
  | voted s b id => exact Upd.hq hv (.voted s b id) (by decide) hi
  | highQC s q nb e hl =>
    have := e.block.view_eq hi.2 hl
    have := hi.1
    exact ⟨by show hv ≤ (if _ then _ else _ : QC).view; split <;> omega, hi.2⟩
  | adv s v t hv' => exact Upd.hq hv (.adv s v t hv') (by decide) hi

end HsVerif.Model

namespace HsVerif.Props.C03
open HsVerif.Model

def runEvents (k : Keys) (c : RCfg) (s : RState) (es : List Ev) : RState :=
  es.foldl (fun s e => (step k c s e).1) s

theorem runEvents_keeps {k : Keys} {c : RCfg} {I : RState → Prop} (hstep : ∀ s e, I s → I (step k c s e).1)
    (es : List Ev) (s : RState) (h : I s) : I (runEvents k c s es) := by
  induction es generalizing s with
  | nil => exact h
  | cons e es ih => exact ih _ (hstep s e h)

theorem step_inv (k : Keys) (c : RCfg) (s : RState) (e : Ev) (h : Inv3 k c s) : Inv3 k c (step k c s e).1 :=
  step_ev k c s e (EUpd.inv3 k c) (fun _ h => h) h

theorem start_inv (k : Keys) (c : RCfg) (s : RState) (h : Inv3 k c s) : Inv3 k c (start k c s).1 :=
  start_ev k c s (EUpd.inv3 k c) (fun _ h => h) h

end HsVerif.Props.C03

namespace HsVerif.Props.C03Cur
open HsVerif.Model HsVerif.Props.C03

theorem fresh_init : Fresh ({} : RState) := by
  intro p hp; cases hp

-- the handler starts in `s` with the event queued, which is `Fresh` when `s` is (by unfolding); `by exact` elaborates
-- `h.1` after the expected type has fixed that state
theorem step_cur (k : Keys) (c : RCfg) (s : RState) (e : Ev) (h : Cur k c s) : Cur k c (step k c s e).1 :=
  step_ev k c s e (EUpd.cur k c (by exact h.1)) (fun _ h => h) h

theorem start_cur (k : Keys) (c : RCfg) (s : RState) (h : Cur k c s) : Cur k c (start k c s).1 :=
  start_ev k c s (EUpd.cur k c (by exact h.1)) (fun _ h => h) h

theorem cur_init (k : Keys) (c : RCfg) : Cur k c {} :=
  ⟨fresh_init, by intro b id hm; cases hm⟩

theorem step_stored_partial (k : Keys) (c : RCfg) (s : RState) (e : Ev) (h : Stored s) : Stored (step k c s e).1 :=
  (stored_accept k c).step s e h

theorem start_stored (k : Keys) (c : RCfg) (s : RState) (h : Stored s) : Stored (start k c s).1 :=
  (stored_accept k c).start s h

end HsVerif.Props.C03Cur
