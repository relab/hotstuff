import HsVerif.Proofs.ReplicaRule
/-!
The lock rule as an invariant over the whole vote history of one replica (C01 layer B).

`C01Rule.vote_respects_lock` is a one-step statement; one `step` can append several votes, so it does not say
against WHICH lock each of them was checked relative to the votes before it.  `PairInv` says it: every vote
record has, with `pre` the records before it, a block `L` (the lock the replica held when it evaluated the vote
rule) that is genesis or the stored certificate-grandparent of a vote in `pre`, covers every vote in `pre`, and
against which the vote rule held.  These facts mention stored lookups and the ghost prefix only — NOT the
current lock — so they survive everything that lets the block map grow and appends to the ghost history,
`tryCommit` (which moves the lock) included.  `voterVerify` gets the witness from `LInv`: `L :=` the current lock.
-/
open Std.Do
namespace HsVerif.Model
open HsVerif.Proofs

/-- `GP` with the lock replaced by `L` -/
def GPof (c : RCfg) (s : RState) (x L : Block) : Prop := GPst c s.chain.blocks L x

def ProvIn (c : RCfg) (s : RState) (votes : List GRec) (L : Block) : Prop :=
  L = genesisBlock ∨ ∃ x id, GRec.vote x id ∈ votes ∧ GPof c s x L

def PairInv (c : RCfg) (s : RState) : Prop :=
  ∀ pre w id post, s.ghost = pre ++ GRec.vote w id :: post →
    ∃ L, ProvIn c s pre L ∧ (∀ x idx, GRec.vote x idx ∈ pre → CoveredBy c s x L.view) ∧ RuleHolds c s w L

def Wit (c : RCfg) (s : RState) (pre : List GRec) (w : Block) : Prop :=
  ∃ L, ProvIn c s pre L ∧ (∀ x idx, GRec.vote x idx ∈ pre → CoveredBy c s x L.view) ∧ RuleHolds c s w L

theorem gpof_lock (c : RCfg) (s : RState) (x : Block) : GP c s x ↔ GPof c s x s.lock := Iff.rfl

theorem provIn_grows {s s' : RState} (hg : Grows s.chain.blocks s') (c : RCfg) (vs : List GRec) (L : Block)
    (h : ProvIn c s vs L) : ProvIn c s' vs L := by
  rcases h with h | ⟨x, id, hm, hgp⟩
  · exact Or.inl h
  · exact Or.inr ⟨x, id, hm, gpst_mono hg hgp⟩

theorem wit_grows {s s' : RState} (hg : Grows s.chain.blocks s') (c : RCfg) (pre : List GRec) (w : Block)
    (h : Wit c s pre w) : Wit c s' pre w := by
  obtain ⟨L, h1, h2, h3⟩ := h
  exact ⟨L, provIn_grows hg c pre L h1, fun x idx hm => coveredBy_mono hg (Nat.le_refl _) c x (h2 x idx hm),
    ruleHolds_grows c s s' w L hg h3⟩

theorem pair_grows {s s' : RState} (hg : Grows s.chain.blocks s') (hgh : s'.ghost = s.ghost) (c : RCfg)
    (h : PairInv c s) : PairInv c s' := by
  intro pre w id post he
  exact wit_grows hg c pre w (h pre w id post (hgh ▸ he))

theorem snoc_split {α} (l pre post : List α) (r a : α) (h : l ++ [r] = pre ++ a :: post) :
    (post = [] ∧ l = pre ∧ r = a) ∨ ∃ post', post = post' ++ [r] ∧ l = pre ++ a :: post' := by
  rcases List.eq_nil_or_concat post with rfl | ⟨L, b, rfl⟩
  · left
    have := List.append_inj' h rfl
    exact ⟨rfl, this.1, by simpa using this.2⟩
  · right
    have h' : l ++ [r] = (pre ++ a :: L) ++ [b] := by simpa using h
    have := List.append_inj' h' rfl
    have hb : r = b := by simpa using this.2
    exact ⟨L, by simp [hb], this.1⟩

def Ready (c : RCfg) (b : Block) (s : RState) : Prop := Wit c s s.ghost b

theorem pair_snoc {s s' : RState} (hg : Grows s.chain.blocks s') (r : GRec) (hgh : s'.ghost = s.ghost ++ [r])
    (c : RCfg) (h : PairInv c s) (hr : ∀ b id, r = .vote b id → Ready c b s) : PairInv c s' := by
  intro pre w id post he
  rw [hgh] at he
  rcases snoc_split _ _ _ _ _ he with ⟨_, hpre, hra⟩ | ⟨post', _, hl⟩
  · subst hpre
    exact wit_grows hg c _ w (hr w id hra)
  · exact wit_grows hg c pre w (h pre w id post' hl)

theorem ready_of_linv_lock (c : RCfg) (b : Block) (s : RState) (hi : LInv c s) (hr : RH c b s) :
    ProvIn c s s.ghost s.lock ∧ (∀ x idx, GRec.vote x idx ∈ s.ghost → CoveredBy c s x s.lock.view) ∧
    RuleHolds c s b s.lock := by
  refine ⟨?_, ?_, hr⟩
  · rcases hi.2.2 with h | ⟨x, id, hm, hgp⟩
    · exact Or.inl h
    · exact Or.inr ⟨x, id, hm, hgp⟩
  · intro x idx hm
    exact (hi.2.1 x idx hm).2

def LP (c : RCfg) (s : RState) : Prop := LInv c s ∧ PairInv c s

/-- after a positive `voterVerify` for `b`: both certificate links of `b` stored, `b` ready -/
def LPW (c : RCfg) (b : Block) (s : RState) : Prop := (LInv c s ∧ Walk2 s b) ∧ PairInv c s ∧ Ready c b s

/-- between `tryCommit c b` and `voteFor c b` (`onValidPropose`) -/
def LPBut (c : RCfg) (b : Block) (s : RState) : Prop := LInvBut c b s ∧ PairInv c s ∧ Ready c b s

/-- between `voteFor c b` and `tryCommit c b` (`createAndPropose`) -/
def LPPend (c : RCfg) (b : Block) (s : RState) : Prop := LPend c b s ∧ PairInv c s

theorem lp_same (c : RCfg) (s s' : RState) (h : Same s s') (hi : LP c s) : LP c s' :=
  ⟨linv_same h c hi.1, pair_grows h.store h.ghost c hi.2⟩

theorem lp_congr (c : RCfg) (s s' : RState) (h : LP c s) (hg : s'.ghost = s.ghost) (hc : s'.chain = s.chain)
    (hl : s'.lock = s.lock) : LP c s' :=
  lp_same c s s' (same_of_eq s s' (by rw [hc]) hl hg) h

theorem lp_append (c : RCfg) (s s' : RState) (r : GRec) (h : LP c s)
    (hg : s'.ghost = s.ghost ++ [r]) (hc : s'.chain = s.chain) (hl : s'.lock = s.lock) (hr : ∀ b id, r ≠ .vote b id) : LP c s' :=
  ⟨linv_append c s s' r hr hg hc hl h.1,
    pair_snoc (grows_of_blocks_eq s s' (by rw [hc])) r hg c h.2 (fun b id he => absurd he (hr b id))⟩

section LPChain
variable (k : Keys) (c : RCfg)

theorem Upd.lp {t : Tag} {s s' : RState} (h : Upd t s s') (ht : t ∉ [Tag.lock, .voted]) (hi : LP c s) : LP c s' := by
  cases h with
  | lock | voted => exact absurd (by decide) ht
  | timedOut | adv => exact lp_append c _ _ _ hi rfl rfl rfl (fun _ _ e => by cases e)
  | chain s c' hg => exact lp_same c s { s with chain := c' } ⟨hg, rfl, rfl⟩ hi
  | _ => exact lp_congr c _ _ hi rfl rfl rfl

theorem StepsOf.lp {α} {L : List Tag} {f : M α} (h : StepsOf L f) (hL : ∀ t ∈ L, t ∉ [Tag.lock, .voted] := by decide) :
    ⦃fun s => ⌜LP c s⌝⦄ f ⦃⇓ _ s => ⌜LP c s⌝⦄ :=
  h.preserves (upd_of_notin (Upd.lp c) L hL)

theorem voteFor_pair (b : Block) (id : Nat) (s : RState) (hp : PairInv c s) (hr : Ready c b s) :
    PairInv c ((voteFor c b id).run s).2 :=
  pair_snoc (voteFor_steps c b id s).chainGrows (.vote b id) (voteFor_ghost c b id s) c hp
    fun b' id' he => by cases he; exact hr

theorem tryCommit_pair (b : Block) (s : RState) (hp : PairInv c s) : PairInv c ((tryCommit c b).run s).2 :=
  pair_grows (grows_run _ (tryCommit_gr c b) s) (tryCommit_ghost c b s) c hp

theorem tryCommit_ready (b b' : Block) (s : RState) (hr : Ready c b' s) : Ready c b' ((tryCommit c b).run s).2 := by
  unfold Ready; rw [tryCommit_ghost c b s]; exact wit_grows (grows_run _ (tryCommit_gr c b) s) c _ b' hr

theorem voteFor_lp (b : Block) (id : Nat) (s : RState) (h : LPBut c b s) : LP c ((voteFor c b id).run s).2 :=
  ⟨voteFor_linv c b id s h.1, voteFor_pair c b id s h.2.1 h.2.2⟩

theorem voteFor_lpPend (b : Block) (id : Nat) (s : RState) (h : LPW c b s) : LPPend c b ((voteFor c b id).run s).2 :=
  ⟨voteFor_lpend c b id s h.1, voteFor_pair c b id s h.2.1 h.2.2⟩

variable (hc : c.rules ≠ .fast)
include hc

theorem voterVerify_lp (id : Nat) (b : Block) (agg : Option AggQC) :
    ⦃fun s => ⌜LP c s⌝⦄ voterVerify k c id b agg ⦃⇓ r s => ⌜LP c s ∧ (r = .ok () → LPW c b s)⌝⦄ := by
  apply triple_of_run
  intro s hi
  have hlp := lp_same c _ _ ((voterVerify_steps k c id b agg).same s) hi
  refine ⟨hlp, fun hr => ⟨⟨hlp.1, run_res_of_triple _ _ _ (voterVerify_walk k c id b agg hc) s hi.1.1 hr⟩, hlp.2, ?_⟩⟩
  exact ⟨_, ready_of_linv_lock c b _ hlp.1 (run_res_of_triple _ (fun _ => True) _ (voterVerify_rh k c id b agg) s trivial hr)⟩

theorem tryCommit_lpBut (b : Block) (s : RState) (h : LPW c b s) : LPBut c b ((tryCommit c b).run s).2 :=
  ⟨tryCommit_linvBut c b hc s h.1, tryCommit_pair c b s h.2.1, tryCommit_ready c b b s h.2.2⟩

theorem tryCommit_lp (b : Block) (s : RState) (h : LPPend c b s) : LP c ((tryCommit c b).run s).2 :=
  ⟨tryCommit_linv c b hc s h.1, tryCommit_pair c b s h.2⟩

theorem lp_accept : AcceptInv k c [.lock, .voted] (LP c) (fun _ => LPW c) where
  verify := voterVerify_lp k c hc
  commitVote id b s _ hw := voteFor_lp c b id _ (tryCommit_lpBut c hc b s hw)
  voteCommit id b s _ hw := tryCommit_lp c hc b _ (voteFor_lpPend c b id s hw)
  upd := Upd.lp c
  out _ h := lp_congr c _ _ h rfl rfl rfl

end LPChain

theorem step_lp (k : Keys) (c : RCfg) (hc : c.rules ≠ .fast) (s : RState) (e : Ev) (h : LP c s) :
    LP c (step k c s e).1 :=
  (lp_accept k c hc).step s e (lp_congr c s _ h rfl rfl rfl)

theorem start_lp (k : Keys) (c : RCfg) (hc : c.rules ≠ .fast) (s : RState) (h : LP c s) :
    LP c (start k c s).1 :=
  (lp_accept k c hc).start s h

theorem pair_init (c : RCfg) : PairInv c {} := by
  intro pre w id post he
  have : ([] : List GRec).length = (pre ++ GRec.vote w id :: post).length := congrArg List.length he
  simp at this

end HsVerif.Model
