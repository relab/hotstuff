import HsVerif.Proofs.ReplicaCommit
import HsVerif.Proofs.ReplicaEvidence
/-!
C05, replica level: two bounds by the current view that every handler keeps; their lifts to reachable system states are
in Props/C05Pre.lean.  `VB`: the committed block is OLDER than the view, the replica has not voted or timed out beyond it,
genesis is stored.  Why: the view only grows; `committed` is moved by `tryCommit c b` only, to the tail of a chain below
the block `p` stored under `b.qc.hash` (`CommitChain`); `tryCommit c b` runs only after `voterVerify … b …` answered `.ok`
— so `b.qc` verifies (`p` has the certificate's view) and `b.qc.view < b.view` — and `b.view ≤ view` (`onPropose` buffers
proposals of later views, `createAndPropose` proposes for the current view); `onLocalTimeout` records the view it is in.
`CB`, the high certificates are below the view: see further down.
-/
open Std.Do
namespace HsVerif.Model
open HsVerif.Proofs

/-- the three fields `VB` speaks of, as one projection for the frame rule -/
@[reducible] def VCL (s : RState) : Nat × Block × Nat := (s.view, s.committed, s.lastVoted)

theorem Upd.vcl_eq {t : Tag} {s s' : RState} (h : Upd t s s') (hb : t ∉ [Tag.adv, .committed, .voted, .timedOut]) :
    VCL s' = VCL s := by
  cases h <;> first | rfl | exact absurd (by decide) hb

theorem commitRule_vcl (c : RCfg) (b : Block) (x) :
    ⦃fun s => ⌜VCL s = x⌝⦄ commitRule c b ⦃⇓ _ s => ⌜VCL s = x⌝⦄ :=
  (commitRule_steps c b).frame Upd.vcl_eq x

/-- **the view bounds** are `VB := VBL 0` (the lower bound `v` on the view is not used) -/
structure VBL (v : Nat) (s : RState) : Prop where
  committed : s.committed.view < s.view
  voted : s.lastVoted ≤ s.view
  gen : Grows G0 s
  low : v ≤ s.view

def VB (s : RState) : Prop := VBL 0 s

/-- the block `b.qc` certifies is stored and older than `b`: what bounds the view of a block `tryCommit c b` commits -/
def PV (b : Block) (s : RState) : Prop := ∃ p, s.chain.blocks.lookup b.qc.hash = some p ∧ p.view < b.view

theorem PV.grows {b : Block} {s s' : RState} (hg : Grows s.chain.blocks s') (h : PV b s) : PV b s' := by
  obtain ⟨p, hp, hv⟩ := h
  exact ⟨p, hg _ _ hp, hv⟩

/-- of the block `b` in hand, from the voter's answer until the commit and the vote -/
def VBW (b : Block) (s : RState) : Prop := PV b s ∧ b.view ≤ s.view

theorem Upd.vbw {b : Block} {t : Tag} {s s' : RState} (h : Upd t s s') (hw : VBW b s) : VBW b s' :=
  ⟨hw.1.grows h.chainGrows, Nat.le_trans hw.2 h.view_le⟩

theorem Upd.vb {t : Tag} {s s' : RState} (h : Upd t s s') (ht : t ∉ [Tag.committed, .voted, .timedOut])
    (hi : VB s) : VB s' := by
  cases h with
  | chain _ _ hg => exact ⟨hi.1, hi.2, fun x b hx => hg x b (hi.3 x b hx), hi.4⟩
  | adv _ view _ hv =>
    exact ⟨Nat.lt_succ_of_lt (Nat.lt_of_lt_of_le hi.1 (Nat.le_of_not_lt hv)),
      Nat.le_succ_of_le (Nat.le_trans hi.2 (Nat.le_of_not_lt hv)), hi.3, Nat.zero_le _⟩
  | committed | voted | timedOut => exact absurd (by decide) ht
  | _ => exact ⟨hi.1, hi.2, hi.3, hi.4⟩

theorem StepsOf.vb {α} {L : List Tag} {f : M α} (h : StepsOf L f)
    (hL : ∀ t ∈ L, t ∉ [Tag.committed, .voted, .timedOut] := by decide) :
    ⦃fun s => ⌜VB s⌝⦄ f ⦃⇓ _ s => ⌜VB s⌝⦄ :=
  h.preserves (upd_of_notin Upd.vb L hL)

theorem pv_of_verify (k : Keys) (c : RCfg) (s : RState) (b : Block) (hg : Grows G0 s)
    (hv : verifyQC (env k c s) b.qc = true) (hlt : b.qc.view < b.view) : PV b s := by
  rcases verifyQC_blockView k c s b.qc hv with ⟨h1, h2⟩ | ⟨p, hp, hpv⟩
  · refine ⟨genesisBlock, ?_, ?_⟩
    · rw [h1]; exact hg genesisHash genesisBlock (by simp [G0])
    · show 0 < b.view; omega
  · exact ⟨p, hp, by omega⟩

section VBChain
variable (k : Keys) (c : RCfg)

theorem voterVerify_vb (id : Nat) (b : Block) (agg : Option AggQC) :
    ⦃fun s => ⌜VB s ∧ b.view ≤ s.view⌝⦄ voterVerify k c id b agg ⦃⇓ r s => ⌜VB s ∧ (r = .ok () → VBW b s)⌝⦄ := by
  apply triple_of_run
  intro s h
  have hs := voterVerify_steps k c id b agg s
  have h1 := hs.preserves (upd_of_notin Upd.vb _) h.1
  have h2 := (run_res_of_triple _ _ _ (voterVerify_facts k c id b agg s.ghost s.lastVoted) s rfl).2
  exact ⟨h1, fun hr => ⟨pv_of_verify k c _ b h1.gen (h2 hr).cert (h2 hr).below, Nat.le_trans h.2 hs.view_le⟩⟩

theorem voteFor_vb (b : Block) (id : Nat) :
    ⦃fun s => ⌜VB s ∧ VBW b s⌝⦄ voteFor c b id ⦃⇓ _ s => ⌜VB s ∧ VBW b s⌝⦄ :=
  voteFor_rule c b id
    ((signMsg_steps c _).preserves (upd_of_notin (bad := [.committed, .voted, .timedOut])
      (fun hu ht hp => ⟨hu.vb ht hp.1, hu.vbw hp.2⟩) _))
    fun _ h => ⟨⟨h.1.1, h.2.2, h.1.3, Nat.zero_le _⟩, h.2⟩

/-- the new committed block lies below the block `p` that `b`'s certificate names, which is older than `b` -/
theorem tryCommit_vb (b : Block) (s : RState) (h : VB s ∧ VBW b s) :
    VB ((tryCommit c b).run s).2 ∧ VBW b ((tryCommit c b).run s).2 := by
  obtain ⟨h, hp, hbv⟩ := h
  have hc := tryCommit_commit c b s
  generalize ((tryCommit c b).run s).2 = s1 at hc
  have hview : s1.view = s.view := hc.steps.proj Upd.view_eq
  have hlv : s1.lastVoted = s.lastVoted := congrArg Prod.snd (hc.steps.proj Upd.vs_eq)
  have hp1 : PV b s1 := hp.grows hc.steps.chainGrows
  refine ⟨⟨?_, by rw [hview, hlv]; exact h.2, hc.steps.grows h.gen, Nat.zero_le _⟩, hp1, by rw [hview]; exact hbv⟩
  rw [hview]
  rcases hc.seg with ⟨_, hc⟩ | ⟨a, seg, _, _, hcc⟩
  · rw [hc]; exact h.1
  · obtain ⟨p, hpl, hpv⟩ := hp1
    have same : ∀ x, sget s1 b.qc.hash = some x → x = p := fun x e => Option.some.inj (e.symm.trans hpl)
    by_cases hf : c.rules = .fast
    · unfold CommitChain at hcc
      rw [hf] at hcc
      obtain ⟨p', _, _, _, _, _, e1, _, e2⟩ := hcc
      omega
    · obtain ⟨b1, _, e1, _, _, _, e2⟩ := hcc.links hf
      cases same b1 e1
      omega

theorem onValidPropose_vb (id : Nat) (b : Block) :
    ⦃fun s => ⌜VB s ∧ VBW b s⌝⦄ onValidPropose k c id b ⦃⇓ _ s => ⌜VB s⌝⦄ :=
  onValidPropose_rule k c id b (triple_of_run _ _ (fun _ s => VB s ∧ VBW b s) (tryCommit_vb c b))
    (triple_conseq (voteFor_vb c b id) (fun _ h => h) fun _ _ h => h.1) (upd_of_notin Upd.vb _)

theorem createAndPropose_vb (si : SyncInfo) :
    ⦃fun s => ⌜VB s⌝⦄ createAndPropose k c si ⦃⇓ _ s => ⌜VB s⌝⦄ :=
  createAndPropose_rule_guard k c si (W := VBW) (J := fun b s => VB s ∧ VBW b s)
    (fun b agg => triple_conseq (voterVerify_vb k c c.id b agg) (fun _ h => ⟨h.1, Nat.le_of_eq h.2.1⟩) fun _ _ h => h)
    (fun b => voteFor_vb c b c.id) (fun b => triple_of_run _ _ _ fun s h => (tryCommit_vb c b s h).1)
    (upd_of_notin Upd.vb _)

theorem advanceView_vb (si : SyncInfo) :
    ⦃fun s => ⌜VB s⌝⦄ advanceView k c si ⦃⇓ _ s => ⌜VB s⌝⦄ :=
  advanceView_rule k c si (createAndPropose_vb k c) (upd_of_notin Upd.vb _)

/-- the record of a local timeout: `onLocalTimeout` records the view the replica is in -/
theorem vb_timeout (s : RState) (t : TimeoutMsg) (w : Nat) (hw : w = s.view) (h : VB s) :
    VB { s with lastTimeout := some t, lastVoted := (if s.lastVoted < w then w else s.lastVoted), ghost := s.ghost ++ [.tmo w] } :=
  ⟨h.1, by
    show (if s.lastVoted < w then w else s.lastVoted) ≤ s.view
    split
    · exact Nat.le_of_eq hw
    · exact h.2, h.3, h.4⟩

theorem runLoop_vb (fuel : Nat) :
    ⦃fun s => ⌜VB s⌝⦄ runLoop k c fuel ⦃⇓ _ s => ⌜VB s⌝⦄ :=
  runLoop_of_guard k c (G := fun _ _ => True) (W := fun _ => VBW) (advanceView_vb k c)
    (fun _ => triple_conseq (advanceView_vb k c _) (fun _ h => h) fun _ _ h => ⟨h, trivial⟩)
    (fun id b agg => triple_conseq (voterVerify_vb k c id b agg) (fun _ h => ⟨h.1, h.2.2⟩) fun _ _ h => h)
    (onValidPropose_vb k c) (fun _ => (signMsg_steps c _).vb) (fun _ _ _ => (signMsg_steps c _).vb) vb_timeout
    (hand_of_upd (upd_of_notin Upd.vb _)) Upd.vb fuel

end VBChain

theorem vb_init : VB {} :=
  ⟨by decide, by decide, G0_init, Nat.zero_le _⟩

theorem step_vb (k : Keys) (c : RCfg) (s : RState) (e : Ev) (h : VB s) : VB (step k c s e).1 :=
  step_keeps k c (runLoop_vb k c 100000) (fun _ h => ⟨h.1, h.2, h.3, h.4⟩) s e ⟨h.1, h.2, h.3, h.4⟩

theorem start_vb (k : Keys) (c : RCfg) (s : RState) (h : VB s) : VB (start k c s).1 :=
  start_keeps k c (createAndPropose_vb k c) (runLoop_vb k c 100000) (fun _ h => ⟨h.1, h.2, h.3, h.4⟩) s h


/-!
The high certificates are below the view (`EnterViewAfter`), `CB s : s.highQC.view < s.view ∧ s.highTC.view < s.view`.

Only `advanceView` assigns the view and the high certificates (plain timeout rule, `c.agg = false`): the certified view
that `verifySyncInfo` reports is at least the view of the QC and of the TC of the sync info (`verifySyncInfo_ok`);
the high certificates are refreshed from these; then either the certified view is below the current view — nothing
else changes — or the replica enters the certified view + 1.

Under the aggregate timeout rule a plain QC refreshes the high QC without moving the view, so `highQC.view < view` is not
an invariant there; `highTC.view < view` is (not proved separately here).
-/

@[reducible] def HT (s : RState) : TC := s.highTC

def CB (s : RState) : Prop := s.highQC.view < s.view ∧ s.highTC.view < s.view

theorem cb_init : CB {} := by simp [CB, genesisQC]

theorem cb_frameR {α} (f : M α) (R : α → Prop)
    (hap : ∀ x, ⦃fun s => ⌜AP s = x⌝⦄ f ⦃⇓ r s => ⌜AP s = x ∧ R r⌝⦄)
    (hht : ∀ x, ⦃fun s => ⌜HT s = x⌝⦄ f ⦃⇓ _ s => ⌜HT s = x⌝⦄) :
    ⦃fun s => ⌜CB s⌝⦄ f ⦃⇓ r s => ⌜CB s ∧ R r⌝⦄ := by
  apply triple_of_run
  intro s hs
  have h1 := run_res_of_triple f (fun s' => AP s' = AP s) (fun r s' => AP s' = AP s ∧ R r) (hap (AP s)) s rfl
  have h2 := run_res_of_triple f (fun s' => HT s' = HT s) (fun _ s' => HT s' = HT s) (hht (HT s)) s rfl
  obtain ⟨h1, h3⟩ := h1
  simp only [AP, Prod.mk.injEq] at h1
  refine ⟨?_, h3⟩
  have h2 : (f.run s).2.highTC = s.highTC := h2
  unfold CB; rw [h1.2.1, h1.2.2, h2]; exact hs

def CBAfter (v : Nat) (s : RState) : Prop := s.highQC.view < max s.view (v + 1) ∧ s.highTC.view < max s.view (v + 1)

section CBChain
variable (k : Keys) (c : RCfg)

theorem Upd.cb {t : Tag} {s s' : RState} (h : Upd t s s') (ht : t ∉ [Tag.highTC, .highQC, .adv]) (hi : CB s) : CB s' := by
  cases h <;> first | exact hi | exact absurd (by decide) ht

theorem addEvent_cb (e : Ev) : ⦃fun s => ⌜CB s⌝⦄ addEvent e ⦃⇓ _ s => ⌜CB s⌝⦄ :=
  (addEventAny_steps e).preserves (upd_of_notin Upd.cb _)
theorem getBlock_cb (h : Hash) : ⦃fun s => ⌜CB s⌝⦄ getBlock h ⦃⇓ _ s => ⌜CB s⌝⦄ :=
  (getBlock_steps h).preserves (upd_of_notin Upd.cb _)
theorem createAndPropose_cb (si : SyncInfo) : ⦃fun s => ⌜CB s⌝⦄ createAndPropose k c si ⦃⇓ _ s => ⌜CB s⌝⦄ :=
  (createAndPropose_steps k c si).preserves (upd_of_notin Upd.cb _)

/-- The states in between — high certificates refreshed from a sync info of certified view `v`, view not yet moved —
need not satisfy `CB`; they satisfy `CBAfter v`, because `v` bounds the views of the two certificates
(`verifySyncInfo_ok`). -/
theorem advanceView_cb (hagg : c.agg = false) (si : SyncInfo) :
    ⦃fun s => ⌜CB s⌝⦄ advanceView k c si ⦃⇓ _ s => ⌜CB s⌝⦄ := by
  refine advanceView_rule_guard k c (R := fun x s => CBAfter x.2.1 s ∧
      (∀ tc, si.tc = some tc → tc.view ≤ x.2.1) ∧ (∀ q, x.1 = some q → q.view ≤ x.2.1))
    (R' := fun x s => CBAfter x.2.1 s) (Q' := fun _ => CB) si ?_ ?_ ?_ (fun _ _ _ h => h.1) ?_ ?_
    (createAndPropose_cb k c) (fun _ _ _ h => h)
  · exact triple_of_run _ _ _ fun s hs =>
      have h : CB _ := (verifySyncInfo_steps k c si s).preserves (upd_of_notin Upd.cb _) hs
      have ho := (run_res_of_triple _ _ _ (verifySyncInfo_ok k c si (AP s)) s rfl).2
      ⟨fun _ => h, fun x hx => ⟨by have := h.1; have := h.2; constructor <;> omega, (ho _ _ _ hx).2.2 hagg⟩⟩
  · intro ⟨_, v, _⟩ tc s htc ⟨⟨hq, ht⟩, hb⟩
    have : tc.view ≤ v := hb.1 tc htc
    refine ⟨⟨hq, ?_⟩, hb⟩
    dsimp only at ht ⊢
    split <;> omega
  · refine fun q v t => triple_of_run _ _ _ fun s ⟨h, hb⟩ => ?_
    have : q.view ≤ v := hb.2 q rfl
    have h' : CBAfter v ((getBlock q.hash).run s).2 := h
    refine ⟨fun _ => h', fun nb _ => ⟨?_, h'.2⟩⟩
    have := h'.1
    dsimp only at this ⊢
    split <;> omega
  · intro _ v _ s ⟨hq, ht⟩ hv
    dsimp only at hq ht
    constructor <;> omega
  · intro _ v _ s ⟨hq, ht⟩ hv
    dsimp only at hq ht
    constructor <;> (dsimp only; omega)

theorem runLoop_cb (hagg : c.agg = false) (fuel : Nat) :
    ⦃fun s => ⌜CB s⌝⦄ runLoop k c fuel ⦃⇓ _ s => ⌜CB s⌝⦄ :=
  runLoop_of_advanceView k c (advanceView_cb k c hagg) (hand_of_upd (upd_of_notin Upd.cb _)) Upd.cb fuel

end CBChain

theorem step_cb (k : Keys) (c : RCfg) (hagg : c.agg = false) (s : RState) (e : Ev) (h : CB s) : CB (step k c s e).1 :=
  step_keeps k c (runLoop_cb k c hagg 100000) (fun _ h => h) s e h

theorem start_cb (k : Keys) (c : RCfg) (hagg : c.agg = false) (s : RState) (h : CB s) : CB (start k c s).1 :=
  start_keeps k c (createAndPropose_cb k c) (runLoop_cb k c hagg 100000) (fun _ h => h) s h

theorem runEvents_cb (k : Keys) (c : RCfg) (hagg : c.agg = false) (es : List Ev) (s : RState) (h : CB s) :
    CB (HsVerif.Props.C03.runEvents k c s es) :=
  HsVerif.Props.C03.runEvents_keeps (step_cb k c hagg) es s h

end HsVerif.Model
