import HsVerif.Proofs.ReplicaFrames
import HsVerif.Proofs.ReplicaVote
/-!
The certificate of every block voted for verifies in the replica's CURRENT state (C03, strengthened).  `verifyQC` is
monotone in truth table and block store, and both only gain entries: signing draws fresh byte names (every key of the
table is below `nextBytes`, `Fresh`), so no lookup ever changes (`Ext`).  `Cur`: freshness, and `b.qc` verifies in this
very state for every vote record; the record is written where the certificate has just been verified.  `Stored`: every
block voted for is in the store under its hash once the handler is through — `onValidPropose` stores before voting,
`createAndPropose` votes and then stores (`StoredBut` in between); that `tryCommit c b` leaves `b` stored is read off
the equation `tryCommit_run_eq`.
-/
open Std.Do
namespace HsVerif.Model
open HsVerif.Proofs

def TruthLe (T T' : Truth) : Prop := ∀ b a, T b = some a → T' b = some a
def StoreLe (st st' : Store) : Prop := ∀ h b, st.lookup h = some b → st'.lookup h = some b

theorem verifySingle_mono (T T' : Truth) (cfg : Cfg) (e : Entry) (m : Msg) (hT : TruthLe T T')
    (h : verifySingle T cfg e m = true) : verifySingle T' cfg e m = true := by
  simp only [verifySingle, Bool.and_eq_true, beq_iff_eq] at h ⊢
  exact ⟨h.1, hT _ _ h.2⟩

theorem verify_mono (T T' : Truth) (cfg : Cfg) (sg : Sig) (m : Msg) (hT : TruthLe T T')
    (h : verify T cfg sg m = true) : verify T' cfg sg m = true := by
  cases sg with
  | multi k es =>
    simp only [verify, Bool.and_eq_true, List.all_eq_true] at h ⊢
    exact ⟨h.1, fun e he => verifySingle_mono T T' cfg e m hT (h.2 e he)⟩
  | bls atoms junk bits => exact h

theorem verifyQC_mono (T T' : Truth) (cfg : Cfg) (st st' : Store) (tmo : Nat → Nat → QC → Msg) (q : QC)
    (hT : TruthLe T T') (hS : StoreLe st st')
    (h : verifyQC ⟨T, cfg, st, tmo⟩ q = true) : verifyQC ⟨T', cfg, st', tmo⟩ q = true := by
  unfold verifyQC at h ⊢
  by_cases hg : (q.hash == genesisHash) = true
  · rw [if_pos hg] at h ⊢; exact h
  · rw [if_neg hg] at h ⊢
    cases hsg : q.sig with
    | none => rw [hsg] at h; simp at h
    | some sg =>
      rw [hsg] at h
      simp only at h ⊢
      by_cases hl : sg.len < cfg.quorum
      · rw [if_pos hl] at h; simp at h
      · rw [if_neg hl] at h ⊢
        simp only [CertEnv.get] at h ⊢
        cases hb : st.lookup q.hash with
        | none => rw [hb] at h; simp at h
        | some b =>
          rw [hb] at h
          rw [hS _ _ hb]
          simp only at h ⊢
          by_cases hv : (q.view != b.view) = true
          · rw [if_pos hv] at h; simp at h
          · rw [if_neg hv] at h ⊢
            exact verify_mono T T' cfg sg _ hT h

def Fresh (s : RState) : Prop := ∀ p ∈ s.truth, p.1 < s.nextBytes
def TGrows (x : List (Nat × Atom)) (s : RState) : Prop :=
  ∀ b a, x.lookup b = some a → s.truth.lookup b = some a
/-- the signature table is fresh (every byte id is below `nextBytes`) and keeps every lookup of the table `x` -/
def TF (x : List (Nat × Atom)) (s : RState) : Prop := Fresh s ∧ TGrows x s

theorem lookup_none_of_fresh (l : List (Nat × Atom)) (n : Nat) (h : ∀ p ∈ l, p.1 < n) : l.lookup n = none := by
  induction l with
  | nil => rfl
  | cons p rest ih =>
    obtain ⟨k, v⟩ := p
    have hk : k < n := h (k, v) (by simp)
    rw [List.lookup_cons]
    have : (n == k) = false := by simp; omega
    rw [this]
    exact ih (fun p hp => h p (by simp [hp]))

theorem tf_sign (x) (s : RState) (a : Atom) (h : TF x s) :
    TF x { s with truth := (s.nextBytes, a) :: s.truth, nextBytes := s.nextBytes + 1 } := by
  obtain ⟨hf, hg⟩ := h
  refine ⟨?_, ?_⟩
  · intro p hp
    simp only [List.mem_cons] at hp
    rcases hp with rfl | hp
    · simp
    · have := hf p hp; simp only at this ⊢; omega
  · intro b a' hx
    have h1 := hg b a' hx
    have h2 := lookup_none_of_fresh s.truth s.nextBytes hf
    show ((s.nextBytes, a) :: s.truth).lookup b = some a'
    rw [List.lookup_cons]
    split
    · rename_i heq
      have : b = s.nextBytes := by simpa using heq
      rw [this, h2] at h1; cases h1
    · exact h1

theorem Upd.tf {t : Tag} {s s' : RState} (h : Upd t s s') {x} (hx : TF x s) : TF x s' := by
  cases h <;> first | exact hx | exact tf_sign _ _ _ hx

structure Ext (s s' : RState) : Prop where
  fresh : Fresh s'
  store : Grows s.chain.blocks s'
  truth : TGrows s.truth s'

theorem Ext.refl (s : RState) (h : Fresh s) : Ext s s := ⟨h, fun _ _ h => h, fun _ _ h => h⟩

theorem Ext.trans {s1 s2 s3 : RState} (h12 : Ext s1 s2) (h23 : Ext s2 s3) : Ext s1 s3 :=
  ⟨h23.fresh, fun h b hx => h23.store h b (h12.store h b hx), fun n a hx => h23.truth n a (h12.truth n a hx)⟩

theorem Upd.ext {t : Tag} {s s' : RState} (h : Upd t s s') (hf : Fresh s) : Ext s s' :=
  have ht := h.tf (x := s.truth) ⟨hf, fun _ _ h => h⟩
  ⟨ht.1, h.chainGrows, ht.2⟩

theorem Steps.ext {L : List Tag} {s s' : RState} (h : Steps L s s') (hf : Fresh s) : Ext s s' :=
  h.preserves (P := Ext s) (fun _ _ _ _ hu he => he.trans (hu.ext he.fresh)) (.refl s hf)

theorem step_ext (k : Keys) (c : RCfg) (s : RState) (e : Ev) (hf : Fresh s) : Ext s (step k c s e).1 :=
  have h := (runLoop_steps k c 100000 { s with out := [], queue := s.queue ++ [e] }).ext hf
  ⟨h.fresh, h.store, h.truth⟩

theorem start_ext (k : Keys) (c : RCfg) (s : RState) (hf : Fresh s) : Ext s (start k c s).1 := by
  obtain ⟨s1, h1, he⟩ := start_steps k c s
  have h := h1.ext hf
  exact he ▸ ⟨h.fresh, h.store, h.truth⟩

theorem verifyQC_ext (k : Keys) (c : RCfg) (s s' : RState) (q : QC) (h : Ext s s')
    (hv : verifyQC (env k c s) q = true) : verifyQC (env k c s') q = true :=
  verifyQC_mono (fun b => s.truth.lookup b) (fun b => s'.truth.lookup b) c.cfg s.chain.blocks s'.chain.blocks _ q
    (fun b a hb => h.truth b a hb) (fun x b hb => h.store x b hb) hv

def VotesVerify (k : Keys) (c : RCfg) (s : RState) : Prop :=
  ∀ b id, GRec.vote b id ∈ s.ghost → verifyQC (env k c s) b.qc = true

def Cur (k : Keys) (c : RCfg) (s : RState) : Prop := Fresh s ∧ VotesVerify k c s

theorem cur_ext (k : Keys) (c : RCfg) (s s' : RState) (h : Ext s s')
    (hg : ∀ b id, GRec.vote b id ∈ s'.ghost → GRec.vote b id ∈ s.ghost) (hc : Cur k c s) : Cur k c s' :=
  ⟨h.fresh, fun b id hm => verifyQC_ext k c s s' b.qc h (hc.2 b id (hg b id hm))⟩

theorem Upd.votes_sub {t : Tag} {s s' : RState} (h : Upd t s s') (ht : t ∉ [Tag.voted]) (b : Block) (id : Nat)
    (hm : GRec.vote b id ∈ s'.ghost) : GRec.vote b id ∈ s.ghost := by
  cases h with
  | voted => exact absurd (by decide) ht
  | timedOut | adv => simpa using hm
  | _ => exact hm

theorem Upd.cur (k : Keys) (c : RCfg) {t : Tag} {s s' : RState} (h : Upd t s s') (ht : t ∉ [Tag.voted]) (hc : Cur k c s) :
    Cur k c s' :=
  cur_ext k c s s' (h.ext hc.1) (h.votes_sub ht) hc

def Has (h : Hash) (s : RState) : Prop := (s.chain.blocks.lookup h).isSome = true

def Stored (s : RState) : Prop := ∀ b id, GRec.vote b id ∈ s.ghost → Has b.hash s

/-- `Stored` except possibly for blocks of hash `h` (between `voteFor` and `tryCommit` in `createAndPropose`) -/
def StoredBut (h : Hash) (s : RState) : Prop := ∀ b id, GRec.vote b id ∈ s.ghost → b.hash = h ∨ Has b.hash s

theorem has_of_grows (h : Hash) (s s' : RState) (hg : Grows s.chain.blocks s') (hh : Has h s) : Has h s' := by
  unfold Has at *
  cases hb : s.chain.blocks.lookup h with
  | none => rw [hb] at hh; cases hh
  | some b => rw [hg h b hb]; rfl

theorem grows_run {α} (f : M α) (hgr : ∀ x, ⦃fun s => ⌜Grows x s⌝⦄ f ⦃⇓ _ s => ⌜Grows x s⌝⦄) (s : RState) :
    Grows s.chain.blocks (f.run s).2 :=
  run_res_of_triple f (fun s' => Grows s.chain.blocks s') (fun _ s' => Grows s.chain.blocks s')
    (hgr s.chain.blocks) s (fun _ _ h => h)

theorem Upd.has {t : Tag} {s s' : RState} (h : Upd t s s') {x : Hash} (hh : Has x s) : Has x s' :=
  has_of_grows x s s' h.chainGrows hh

theorem Steps.has {L : List Tag} {s s' : RState} (h : Steps L s s') {x : Hash} (hh : Has x s) : Has x s' :=
  h.preserves (fun _ _ _ _ hu => hu.has) hh

theorem get_snd_some (c : RChain) (h : Hash) (b : Block) (hr : (c.get h).2 = some b) :
    (c.get h).1.blocks.lookup h = some b := by
  unfold RChain.get at *
  split at hr
  · rename_i b' hb; simp only at hr ⊢; rw [hb, ← hr]
  · split at hr
    · simp only at hr ⊢; simp [hr]
    · cases hr

theorem has_store (c : RChain) (b : Block) : ((c.store b).blocks.lookup b.hash).isSome = true := by
  unfold RChain.store
  split
  · rename_i x hx; rw [hx]; rfl
  · simp

theorem pruneToHeight_blocks (c : RChain) (cm : Block) (h : Nat) : (c.pruneToHeight cm h).1.blocks = c.blocks := by
  unfold RChain.pruneToHeight
  simp only
  rw [pruneAux_blocks]

theorem run_bind' {α β} (x : M α) (f : α → M β) (s : RState) :
    (x >>= f).run s = (f (x.run s).1).run (x.run s).2 := rfl

theorem run_get' (s : RState) : (get : M RState).run s = (s, s) := rfl

theorem abortFold_run (forked : List Block) (s : RState) :
    (List.foldlM (fun (_ : PUnit) a => addEvent (Ev.abort a)) PUnit.unit forked : M PUnit).run s =
      pure (PUnit.unit, { s with queue := s.queue ++ forked.map Ev.abort }) := by
  induction forked generalizing s with
  | nil => simp
  | cons f rest ih => simp [addEvent] at ih ⊢; rw [ih]; simp

theorem tryCommit_run_eq (c : RCfg) (b : Block) (s : RState) :
    ((tryCommit c b).run s).2 =
      match (commitRule c b).run { s with chain := s.chain.store b } with
      | (none, s1) => s1
      | (some t, s1) =>
        match (commitInner (s1.chain.fuel + 1) t).run s1 with
        | (false, s2) => s2
        | (true, s2) =>
          { s2 with chain := (s2.chain.pruneToHeight s2.committed t.view).1,
                    queue := s2.queue ++ (s2.chain.pruneToHeight s2.committed t.view).2.map Ev.abort } := by
  simp only [tryCommit, run_bind', show ∀ f : RState → RState, StateT.run (modify f : M PUnit) s = (⟨⟩, f s) from fun _ => rfl]
  generalize StateT.run (commitRule c b) _ = r
  obtain ⟨o, s1⟩ := r
  cases o with
  | none => rfl
  | some t =>
    simp only [run_bind', run_get']
    generalize StateT.run (commitInner (s1.chain.fuel + 1) t) s1 = r2
    obtain ⟨r, s2⟩ := r2
    cases r with
    | false => rfl
    | true =>
      simp [abortFold_run]
      rfl

/-- `tryCommit` begins by storing the block -/
theorem tryCommit_has (c : RCfg) (b : Block) :
    ⦃fun _ => ⌜True⌝⦄ tryCommit c b ⦃⇓ _ s => ⌜Has b.hash s⌝⦄ := by
  refine triple_of_run _ _ _ fun s _ => ?_
  rw [tryCommit_run_eq]
  have h1 : Has b.hash _ := (commitRule_steps c b { s with chain := s.chain.store b }).has (has_store _ _)
  generalize (commitRule c b).run { s with chain := s.chain.store b } = r1 at h1 ⊢
  obtain ⟨o, s1⟩ := r1
  cases o with
  | none => exact h1
  | some t =>
    simp only
    have h2 : Has b.hash _ := (commitInner_steps (s1.chain.fuel + 1) t s1).has h1
    generalize (commitInner (s1.chain.fuel + 1) t).run s1 = r2 at h2 ⊢
    obtain ⟨r, s2⟩ := r2
    cases r with
    | false => exact h2
    | true => exact has_of_grows _ s2 _ (fun k x hx => by rw [pruneToHeight_blocks]; exact hx) h2

theorem Upd.stored {t : Tag} {s s' : RState} (h : Upd t s s') (ht : t ∉ [Tag.voted]) (hs : Stored s) : Stored s' :=
  fun b id hm => h.has (hs b id (h.votes_sub ht b id hm))

theorem StepsOf.stored {α} {L : List Tag} {f : M α} (h : StepsOf L f) (hL : ∀ t ∈ L, t ∉ [Tag.voted] := by decide) :
    ⦃fun s => ⌜Stored s⌝⦄ f ⦃⇓ _ s => ⌜Stored s⌝⦄ :=
  h.preserves (upd_of_notin Upd.stored L hL)

section StoredChain
variable (k : Keys) (c : RCfg)

/-- `tryCommit c b` stores `b`: it repairs the exception for `b.hash` -/
theorem tryCommit_st (b : Block) (s : RState) (hs : StoredBut b.hash s) :
    Stored ((tryCommit c b).run s).2 ∧ Has b.hash ((tryCommit c b).run s).2 := by
  have hh := run_res_of_triple _ (fun _ => True) _ (tryCommit_has c b) s trivial
  refine ⟨?_, hh⟩
  intro b' id hm
  rw [tryCommit_ghost c b s] at hm
  rcases hs b' id hm with h | h
  · rw [h]; exact hh
  · exact has_of_grows _ s _ (grows_run _ (tryCommit_gr c b) s) h

theorem voteFor_st (b : Block) (id : Nat) (s : RState) (h : Stored s ∧ Has b.hash s) : Stored ((voteFor c b id).run s).2 :=
  run_res_of_triple _ _ _ (voteFor_rule c b id (I := fun s => Stored s ∧ Has b.hash s) (J := Stored)
    ((signMsg_steps c _).preserves (upd_of_notin (fun hu ht h => ⟨hu.stored ht h.1, hu.has h.2⟩) _))
    fun _ h => votes_snoc h.1 fun _ _ e => by cases e; exact h.2) s h

theorem voteFor_stb (b : Block) (id : Nat) (s : RState) (h : Stored s) : StoredBut b.hash ((voteFor c b id).run s).2 :=
  run_res_of_triple _ _ _ (voteFor_rule c b id (J := StoredBut b.hash) (signMsg_steps c _).stored
    fun _ h => votes_snoc (fun x i hm => Or.inr (h x i hm)) fun _ _ e => by cases e; exact Or.inl rfl) s h

theorem stored_accept : AcceptInv k c [.voted] Stored (fun _ _ _ => True) where
  verify id b agg := triple_resTrue (voterVerify_steps k c id b agg).stored
  commitVote id b s h _ := voteFor_st c b id _ (tryCommit_st c b s fun b' id' hm => Or.inr (h b' id' hm))
  voteCommit id b s h _ := (tryCommit_st c b _ (voteFor_stb c b id s h)).1
  upd := Upd.stored
  out _ h := h

end StoredChain
end HsVerif.Model
