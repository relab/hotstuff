import HsVerif.Proofs.FastSafety
/-!
A finite instance of `FastSafety.Discipline` (Fast-HotStuff AS IMPLEMENTED, after the repairs) with two
conflicting two-chain commits: n = 7, f = 2, quorum 5.

Replicas  0 = h1, 1 = h2, 2 = s1, 3 = s2, 4 = s3 (honest), 5 = z1, 6 = z2 (Byzantine).
Blocks    0 gen(view 0)
          1 b0 (1, parent gen)   2 b1 (2, b0)   3 c3 (3, b1)   4 X (4, b1)   5 X' (5, X)
          6 w  (3, parent gen)   7 w1 (7, w)    8 w2 (8, w1)   9 w3 (9, w2)
Commits   b0 (two-chain b0 ← b1, b1 certified by h1 h2 s1 z1 z2; proposal c3 received by h1, h2)
          w1 (two-chain w1 ← w2, w2 certified by s1 s2 s3 z1 z2; proposal w3 received by s1)
          and neither extends the other.

The schedule (global event times in brackets); every listed event is an event of an HONEST replica, the
Byzantine replicas vote for everything, sign every timeout reporting the genesis QC, and propose `w`:
  view 1  h1 h2 s1 vote b0 [1-3] and time out, reporting gen [4-6]
  view 2  h1 h2 s1 vote b1 [7-9] (their high QC becomes QC(b0)); s2 s3 never see b0 or b1.
          s1 (high QC b0), s2, s3 (high QC gen) time out [10-12]:
              A2 = aggregate QC of view 2 from s1:b0 s2:gen s3:gen z1:gen z2:gen
  view 3  the Byzantine leader proposes w (view 3, parent gen, QC gen) with A2 to s2 and s3: neither has b0 nor
          can fetch it, so the report of s1 is skipped, the highest valid QC is gen, they vote w [13,14].
          It also proposes c3 (view 3, parent b1, QC(b1)) to h1 and h2, who vote [15,16] and COMMIT b0.
          h1 h2 (high QC b1) and s2 (gen) time out [17-19]:  A3 = h1:b1 h2:b1 s2:gen z1:gen z2:gen
  view 4  X (view 4, parent b1, QC(b1)) with A3: h1, h2, s2 vote [20-22] (s2 fetches b1 -- allowed now);
          QC(X) exists.  h1 h2 s2 time out (TC only) [23-25]
  view 5  X' (view 5, parent X, QC(X)) is shown to h1 and h2 only [26,27]: their high QC becomes QC(X).
          h1 (X), h2 (X), s3 (gen) time out [28-30]:  A5 = h1:X h2:X s3:gen z1:gen z2:gen
          s1 (kept in view 2 until now, then given the view-2 timeout certificate) is shown w (VIEW 3) with A5
          (5 + 1 ≥ 3): it has neither X nor can fetch it, the reports of h1 and h2 are skipped, the highest
          valid QC is gen = w's QC: s1 votes w [31].  QC(w) exists: s1 s2 s3 z1 z2.
  view 6  s1 s2 s3 learn QC(w) (view 3: higher than b0 (1), b1 (2) -- s2 never learned QC(X)) and time out
          [32-34]:  A6 = s1:w s2:w s3:w z1:gen z2:gen
  view 7  w1 (view 7, parent w, QC(w)) with A6: s1 s2 s3 vote [35-37]; they time out (TC only) [38-40]
  view 8  w2 (view 8, parent w1, QC(w1)), plain rule: s1 s2 s3 vote [41-43]; time out [44-46]
  view 9  w3 (view 9, parent w2, QC(w2)) reaches s1 [47]: s1 COMMITS w1.

Replay notes (implementation / Model/Sys.lean; not part of the abstract instance):
  * the adversary delays messages between honest replicas and makes block fetches fail (`fetchable`): of b0 at s2
    and s3 (always), of X at s1 (at time 31);
  * the leader of view 3 must be Byzantine (it proposes both c3 and w, and re-sends w to s1 later with another
    aggregate QC -- the aggregate QC is not covered by the block hash); w1, w2, w3 may be proposed by s1 s2 s3
    themselves (their high QC is QC(w) / QC(w1) / QC(w2)) or by a Byzantine leader;
  * under the aggregate timeout rule a view is left only on a timeout certificate: every view 1..8 has a quorum of
    timeouts in the schedule (`C01Fast.cex_realism`); s2 must be given the view 5 certificate WITHOUT the aggregate QC
    A5 (a Byzantine new-view message with the TC only), otherwise its high QC becomes QC(X), which it can validate;
  * s1 waits in view 2 (its timer may fire there as often as it likes) until QC(X) has been reported in view 5.
-/
namespace HsVerif.FastCex
open HsVerif.Safety HsVerif.FastSafety HsVerif.Model HsVerif.QuorumCount

abbrev R := Fin 7
abbrev B := Fin 10

def view (b : B) : Nat := [0, 1, 2, 3, 4, 5, 3, 7, 8, 9].getD b.val 0
def par (b : B) : B := ([0, 0, 1, 2, 2, 4, 0, 6, 7, 8] : List B).getD b.val 0

def byz (i : Nat) : Bool := i == 5 || i == 6

/-- an aggregate QC: `(signers, view, reports of the signers that do not report genesis)` -/
abbrev Agg := List R × Nat × List (R × B)

/-- A schedule as finite tables (events of honest replicas only; the Byzantine replicas vote for every
block, sign every timeout reporting the genesis QC, and make the proposals no honest leader would). -/
structure Tbl where
  /-- honest votes `(replica, block, time)` -/
  votes : List (R × B × Nat)
  /-- honest timeouts `(replica, view, time, reported block)` -/
  tmos : List (R × Nat × Nat × B)
  /-- `(replica, block, time from which the replica has the block)`; everybody has genesis -/
  hasL : List (R × B × Nat)
  aggs : List Agg
  /-- which aggregate QC (index into `aggs`) accompanies the proposal of block `b` shown to `r` -/
  aggFor : R → B → Option Nat

def repOf (l : List (R × B)) (m : R) : B := (l.lookup m).getD 0

def OptSat (o : Option Agg) (P : Agg → Prop) : Prop := ∃ a, o = some a ∧ P a

instance (o : Option Agg) (P : Agg → Prop) [DecidablePred P] : Decidable (OptSat o P) :=
  match o with
  | none => isFalse (by rintro ⟨a, h, _⟩; cases h)
  | some a => if h : P a then isTrue ⟨a, rfl, h⟩ else isFalse (by rintro ⟨a', h', hp⟩; cases h'; exact h hp)

/-- The checkers count the replicas `i` with `byz i || l.any ..` (a Byzantine replica signs everything): an honest
one among them has an entry in the table `l` of honest events `(replica, key, ..)`, dated before `t` by `τ`. -/
theorem honest_entry {κ ρ : Type} [BEq κ] [LawfulBEq κ] {l : List (R × κ × ρ)} {τ : ρ → Nat} {k : κ} {t : Nat} {r : R}
    (hr : (byz r.val || l.any (fun e => e.1.val == r.val && e.2.1 == k && decide (τ e.2.2 < t))) = true)
    (hh : byz r.val = false) : ∃ x, τ x < t ∧ (r, k, x) ∈ l := by
  simp only [hh, Bool.false_or, List.any_eq_true, Bool.and_eq_true, beq_iff_eq, decide_eq_true_eq] at hr
  obtain ⟨⟨r', _, x⟩, hmem, ⟨hr', rfl⟩, ht⟩ := hr
  obtain rfl : r' = r := Fin.ext hr'
  exact ⟨x, ht, hmem⟩

theorem mem_of_any_val {l : List R} {m : R} (h : l.any (fun m' => m'.val == m.val) = true) : m ∈ l := by
  obtain ⟨m', hmem, heq⟩ := List.any_eq_true.mp h
  exact Fin.ext (beq_iff_eq.mp heq) ▸ hmem

theorem tmo_entry {β : Type} {l : List (R × Nat × Nat × β)} {m : R} {u t : Nat} {Rb : β}
    (h : ∃ e ∈ l, e.1 = m ∧ e.2.1 = u ∧ e.2.2.2 = Rb ∧ e.2.2.1 < t) : ∃ t', t' < t ∧ (m, u, t', Rb) ∈ l := by
  obtain ⟨⟨_, _, t', _⟩, hmem, rfl, rfl, rfl, hlt⟩ := h
  exact ⟨t', hlt, hmem⟩

theorem any_le_mono {α : Type} {l : List α} {c : Bool} {p : α → Bool} {τ : α → Nat} {t t' : Nat}
    (h : (c || l.any (fun e => p e && decide (τ e ≤ t))) = true) (hle : t ≤ t') :
    (c || l.any (fun e => p e && decide (τ e ≤ t'))) = true := by
  simp only [Bool.or_eq_true, List.any_eq_true, Bool.and_eq_true, decide_eq_true_eq] at h ⊢
  exact h.imp_right fun ⟨e, hmem, hp, ht⟩ => ⟨e, hmem, hp, Nat.le_trans ht hle⟩

namespace Tbl
variable (T : Tbl)

def hasB (r : R) (b : B) (t : Nat) : Bool :=
  b == 0 || T.hasL.any (fun e => e.1 == r && e.2.1 == b && decide (e.2.2 ≤ t))

def sys : TSys where
  Blk := B
  Rep := R
  gen := 0
  view := view
  par := par
  honest := fun r => byz r.val = false
  Quorum := fun Q => ∃ A : Nat → Bool, quorumSize 7 ≤ count A 7 ∧ ∀ r : Fin 7, A r.val = true → Q r
  votedAt := fun r b t => (r, b, t) ∈ T.votes
  timedOutAt := fun r u t Rb => (r, u, t, Rb) ∈ T.tmos
  hasAt := fun r b t => T.hasB r b t = true

/-! #### boolean / decidable forms of the notions of `FastSafety` -/

def voterB (b : B) (t : Nat) (i : Nat) : Bool :=
  byz i || T.votes.any (fun e => e.1.val == i && e.2.1 == b && decide (e.2.2 < t))

def certB (b : B) (t : Nat) : Bool := decide (quorumSize 7 ≤ count (T.voterB b t) 7)

def gcB (b : B) (t : Nat) : Bool := b == 0 || T.certB b t

theorem certB_sound {b : B} {t : Nat} (h : T.certB b t = true) : CertBefore T.sys b t :=
  ⟨fun r => T.voterB b t r.val = true, ⟨_, of_decide_eq_true h, fun _ hr => hr⟩,
    fun _ hr hh => honest_entry (κ := B) (τ := id) hr hh⟩

theorem gcB_sound {b : B} {t : Nat} (h : T.gcB b t = true) : GCBefore T.sys b t := by
  simp only [gcB, Bool.or_eq_true, beq_iff_eq] at h
  exact h.imp_right T.certB_sound

def AggOK (r : R) (w : B) (t : Nat) (a : Agg) : Prop :=
  quorumSize 7 ≤ count (fun i => a.1.any (fun m => m.val == i)) 7 ∧
  view w ≤ a.2.1 + 1 ∧
  (∀ m ∈ a.1, byz m.val = false → ∃ e ∈ T.tmos, e.1 = m ∧ e.2.1 = a.2.1 ∧ e.2.2.2 = repOf a.2.2 m ∧ e.2.2.1 < t) ∧
  (∀ m ∈ a.1, T.hasB r (repOf a.2.2 m) t = true → view (repOf a.2.2 m) ≤ view (par w)) ∧
  (∃ m ∈ a.1, repOf a.2.2 m = par w)

instance (r : R) (w : B) (t : Nat) (a : Agg) : Decidable (T.AggOK r w t a) := by
  unfold AggOK; exact inferInstance

theorem aggOK_sound {r : R} {w : B} {t : Nat} {a : Agg} (h : T.AggOK r w t a) :
    AggJ T.sys r w t (fun m => m ∈ a.1) a.2.1 (repOf a.2.2) where
  quorum := ⟨_, h.1, fun _ => mem_of_any_val⟩
  fresh := h.2.1
  reports := fun m hmT hh => tmo_entry (h.2.2.1 m hmT hh)
  high_max := fun m hmT hhas _ => h.2.2.2.1 m hmT hhas
  high_mem := h.2.2.2.2

def aggOf (r : R) (b : B) : Option Agg := (T.aggFor r b).bind (fun i => T.aggs[i]?)

/-- All clauses of `FastSafety.Discipline`, as decidable statements about the tables. -/
structure OK : Prop where
  one_per_view : ∀ e1 ∈ T.votes, ∀ e2 ∈ T.votes, e1.1 = e2.1 → view e1.2.1 = view e2.2.1 → e1.2.1 = e2.2.1
  vote_order : ∀ e1 ∈ T.votes, ∀ e2 ∈ T.votes, e1.1 = e2.1 → view e1.2.1 < view e2.2.1 → e1.2.2 < e2.2.2
  wf : ∀ e ∈ T.votes, T.gcB (par e.2.1) e.2.2 = true ∧ view (par e.2.1) < view e.2.1 ∧
    T.hasB e.1 e.2.1 e.2.2 = true ∧ T.hasB e.1 (par e.2.1) e.2.2 = true
  just : ∀ e ∈ T.votes, view e.2.1 = view (par e.2.1) + 1 ∨
    OptSat (T.aggOf e.1 e.2.1) (fun a => T.AggOK e.1 e.2.1 e.2.2 a)
  tmo_once : ∀ e1 ∈ T.tmos, ∀ e2 ∈ T.tmos, e1.1 = e2.1 → e1.2.1 = e2.2.1 →
    e1.2.2.1 = e2.2.2.1 ∧ e1.2.2.2 = e2.2.2.2
  report : ∀ e ∈ T.tmos, T.gcB e.2.2.2 e.2.2.1 = true ∧ T.hasB e.1 e.2.2.2 e.2.2.1 = true ∧
    (∀ v ∈ T.votes, v.1 = e.1 → v.2.2 < e.2.2.1 → view (par v.2.1) ≤ view e.2.2.2 ∧ view v.2.1 ≤ e.2.1) ∧
    (∀ v ∈ T.votes, v.1 = e.1 → e.2.2.1 ≤ v.2.2 → e.2.1 < view v.2.1)
  report_mono : ∀ e1 ∈ T.tmos, ∀ e2 ∈ T.tmos, e1.1 = e2.1 → e1.2.2.1 ≤ e2.2.2.1 →
    e1.2.1 ≤ e2.2.1 ∧ view e1.2.2.2 ≤ view e2.2.2.2

theorem discipline (h : T.OK) : Discipline T.sys where
  gen_view := rfl
  par_gen := rfl
  inter := countQuorum_inter 7 byz (by decide)
  has_mono := fun _ _ _ _ => any_le_mono
  one_per_view := fun r x y t1 t2 _ h1 h2 hv => h.one_per_view (r, x, t1) h1 (r, y, t2) h2 rfl hv
  vote_order := fun r x y t1 t2 _ h1 h2 hv => h.vote_order (r, x, t1) h1 (r, y, t2) h2 rfl hv
  wf := fun r w t _ hv => by
    obtain ⟨h1, h2⟩ := h.wf (r, w, t) hv
    exact ⟨T.gcB_sound h1, h2⟩
  just := fun r w t _ hv => (h.just (r, w, t) hv).imp_right fun ⟨_, _, ha⟩ => ⟨_, _, _, T.aggOK_sound ha⟩
  tmo_once := fun m u t1 t2 R1 R2 _ h1 h2 => h.tmo_once (m, u, t1, R1) h1 (m, u, t2, R2) h2 rfl rfl
  report := fun m u t' Rb _ hm => by
    obtain ⟨h1, h2, h3, h4⟩ := h.report (m, u, t', Rb) hm
    exact ⟨T.gcB_sound h1, h2, fun x tx hx => h3 (m, x, tx) hx rfl, fun x tx hx => h4 (m, x, tx) hx rfl⟩
  report_mono := fun m u1 u2 t1 t2 R1 R2 _ h1 h2 =>
    h.report_mono (m, u1, t1, R1) h1 (m, u2, t2, R2) h2 rfl

def StrictOK : Prop := ∀ e ∈ T.votes, view e.2.1 = view (par e.2.1) + 1 ∨
    OptSat (T.aggOf e.1 e.2.1) (fun a => T.AggOK e.1 e.2.1 e.2.2 a ∧
      ∀ m ∈ a.1, byz m.val = false → T.hasB e.1 (repOf a.2.2 m) e.2.2 = true)

theorem strict_of (h : T.StrictOK) : StrictJust T.sys := fun r w t _ hv =>
  (h (r, w, t) hv).imp_right fun ⟨_, _, ha⟩ => ⟨_, _, _, T.aggOK_sound ha.1, ha.2⟩

def UniformOK : Prop := ∀ w : B, view w = view (par w) + 1 ∨
    ∃ a ∈ T.aggs, ∀ e ∈ T.votes, e.2.1 = w → T.AggOK e.1 w e.2.2 a

theorem uniform_of (h : T.UniformOK) : UniformJust T.sys := fun w =>
  (h w).imp_right fun ⟨_, _, ha⟩ => ⟨_, _, _, fun r t _ hv => T.aggOK_sound (ha (r, w, t) hv rfl)⟩

end Tbl

def A2 : Agg := ([2, 3, 4, 5, 6], 2, [(2, 1)])
def A3 : Agg := ([0, 1, 3, 5, 6], 3, [(0, 2), (1, 2)])
def A5 : Agg := ([0, 1, 4, 5, 6], 5, [(0, 4), (1, 4)])
def A6 : Agg := ([2, 3, 4, 5, 6], 6, [(2, 6), (3, 6), (4, 6)])

def full : Tbl where
  votes :=
    [(0, 1, 1), (1, 1, 2), (2, 1, 3),
     (0, 2, 7), (1, 2, 8), (2, 2, 9),
     (3, 6, 13), (4, 6, 14), (0, 3, 15), (1, 3, 16),
     (0, 4, 20), (1, 4, 21), (3, 4, 22),
     (0, 5, 26), (1, 5, 27),
     (2, 6, 31),
     (2, 7, 35), (3, 7, 36), (4, 7, 37),
     (2, 8, 41), (3, 8, 42), (4, 8, 43),
     (2, 9, 47)]
  tmos :=
    [(0, 1, 4, 0), (1, 1, 5, 0), (2, 1, 6, 0),
     (2, 2, 10, 1), (3, 2, 11, 0), (4, 2, 12, 0),
     (0, 3, 17, 2), (1, 3, 18, 2), (3, 3, 19, 0),
     (0, 4, 23, 2), (1, 4, 24, 2), (3, 4, 25, 2),
     (0, 5, 28, 4), (1, 5, 29, 4), (4, 5, 30, 0),
     (2, 6, 32, 6), (3, 6, 33, 6), (4, 6, 34, 6),
     (2, 7, 38, 6), (3, 7, 39, 6), (4, 7, 40, 6),
     (2, 8, 44, 7), (3, 8, 45, 7), (4, 8, 46, 7)]
  hasL :=
    [(0, 1, 1), (0, 2, 7), (0, 3, 15), (0, 4, 20), (0, 5, 26),
     (1, 1, 2), (1, 2, 8), (1, 3, 16), (1, 4, 21), (1, 5, 27),
     (2, 1, 3), (2, 2, 9), (2, 6, 31), (2, 7, 35), (2, 8, 41), (2, 9, 47),
     (3, 6, 13), (3, 2, 22), (3, 4, 22), (3, 7, 36), (3, 8, 42),
     (4, 6, 14), (4, 7, 37), (4, 8, 43)]
  aggs := [A2, A3, A5, A6]
  aggFor := fun r b =>
    if b = 6 then (if r = 2 then some 2 else some 0)
    else if b = 4 then some 1
    else if b = 7 then some 3
    else none

def cex : TSys := full.sys

theorem full_ok : full.OK where
  one_per_view := by decide +kernel
  vote_order := by decide +kernel
  wf := by decide +kernel
  just := by decide +kernel
  tmo_once := by decide +kernel
  report := by decide +kernel
  report_mono := by decide +kernel

/-- **The instance satisfies the whole discipline of Fast-HotStuff as implemented.** -/
theorem cex_discipline : Discipline cex := full.discipline full_ok

/-! #### the two conflicting commits -/

theorem chain_b : TwoChain cex (1 : B) (2 : B) where
  p := rfl
  v := rfl
  cert := (full.certB_sound (b := 2) (t := 10) (by decide +kernel)).certified

theorem chain_w : TwoChain cex (7 : B) (8 : B) where
  p := rfl
  v := rfl
  cert := (full.certB_sound (b := 8) (t := 44) (by decide +kernel)).certified

/-- **Two committed blocks that are not on one branch**: the ancestors of `b0` are `b0` and genesis, those of `w1`
are `w1`, `w` and genesis. -/
theorem cex_conflict : ¬ (TExt cex (1 : B) (7 : B) ∨ TExt cex (7 : B) (1 : B)) := by
  have hb : ∀ x : B, x = 1 ∨ x = 0 → par x = 1 ∨ par x = 0 := by decide
  have hw : ∀ x : B, x = 7 ∨ x = 6 ∨ x = 0 → par x = 7 ∨ par x = 6 ∨ par x = 0 := by decide
  rintro (h | h)
  · exact absurd (h.closed hb (by decide)) (by decide)
  · exact absurd (h.closed hw (by decide)) (by decide)

/-- the instance violates both extra hypotheses (it must, by the two safety theorems) -/
theorem cex_not_strict : ¬ StrictJust cex := fun hs =>
  cex_conflict (one_branch_of_key cex_discipline (key_strict cex_discipline hs) chain_b chain_w)

theorem cex_not_uniform : ¬ UniformJust cex := fun hu =>
  cex_conflict (one_branch_of_key cex_discipline (key_uniform cex_discipline hu) chain_b chain_w)

/-- the quorum system is the implementation's: n = 7, `numFaulty 7 = 2` Byzantine replicas, `quorumSize 7 = 5` -/
theorem cex_sizes : numFaulty 7 = 2 ∧ quorumSize 7 = 5 ∧ count byz 7 = 2 := by decide

/-! ### Non-vacuity of the two safety theorems: the honest branch of the schedule alone

The b-branch of the schedule (b0, b1, c3, X with the aggregate QC A3, X' -- here also voted for by s2, so X' is
certified and X is committed) satisfies the discipline AND both extra hypotheses, and has two commits (b0 and
X, with the aggregate-justified block X in between). -/

def good : Tbl where
  votes :=
    [(0, 1, 1), (1, 1, 2), (2, 1, 3),
     (0, 2, 7), (1, 2, 8), (2, 2, 9),
     (0, 3, 15), (1, 3, 16),
     (0, 4, 20), (1, 4, 21), (3, 4, 22),
     (0, 5, 26), (1, 5, 27), (3, 5, 28)]
  tmos :=
    [(0, 1, 4, 0), (1, 1, 5, 0), (2, 1, 6, 0),
     (2, 2, 10, 1), (3, 2, 11, 0), (4, 2, 12, 0),
     (0, 3, 17, 2), (1, 3, 18, 2), (3, 3, 19, 0),
     (0, 4, 23, 2), (1, 4, 24, 2), (3, 4, 25, 2)]
  hasL :=
    [(0, 1, 1), (0, 2, 7), (0, 3, 15), (0, 4, 20), (0, 5, 26),
     (1, 1, 2), (1, 2, 8), (1, 3, 16), (1, 4, 21), (1, 5, 27),
     (2, 1, 3), (2, 2, 9),
     (3, 2, 22), (3, 4, 22), (3, 5, 28)]
  aggs := [A3]
  aggFor := fun _ b => if b = 4 then some 0 else none

theorem good_ok : good.OK where
  one_per_view := by decide +kernel
  vote_order := by decide +kernel
  wf := by decide +kernel
  just := by decide +kernel
  tmo_once := by decide +kernel
  report := by decide +kernel
  report_mono := by decide +kernel

theorem good_discipline : Discipline good.sys := good.discipline good_ok

theorem good_strict : StrictJust good.sys := good.strict_of (by unfold Tbl.StrictOK; decide +kernel)
theorem good_uniform : UniformJust good.sys := good.uniform_of (by unfold Tbl.UniformOK; decide +kernel)

theorem good_chain_b : TwoChain good.sys (1 : B) (2 : B) where
  p := rfl
  v := rfl
  cert := (good.certB_sound (b := 2) (t := 10) (by decide +kernel)).certified

theorem good_chain_x : TwoChain good.sys (4 : B) (5 : B) where
  p := rfl
  v := rfl
  cert := (good.certB_sound (b := 5) (t := 29) (by decide +kernel)).certified

end HsVerif.FastCex
