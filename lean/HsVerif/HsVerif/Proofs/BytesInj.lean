import HsVerif.Model.Bytes
/-! Helper lemmas for C12 / C02 / C13: the byte layouts of Model/Bytes.lean are injective (the bytes that
are hashed and signed determine the object).  Well-formedness predicates (`Part.WF`, `QSig.WF`, `QCv.WF`,
`Cmd.WF`, `Blk.WF`: what Go's types guarantee — `uint32` ids, `uint64` views, `[32]byte` hashes, lengths
that fit their length fields) and the scheme of a certificate (`QCv.OfScheme`) are defined here.
Signature bytes and command data are arbitrary naturals: no field that is parsed lies behind them
without a length in front.  Property theorems: Props/C12Bytes.lean. -/
namespace HsVerif.Model.Bytes

@[simp] theorem le_length (n x : Nat) : (le n x).length = n := by
  induction n generalizing x with
  | zero => rfl
  | succ n ih => simp [le, ih]

theorem le_injective {n x y : Nat} (hx : x < 256 ^ n) (hy : y < 256 ^ n) (h : le n x = le n y) : x = y := by
  induction n generalizing x y with
  | zero => simp at hx hy; omega
  | succ n ih =>
    simp only [le, List.cons.injEq] at h
    rw [Nat.pow_succ, Nat.mul_comm] at hx hy
    have := ih (Nat.div_lt_of_lt_mul hx) (Nat.div_lt_of_lt_mul hy) h.2
    omega

theorem le_append_inj {n x y : Nat} {r r' : Bytes} (hx : x < 256 ^ n) (hy : y < 256 ^ n)
    (h : le n x ++ r = le n y ++ r') : x = y ∧ r = r' := by
  have := List.append_inj h (by simp)
  exact ⟨le_injective hx hy this.1, this.2⟩

@[simp] theorem u32_length (x : Nat) : (u32 x).length = 4 := le_length 4 x
@[simp] theorem u64_length (x : Nat) : (u64 x).length = 8 := le_length 8 x

theorem u32_append_inj {x y : Nat} {r r' : Bytes} (hx : x < 2 ^ 32) (hy : y < 2 ^ 32)
    (h : u32 x ++ r = u32 y ++ r') : x = y ∧ r = r' :=
  le_append_inj (n := 4) (by omega) (by omega) h

theorem u64_append_inj {x y : Nat} {r r' : Bytes} (hx : x < 2 ^ 64) (hy : y < 2 ^ 64)
    (h : u64 x ++ r = u64 y ++ r') : x = y ∧ r = r' :=
  le_append_inj (n := 8) (by omega) (by omega) h


/-! ### lists of items

Two ways in which a concatenation of items can be read back, for items that are readable in front of anything
(`hf`): the number of items is known, or nothing follows and no item is empty. -/

theorem flatMap_append_inj {α} {P : α → Prop} {f : α → Bytes}
    (hf : ∀ {a b r r'}, P a → P b → f a ++ r = f b ++ r' → a = b ∧ r = r')
    {l l' : List α} {r r' : Bytes} (hw : ∀ a ∈ l, P a) (hw' : ∀ a ∈ l', P a) (hl : l.length = l'.length)
    (h : l.flatMap f ++ r = l'.flatMap f ++ r') : l = l' ∧ r = r' := by
  induction l generalizing l' with
  | nil =>
    cases l' with
    | nil => exact ⟨rfl, h⟩
    | cons _ _ => simp at hl
  | cons a l ih =>
    cases l' with
    | nil => simp at hl
    | cons a' l' =>
      simp only [List.flatMap_cons, List.append_assoc] at h
      obtain ⟨ha, h⟩ := hf (hw a (by simp)) (hw' a' (by simp)) h
      obtain ⟨hl, h⟩ := ih (fun q hq => hw q (by simp [hq])) (fun q hq => hw' q (by simp [hq]))
        (by simpa using hl) h
      exact ⟨by rw [ha, hl], h⟩

theorem flatMap_injective {α} {P : α → Prop} {f : α → Bytes}
    (hf : ∀ {a b r r'}, P a → P b → f a ++ r = f b ++ r' → a = b ∧ r = r') (hne : ∀ a, f a ≠ [])
    {l l' : List α} (hw : ∀ a ∈ l, P a) (hw' : ∀ a ∈ l', P a) (h : l.flatMap f = l'.flatMap f) : l = l' := by
  induction l generalizing l' with
  | nil =>
    cases l' with
    | nil => rfl
    | cons a' l' => simp [hne] at h
  | cons a l ih =>
    cases l' with
    | nil => simp [hne] at h
    | cons a' l' =>
      simp only [List.flatMap_cons] at h
      obtain ⟨ha, h⟩ := hf (hw a (by simp)) (hw' a' (by simp)) h
      rw [ha, ih (fun q hq => hw q (by simp [hq])) (fun q hq => hw' q (by simp [hq])) h]


/-- what Go's types give for a part: the id is a `uint32`, the signature shorter than 4 GiB -/
def Part.WF (p : Part) : Prop := p.id < 2 ^ 32 ∧ p.sig.length < 2 ^ 32

instance (p : Part) : Decidable p.WF := by unfold Part.WF; infer_instance

def partBytes (p : Part) : Bytes := u32 p.id ++ u32 p.sig.length ++ p.sig

theorem multiBytes_nil : multiBytes [] = [] := rfl

theorem part_append_inj {p p' : Part} {r r' : Bytes} (hp : p.WF) (hp' : p'.WF)
    (h : partBytes p ++ r = partBytes p' ++ r') : p = p' ∧ r = r' := by
  simp only [partBytes, List.append_assoc] at h
  obtain ⟨hid, h⟩ := u32_append_inj hp.1 hp'.1 h
  obtain ⟨hlen, h⟩ := u32_append_inj hp.2 hp'.2 h
  obtain ⟨hsig, h⟩ := List.append_inj h hlen
  cases p; cases p'; simp_all

/-- a multi-signature is delimited by the NUMBER of its parts (which `qcBytes` writes in front): the
same number of parts in front of anything — the parts and the rest are determined -/
theorem multiBytes_append_inj {ps ps' : List Part} {r r' : Bytes}
    (hw : ∀ p ∈ ps, p.WF) (hw' : ∀ p ∈ ps', p.WF) (hl : ps.length = ps'.length)
    (h : multiBytes ps ++ r = multiBytes ps' ++ r') : ps = ps' ∧ r = r' :=
  flatMap_append_inj (f := partBytes) part_append_inj hw hw' hl h

/-- on its own (nothing behind it) a multi-signature needs no count: every part has at least 8 bytes -/
theorem multiBytes_injective {ps ps' : List Part} (hw : ∀ p ∈ ps, p.WF) (hw' : ∀ p ∈ ps', p.WF)
    (h : multiBytes ps = multiBytes ps') : ps = ps' :=
  flatMap_injective (f := partBytes) part_append_inj
    (fun p e => by simpa [partBytes] using congrArg List.length e) hw hw' h


theorem ids_append_inj {ids ids' : List Nat} {r r' : Bytes}
    (hw : ∀ i ∈ ids, i < 2 ^ 32) (hw' : ∀ i ∈ ids', i < 2 ^ 32) (hl : ids.length = ids'.length)
    (h : ids.flatMap u32 ++ r = ids'.flatMap u32 ++ r') : ids = ids' ∧ r = r' :=
  flatMap_append_inj (P := (· < 2 ^ 32)) u32_append_inj hw hw' hl h

/-- the two signature schemes of the code: multi-signatures (ECDSA, EdDSA) and aggregates (BLS) -/
inductive Scheme | multi | agg
  deriving DecidableEq, Repr

def QSig.scheme : QSig → Scheme
  | .multi _ => .multi
  | .agg _ _ => .agg

/-- what Go's types give: ids are `uint32`s, there are fewer than `2^32` participants, every part is
shorter than 4 GiB.  Nothing is asked of the signature BYTES (arbitrary naturals). -/
def QSig.WF : QSig → Prop
  | .multi ps => ps.length < 2 ^ 32 ∧ ∀ p ∈ ps, p.WF
  | .agg ids _ => ids.length < 2 ^ 32 ∧ ∀ i ∈ ids, i < 2 ^ 32

instance (s : QSig) : Decidable s.WF := by cases s <;> (unfold QSig.WF; infer_instance)

/-- view is a `uint64`, the hash a `[32]byte` -/
def QCv.WF (q : QCv) : Prop :=
  q.view < 2 ^ 64 ∧ q.hash.length = 32 ∧ match q.sig with | none => True | some s => s.WF

instance (q : QCv) : Decidable q.WF := by
  unfold QCv.WF; cases q.sig <;> infer_instance

def QCv.OfScheme (sch : Scheme) (q : QCv) : Prop :=
  match q.sig with | none => True | some s => s.scheme = sch

instance (sch : Scheme) (q : QCv) : Decidable (q.OfScheme sch) := by
  unfold QCv.OfScheme; cases q.sig <;> infer_instance

theorem QSig.participants_lt {s : QSig} (h : s.WF) : ∀ i ∈ s.participants, i < 2 ^ 32 := by
  cases s with
  | multi ps =>
    intro i hi
    simp only [QSig.participants, List.mem_map] at hi
    obtain ⟨p, hp, rfl⟩ := hi
    exact (h.2 p hp).1
  | agg ids b => exact h.2

theorem QSig.participants_length_lt {s : QSig} (h : s.WF) : s.participants.length < 2 ^ 32 := by
  cases s with
  | multi ps => simpa [QSig.participants] using h.1
  | agg ids b => exact h.1

def sigTail : Option QSig → Bytes
  | none => []
  | some s => u32 s.participants.length ++ (s.participants.flatMap u32 ++ s.bytes)

theorem qcBytes_eq (q : QCv) : qcBytes q = u64 q.view ++ (q.hash ++ sigTail q.sig) := by
  unfold qcBytes sigTail; cases q.sig <;> simp

theorem qcBytes_length_ge {q : QCv} (h : q.hash.length = 32) : 40 ≤ (qcBytes q).length := by
  simp [qcBytes_eq, h]; omega

/-- a multi-signature is delimited by the count, so it can be read in front of anything; an aggregate
only by the end of the bytes (`sigTail_injective`: nothing follows) -/
theorem sigTail_multi_append_inj {ps ps' : List Part} {r r' : Bytes}
    (hw : (QSig.multi ps).WF) (hw' : (QSig.multi ps').WF)
    (h : sigTail (some (.multi ps)) ++ r = sigTail (some (.multi ps')) ++ r') : ps = ps' ∧ r = r' := by
  simp only [sigTail, List.append_assoc] at h
  obtain ⟨hn, h⟩ := u32_append_inj (QSig.participants_length_lt hw) (QSig.participants_length_lt hw') h
  obtain ⟨_, h⟩ := ids_append_inj (QSig.participants_lt hw) (QSig.participants_lt hw') hn h
  simp only [QSig.participants, List.length_map] at hn
  exact multiBytes_append_inj hw.2 hw'.2 hn h

theorem sigTail_injective {s s' : Option QSig} {sch : Scheme}
    (hw : ∀ x, s = some x → x.WF) (hw' : ∀ x, s' = some x → x.WF)
    (hs : ∀ x, s = some x → x.scheme = sch) (hs' : ∀ x, s' = some x → x.scheme = sch)
    (h : sigTail s = sigTail s') : s = s' := by
  cases s with
  | none =>
    cases s' with
    | none => rfl
    | some x' => have := congrArg List.length h; simp [sigTail] at this; omega
  | some x =>
    cases s' with
    | none => have := congrArg List.length h; simp [sigTail] at this
    | some x' =>
      have wx := hw x rfl
      have wx' := hw' x' rfl
      have hsch : x.scheme = x'.scheme := (hs x rfl).trans (hs' x' rfl).symm
      cases x with
      | multi ps =>
        cases x' with
        | multi ps' => rw [(sigTail_multi_append_inj (r := []) (r' := []) wx wx' (by simpa using h)).1]
        | agg _ _ => cases hsch
      | agg ids b =>
        cases x' with
        | multi _ => cases hsch
        | agg ids' b' =>
          simp only [sigTail] at h
          obtain ⟨hn, h⟩ := u32_append_inj (QSig.participants_length_lt wx) (QSig.participants_length_lt wx') h
          obtain ⟨hids, h⟩ := ids_append_inj (QSig.participants_lt wx) (QSig.participants_lt wx') hn h
          simp only [QSig.participants, QSig.bytes] at hids h
          rw [hids, h]

theorem QCv.WF.sig {q : QCv} (h : q.WF) (x : QSig) (hx : q.sig = some x) : x.WF := by
  have := h.2.2; rwa [hx] at this

theorem QCv.OfScheme.sig {q : QCv} {sch : Scheme} (h : q.OfScheme sch) (x : QSig) (hx : q.sig = some x) :
    x.scheme = sch := by
  unfold QCv.OfScheme at h; rwa [hx] at h

theorem qcBytes_injective {q q' : QCv} {sch : Scheme} (hw : q.WF) (hw' : q'.WF)
    (hs : q.OfScheme sch) (hs' : q'.OfScheme sch) (h : qcBytes q = qcBytes q') : q = q' := by
  rw [qcBytes_eq, qcBytes_eq] at h
  obtain ⟨hv, h⟩ := u64_append_inj hw.1 hw'.1 h
  obtain ⟨hh, h⟩ := List.append_inj h (by rw [hw.2.1, hw'.2.1])
  have hsig := sigTail_injective hw.sig hw'.sig hs.sig hs'.sig h
  cases q; cases q'; simp_all

/-- the form needed inside a block (the rest is the 8-byte timestamp): an aggregate runs to the end of
the certificate bytes, so the two rests must have the same length -/
theorem qcBytes_append_inj {q q' : QCv} {sch : Scheme} {r r' : Bytes} (hw : q.WF) (hw' : q'.WF)
    (hs : q.OfScheme sch) (hs' : q'.OfScheme sch) (hr : r.length = r'.length)
    (h : qcBytes q ++ r = qcBytes q' ++ r') : q = q' ∧ r = r' := by
  have hl : (qcBytes q).length = (qcBytes q').length := by
    have := congrArg List.length h
    simp only [List.length_append] at this; omega
  obtain ⟨h1, h2⟩ := List.append_inj h hl
  exact ⟨qcBytes_injective hw hw' hs hs' h1, h2⟩


def optQCBytes : Option QCv → Bytes
  | none => []
  | some q => qcBytes q

theorem tmoBytes_eq (id view : Nat) (qc : Option QCv) :
    tmoBytes id view qc = u32 id ++ (u64 view ++ optQCBytes qc) := by
  unfold tmoBytes optQCBytes; cases qc <;> simp

/-- an optional certificate at the end of the bytes: absent = no bytes, present = at least 40 bytes -/
theorem optQCBytes_injective {qc qc' : Option QCv} {sch : Scheme}
    (hw : ∀ q, qc = some q → q.WF) (hw' : ∀ q, qc' = some q → q.WF)
    (hs : ∀ q, qc = some q → q.OfScheme sch) (hs' : ∀ q, qc' = some q → q.OfScheme sch)
    (h : optQCBytes qc = optQCBytes qc') : qc = qc' := by
  cases qc with
  | none =>
    cases qc' with
    | none => rfl
    | some q' =>
      have := qcBytes_length_ge (hw' q' rfl).2.1
      simp only [optQCBytes] at h; rw [← h] at this; simp at this
  | some q =>
    cases qc' with
    | none =>
      have := qcBytes_length_ge (hw q rfl).2.1
      simp only [optQCBytes] at h; rw [h] at this; simp at this
    | some q' =>
      simp only [optQCBytes] at h
      rw [qcBytes_injective (hw q rfl) (hw' q' rfl) (hs q rfl) (hs' q' rfl) h]

theorem tmoBytes_injective {id id' view view' : Nat} {qc qc' : Option QCv} {sch : Scheme}
    (hid : id < 2 ^ 32) (hid' : id' < 2 ^ 32) (hv : view < 2 ^ 64) (hv' : view' < 2 ^ 64)
    (hw : ∀ q, qc = some q → q.WF) (hw' : ∀ q, qc' = some q → q.WF)
    (hs : ∀ q, qc = some q → q.OfScheme sch) (hs' : ∀ q, qc' = some q → q.OfScheme sch)
    (h : tmoBytes id view qc = tmoBytes id' view' qc') : id = id' ∧ view = view' ∧ qc = qc' := by
  rw [tmoBytes_eq, tmoBytes_eq] at h
  obtain ⟨h1, h⟩ := u32_append_inj hid hid' h
  obtain ⟨h2, h⟩ := u64_append_inj hv hv' h
  exact ⟨h1, h2, optQCBytes_injective hw hw' hs hs' h⟩


theorem varintAux_length_le (f n : Nat) : (varintAux f n).length ≤ f + 1 := by
  induction f generalizing n with
  | zero => simp [varintAux]
  | succ f ih =>
    unfold varintAux
    split
    · simp
    · have := ih (n / 128); simp; omega

theorem varintAux_length_pos (f n : Nat) : 1 ≤ (varintAux f n).length := by
  cases f with
  | zero => simp [varintAux]
  | succ f => unfold varintAux; split <;> simp

theorem varintAux_append_inj {f a b : Nat} {r r' : Bytes} (ha : a < 128 ^ (f + 1)) (hb : b < 128 ^ (f + 1))
    (h : varintAux f a ++ r = varintAux f b ++ r') : a = b ∧ r = r' := by
  induction f generalizing a b with
  | zero =>
    simp only [varintAux, List.cons_append, List.nil_append, List.cons.injEq] at h
    exact ⟨by omega, h.2⟩
  | succ f ih =>
    rw [Nat.pow_succ, Nat.mul_comm] at ha hb
    by_cases ha' : a < 128 <;> by_cases hb' : b < 128 <;>
      simp only [varintAux, ha', hb', if_true, if_false, List.cons_append, List.nil_append, List.cons.injEq] at h
    · exact h
    · omega
    · omega
    · obtain ⟨h3, h4⟩ := ih (Nat.div_lt_of_lt_mul ha) (Nat.div_lt_of_lt_mul hb) h.2
      exact ⟨by omega, h4⟩

/-- `varint` (fuel 9, ten groups) is injective and prefix-free on `n < 128^10 = 2^70` — every `uint64`
and every length is far below -/
theorem varint_append_inj {a b : Nat} {r r' : Bytes} (ha : a < 2 ^ 70) (hb : b < 2 ^ 70)
    (h : varint a ++ r = varint b ++ r') : a = b ∧ r = r' :=
  varintAux_append_inj (f := 9) (by omega) (by omega) h

theorem varint_length_le (n : Nat) : (varint n).length ≤ 10 := varintAux_length_le 9 n


/-- `ClientID` is a `uint32`, `SequenceNumber` a `uint64`, `Data` shorter than 4 GiB.  Nothing is asked
of the data BYTES: `Data` is the last field and is never parsed. -/
def Cmd.WF (c : Cmd) : Prop := c.client < 2 ^ 32 ∧ c.seq < 2 ^ 64 ∧ c.data.length < 2 ^ 32

instance (c : Cmd) : Decidable c.WF := by unfold Cmd.WF; infer_instance

def fData (c : Cmd) : Bytes := if c.data = [] then [] else 0x1a :: (varint c.data.length ++ c.data)

theorem cmdBytes_eq (c : Cmd) :
    cmdBytes c = (if c.client = 0 then [] else 0x08 :: varint c.client) ++
      ((if c.seq = 0 then [] else 0x10 :: varint c.seq) ++ fData c) := by
  simp [cmdBytes, fData]

/-- an optional proto3 field (tag and varint, omitted when zero) in front of bytes that do not begin with its
tag: the parser stands at a tag, and the tags 0x08, 0x10, 0x1a come in this order -/
theorem optField_append_inj {tag a b : Nat} {r r' : Bytes} (ha : a < 2 ^ 70) (hb : b < 2 ^ 70)
    (hr : ∀ t, r ≠ tag :: t) (hr' : ∀ t, r' ≠ tag :: t)
    (h : (if a = 0 then [] else tag :: varint a) ++ r = (if b = 0 then [] else tag :: varint b) ++ r') :
    a = b ∧ r = r' := by
  by_cases h0 : a = 0 <;> by_cases h0' : b = 0 <;>
    simp only [h0, h0', if_true, if_false, List.nil_append, List.cons_append] at h
  · exact ⟨by omega, h⟩
  · exact absurd h (hr _)
  · exact absurd h.symm (hr' _)
  · rw [List.cons.injEq] at h
    exact varint_append_inj ha hb h.2

theorem optField_length_le (tag a : Nat) : (if a = 0 then [] else tag :: varint a).length ≤ 11 := by
  have := varint_length_le a
  split <;> simp; omega

theorem fData_ne (c : Cmd) (t : Bytes) : fData c ≠ 0x10 :: t := by
  unfold fData; split <;> simp

theorem fSeq_fData_ne (c : Cmd) (t : Bytes) :
    (if c.seq = 0 then [] else 0x10 :: varint c.seq) ++ fData c ≠ 0x08 :: t := by
  unfold fData; split <;> split <;> simp

theorem fData_injective {c c' : Cmd} (hw : c.WF) (hw' : c'.WF) (h : fData c = fData c') : c.data = c'.data := by
  unfold fData at h
  split at h <;> split at h
  · simp_all
  · simp at h
  · simp at h
  · simp only [List.cons.injEq, true_and] at h
    exact (varint_append_inj (by have := hw.2.2; omega) (by have := hw'.2.2; omega) h).2

theorem cmdBytes_injective {c c' : Cmd} (hw : c.WF) (hw' : c'.WF) (h : cmdBytes c = cmdBytes c') : c = c' := by
  rw [cmdBytes_eq, cmdBytes_eq] at h
  obtain ⟨h1, h⟩ := optField_append_inj (by have := hw.1; omega) (by have := hw'.1; omega)
    (fSeq_fData_ne c) (fSeq_fData_ne c') h
  obtain ⟨h2, h⟩ := optField_append_inj (by have := hw.2.1; omega) (by have := hw'.2.1; omega)
    (fData_ne c) (fData_ne c') h
  have h3 := fData_injective hw hw' h
  cases c; cases c'; simp_all

theorem cmdBytes_length_lt {c : Cmd} (hw : c.WF) : (cmdBytes c).length < 2 ^ 70 := by
  have h1 := optField_length_le 0x08 c.client
  have h2 := optField_length_le 0x10 c.seq
  have h3 := varint_length_le c.data.length
  have := hw.2.2
  have e3 : (fData c).length ≤ 11 + c.data.length := by unfold fData; split <;> simp; omega
  rw [cmdBytes_eq]; simp only [List.length_append]; omega

theorem batchBytes_nil : batchBytes [] = [] := rfl

theorem batchBytes_injective {cs cs' : List Cmd} (hw : ∀ c ∈ cs, c.WF) (hw' : ∀ c ∈ cs', c.WF)
    (h : batchBytes cs = batchBytes cs') : cs = cs' := by
  refine flatMap_injective (P := Cmd.WF) (fun {c c' r r'} wc wc' h => ?_) (fun c => by simp) hw hw' h
  simp only [List.cons_append, List.append_assoc, List.cons.injEq, true_and] at h
  obtain ⟨hl, h⟩ := varint_append_inj (cmdBytes_length_lt wc) (cmdBytes_length_lt wc') h
  obtain ⟨hc, h⟩ := List.append_inj h hl
  exact ⟨cmdBytes_injective wc wc' hc, h⟩


/-- parent is a `[32]byte`, proposer a `uint32`, view and timestamp `uint64`s, the batch shorter than
`2^64` bytes (its length is written as a `uint64`), commands and certificate well formed -/
def Blk.WF (b : Blk) : Prop :=
  b.parent.length = 32 ∧ b.proposer < 2 ^ 32 ∧ b.view < 2 ^ 64 ∧ (batchBytes b.cmds).length < 2 ^ 64 ∧
    (∀ c ∈ b.cmds, c.WF) ∧ b.qc.WF ∧ b.ts < 2 ^ 64

instance (b : Blk) : Decidable b.WF := by unfold Blk.WF; infer_instance

theorem blockBytes_eq (b : Blk) :
    blockBytes b = b.parent ++ (u32 b.proposer ++ (u64 b.view ++ (u64 (batchBytes b.cmds).length ++
      (batchBytes b.cmds ++ (qcBytes b.qc ++ u64 b.ts))))) := by
  simp [blockBytes]

theorem blockBytes_injective {b b' : Blk} {sch : Scheme} (hw : b.WF) (hw' : b'.WF)
    (hs : b.qc.OfScheme sch) (hs' : b'.qc.OfScheme sch) (h : blockBytes b = blockBytes b') : b = b' := by
  obtain ⟨w1, w2, w3, w4, w5, w6, w7⟩ := hw
  obtain ⟨w1', w2', w3', w4', w5', w6', w7'⟩ := hw'
  rw [blockBytes_eq, blockBytes_eq] at h
  obtain ⟨e1, h⟩ := List.append_inj h (by rw [w1, w1'])
  obtain ⟨e2, h⟩ := u32_append_inj w2 w2' h
  obtain ⟨e3, h⟩ := u64_append_inj w3 w3' h
  obtain ⟨e4, h⟩ := u64_append_inj w4 w4' h
  obtain ⟨e5, h⟩ := List.append_inj h e4
  have e5' := batchBytes_injective w5 w5' e5
  obtain ⟨e6, h⟩ := qcBytes_append_inj w6 w6' hs hs' (by simp) h
  have e7 := le_injective (n := 8) (by omega) (by omega) h
  cases b; cases b'; simp_all


/-! ### lengths: the three kinds of signed bytes (a view: 8 bytes; a timeout message; a block) -/

theorem tmoBytes_length_ge (id view : Nat) (qc : Option QCv) : 12 ≤ (tmoBytes id view qc).length := by
  simp [tmoBytes_eq]; omega

theorem blockBytes_length_ge {b : Blk} (hw : b.WF) : 100 ≤ (blockBytes b).length := by
  have := qcBytes_length_ge hw.2.2.2.2.2.1.2.1
  simp [blockBytes_eq, hw.1]; omega

end HsVerif.Model.Bytes
