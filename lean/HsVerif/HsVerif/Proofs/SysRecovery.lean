import HsVerif.Proofs.SysRun
import HsVerif.Proofs.ReplicaRecovery
/-!
Recovery by timeouts (C05), the round of the system (`recovery_round_live`): every participant — the replicas of `C.honest`, at
least a quorum — is in view `v`, with ARBITRARY lock, chain, high QC, has timed out, and their timeout messages are delivered, in any
order.

The replicas are independent automata, only the signature table is shared; what one replica does with the messages it sees is in
Proofs/ReplicaRecovery.lean.  A replica other than the next leader sends neither a proposal nor a vote in this round; the next
leader proposes on the highest certificate of the first quorum it sees (`Top`).  The induction over the deliveries is
`deliver_pairs` (Proofs/SysRun.lean): here with `RecInv`, in Proofs/SysChainGlue.lean with `RecInv` and `RecExact` together.
-/
namespace HsVerif.Model

/-- the state of the timeout round after replica `j` has received the messages of `rec j` -/
structure RecInv (k : Keys) (C : SysCfg) (D : RecData) (s0 : Nat → RState) (ℓ : Nat) (T0 : List (Nat × Atom))
    (rec : Nat → List Nat) (x : SysState × Msgs) : Prop where
  fresh : FreshL x.1.truth x.1.nextBytes
  keys : x.1.reps.map (·.1) = C.honest
  table : ∀ b a, T0.lookup b = some a → x.1.truth.lookup b = some a
  recs : ∀ j ∈ C.honest, (j :: rec j).Nodup ∧ ∀ i ∈ rec j, i ∈ C.honest
  others : ∀ j ∈ C.honest, j ≠ ℓ → ∃ s, x.1.reps.lookup j = some s ∧
    ((rec j).length + 1 < (C.rcfg 0).cfg.quorum → RColl C D (s0 j) j (rec j) s) ∧
    ((C.rcfg 0).cfg.quorum ≤ (rec j).length + 1 → RMoved C D (s0 j) j (rec j) s)
  leaderC : (rec ℓ).length + 1 < (C.rcfg 0).cfg.quorum → ∃ s, x.1.reps.lookup ℓ = some s ∧ RColl C D (s0 ℓ) ℓ (rec ℓ) s
  leaderM : (C.rcfg 0).cfg.quorum ≤ (rec ℓ).length + 1 → ∃ s b', x.1.reps.lookup ℓ = some s ∧ D.v + 1 ≤ s.view ∧
    b'.view = D.v + 1 ∧ b'.qc = D.hq (absI D.bv ℓ ((rec ℓ).take ((C.rcfg 0).cfg.quorum - 1))) ∧
    b'.parent = b'.qc.hash ∧ b'.proposer = ℓ ∧ ∀ j ∈ C.honest, j ≠ ℓ → (j, Ev.propose ℓ b' none) ∈ x.2

/-- during the round a replica still knows every reported certificate: its store is that of `s0 j`, the table has only grown -/
theorem RecInv.knows {k : Keys} {C : SysCfg} {D : RecData} {s0 : Nat → RState} {ℓ : Nat} {T0 : List (Nat × Atom)}
    {rec : Nat → List Nat} {x : SysState × Msgs} (hinv : RecInv k C D s0 ℓ T0 rec x) (hS : RecSetupLive k C D s0 ℓ T0)
    {j : Nat} (hj : j ∈ C.honest) {s : RState} (hf : Frame (s0 j) s) :
    KnowsAll k C D j { s with truth := x.1.truth, nextBytes := x.1.nextBytes } :=
  (hS.init j hj).2.2.2.mono (by show s.chain = (s0 j).chain; exact hf.chain) (fun b a hb => hinv.table b a hb)

theorem route_mem_propose (C : SysCfg) (i j : Nat) (b : Block) (agg : Option AggQC) (outs : List Out)
    (h : Out.sendPropose b agg ∈ outs) (hj : j ∈ C.honest) (hji : j ≠ i) : (j, Ev.propose i b agg) ∈ route C i outs := by
  induction outs with
  | nil => simp at h
  | cons o rest ih =>
    simp only [List.mem_cons] at h
    rcases h with rfl | h
    · simp only [route, List.mem_append, List.mem_map, List.mem_filter, bne_iff_ne, ne_eq]
      exact Or.inl ⟨j, ⟨hj, hji⟩, rfl⟩
    · have := ih h
      cases o <;> simp [route, this]


def isProp (m : Nat × Ev) : Bool := match m.2 with | .propose _ _ _ => true | _ => false

def isVoteEv (m : Nat × Ev) : Bool := match m.2 with | .vote _ _ _ _ => true | _ => false

def QuietRoute (C : SysCfg) (j : Nat) (outs : List Out) : Prop :=
  ∀ m ∈ route C j outs, isProp m = false ∧ isVoteEv m = false

theorem rec_other_step (k : Keys) (C : SysCfg) (D : RecData) (s0 : Nat → RState) (ℓ : Nat) (T0 : List (Nat × Atom))
    (hS : RecSetupLive k C D s0 ℓ T0) (rec : Nat → List Nat) (σ : SysState) (acc : Msgs) (j i : Nat)
    (hinv : RecInv k C D s0 ℓ T0 rec (σ, acc)) (hj : j ∈ C.honest) (hi : i ∈ C.honest) (hij : i ≠ j) (hnew : i ∉ rec j)
    (hjl : j ≠ ℓ) :
    ∃ s s' outs, σ.reps.lookup j = some s ∧
      step k (C.rcfg j) { s with truth := σ.truth, nextBytes := σ.nextBytes } (.timeout (D.tmsg C i)) = (s', outs) ∧
      s'.truth = σ.truth ∧ s'.nextBytes = σ.nextBytes ∧
      ((rec j ++ [i]).length + 1 < (C.rcfg 0).cfg.quorum → RColl C D (s0 j) j (rec j ++ [i]) s') ∧
      ((C.rcfg 0).cfg.quorum ≤ (rec j ++ [i]).length + 1 → RMoved C D (s0 j) j (rec j ++ [i]) s') ∧
      QuietRoute C j outs := by
  have hq : 2 ≤ (C.rcfg 0).cfg.quorum := (quorum_le_n C.n hS.two).1
  have hqj : ∀ x, (C.rcfg x).cfg.quorum = (C.rcfg 0).cfg.quorum := fun _ => rfl
  obtain ⟨hrnd, hrmem⟩ := hinv.recs j hj
  have hnew' : i ∉ j :: rec j := by
    simp only [List.mem_cons, not_or]; exact ⟨hij, hnew⟩
  have hquiet : QuietRoute C j [] := fun m hm => by simp [route] at hm
  obtain ⟨s, hl, hC, hM⟩ := hinv.others j hj hjl
  refine ⟨s, ?_⟩
  by_cases hlt : (rec j).length + 1 < (C.rcfg 0).cfg.quorum
  · have hc := hC hlt
    by_cases hlt2 : (rec j).length + 2 < (C.rcfg 0).cfg.quorum
    · obtain ⟨s', hstep, hc', ht, hn⟩ := rcoll_add k C D (s0 j) s j i (rec j) σ.truth σ.nextBytes hS.agg hj hrmem hi hnew' hc
        (hinv.knows hS hj hc.frame) (by rw [hqj]; exact hlt2)
      exact ⟨s', [], hl, hstep, ht, hn, fun _ => hc',
        fun h => by simp only [List.length_append, List.length_singleton] at h; omega, hquiet⟩
    · obtain ⟨s', to, si, v, hstep, hc', ht, hn⟩ := rcoll_quorum k C D (s0 j) s j i (rec j) σ.truth σ.nextBytes hS.agg hS.scheme hS.v0
        hj hrmem hi hrnd hnew' (hS.init j hj).2.1 hc (hinv.knows hS hj hc.frame) hinv.fresh (by rw [hqj]; omega)
        (by rw [hS.leader j hj]; exact fun e => hjl e.symm)
      refine ⟨s', _, hl, hstep, ht, hn, fun h => by simp only [List.length_append, List.length_singleton] at h; omega,
        fun _ => hc', ?_⟩
      intro m hm
      simp only [route, List.mem_singleton] at hm
      subst hm
      exact ⟨rfl, rfl⟩
  · have hc := hM (by omega)
    obtain ⟨s', hstep, hc', ht, hn⟩ := rmoved_add k C D (s0 j) s j i (rec j) σ.truth σ.nextBytes hS.agg (by rw [hqj]; exact hq)
      hj hrmem hi hc (hinv.knows hS hj hc.frame)
    exact ⟨s', [], hl, hstep, ht, hn, fun h => by simp only [List.length_append, List.length_singleton] at h; omega,
      fun _ => hc', hquiet⟩

theorem rec_step (k : Keys) (C : SysCfg) (D : RecData) (s0 : Nat → RState) (ℓ : Nat) (T0 : List (Nat × Atom))
    (hS : RecSetupLive k C D s0 ℓ T0) (rec : Nat → List Nat) (σ : SysState) (acc : Msgs) (j i : Nat)
    (hinv : RecInv k C D s0 ℓ T0 rec (σ, acc)) (hj : j ∈ C.honest) (hi : i ∈ C.honest) (hij : i ≠ j) (hnew : i ∉ rec j) :
    RecInv k C D s0 ℓ T0 (recUpd rec j i) (deliverAll k C (σ, acc) [(j, Ev.timeout (D.tmsg C i))]) := by
  have hq : 2 ≤ (C.rcfg 0).cfg.quorum ∧ (C.rcfg 0).cfg.quorum ≤ C.n := quorum_le_n C.n hS.two
  have hqj : ∀ x, (C.rcfg x).cfg.quorum = (C.rcfg 0).cfg.quorum := fun _ => rfl
  obtain ⟨hrnd, hrmem⟩ := hinv.recs j hj
  have hnew' : i ∉ j :: rec j := by
    simp only [List.mem_cons, not_or]; exact ⟨hij, hnew⟩
  have hndj : (rec j).Nodup ∧ j ∉ rec j := by
    rw [List.nodup_cons] at hrnd; exact ⟨hrnd.2, hrnd.1⟩
  -- what holds of `recUpd` in any case
  have hrecs' : ∀ x ∈ C.honest, (x :: recUpd rec j i x).Nodup ∧ ∀ y ∈ recUpd rec j i x, y ∈ C.honest := by
    intro x hx
    by_cases hxj : x = j
    · subst hxj
      rw [recUpd_same]
      refine ⟨?_, ?_⟩
      · rw [List.nodup_cons]
        refine ⟨?_, ?_⟩
        · simp only [List.mem_append, List.mem_singleton, not_or]
          exact ⟨hndj.2, fun e => hij e.symm⟩
        · rw [List.nodup_append]
          exact ⟨hndj.1, by simp, by intro a ha b hb; simp at hb; subst hb; exact fun e => hnew (e ▸ ha)⟩
      · intro y hy
        simp only [List.mem_append, List.mem_singleton] at hy
        rcases hy with hy | rfl
        · exact hrmem y hy
        · exact hi
    · rw [recUpd_other _ _ _ _ hxj]; exact hinv.recs x hx
  by_cases hjl : j = ℓ
  · -- the next leader
    subst hjl
    by_cases hlt : (rec j).length + 1 < (C.rcfg 0).cfg.quorum
    · obtain ⟨s, hl, hc⟩ := hinv.leaderC hlt
      obtain ⟨σ', hd, ⟨rj, ro, rk, _, _⟩, rf, rt⟩ := deliver_frame k C σ acc j (Ev.timeout (D.tmsg C i)) s hl hinv.fresh
      rw [hd]
      by_cases hlt2 : (rec j).length + 2 < (C.rcfg 0).cfg.quorum
      · -- still collecting
        obtain ⟨s', hstep, hc', _, _⟩ := rcoll_add k C D (s0 j) s j i (rec j) σ.truth σ.nextBytes hS.agg hj hrmem hi hnew' hc
          (hinv.knows hS hj hc.frame) (by rw [hqj]; exact hlt2)
        rw [hstep] at rj ⊢
        refine ⟨rf, rk.trans hinv.keys, fun b a hb => rt b a (hinv.table b a hb), hrecs', ?_, ?_, ?_⟩
        · intro x hx hxl
          obtain ⟨sx, q1, q2, q3⟩ := hinv.others x hx hxl
          rw [recUpd_other _ _ _ _ hxl]
          exact ⟨sx, (ro x hxl).trans q1, q2, q3⟩
        · intro _
          rw [recUpd_same]
          exact ⟨s', rj, hc'⟩
        · intro hge
          rw [recUpd_same] at hge
          simp only [List.length_append, List.length_singleton] at hge
          omega
      · -- the quorum: it proposes
        have hge : (C.rcfg j).cfg.quorum ≤ (rec j).length + 2 := by rw [hqj]; omega
        have hrj := hrecs' j hj
        rw [recUpd_same] at hrj
        have htop : Top C D (absI D.bv j (rec j ++ [i])) :=
          absI_top hrj.1 hj hrj.2 (by simp only [List.length_append, List.length_singleton]; omega)
        have hmi : absI D.bv j (rec j ++ [i]) ∈ C.honest := absI_honest D.bv hj hrj.2
        obtain ⟨b', p1, p2, p3, p4, p5, p6⟩ := rcoll_quorum_leader k C D (s0 j) s j i (rec j) σ.truth σ.nextBytes
          hS.agg hS.scheme hS.rules hS.v0 hj hrmem hi hrnd hnew' (hS.init j hj).2.2.1 hc
          (hinv.knows hS hj hc.frame) hinv.fresh hge (hS.leader j hj) (hS.cover j hj _ hmi htop) (hS.mark _ hmi)
        refine ⟨rf, rk.trans hinv.keys, fun b a hb => rt b a (hinv.table b a hb), hrecs', ?_, ?_, ?_⟩
        · intro x hx hxl
          obtain ⟨sx, q1, q2, q3⟩ := hinv.others x hx hxl
          rw [recUpd_other _ _ _ _ hxl]
          exact ⟨sx, (ro x hxl).trans q1, q2, q3⟩
        · intro hlt'
          rw [recUpd_same] at hlt'
          simp only [List.length_append, List.length_singleton] at hlt'
          omega
        · intro _
          refine ⟨_, b', rj, p6, p1, ?_, by rw [p3, p2], p4, ?_⟩
          · rw [p2, recUpd_same]
            have : (rec j ++ [i]).take ((C.rcfg 0).cfg.quorum - 1) = rec j ++ [i] := by
              apply List.take_of_length_le
              simp only [List.length_append, List.length_singleton]; omega
            rw [this]
          · intro x hx hxl
            exact List.mem_append_right _ (route_mem_propose C j x b' none _ p5 hx hxl)
    · -- it has moved on already: whatever it does, it stays in a later view
      obtain ⟨s, b', hl, hv, p1, p2, p3, p4, p5⟩ := hinv.leaderM (by omega)
      obtain ⟨σ', hd, ⟨rj, ro, rk, _, _⟩, rf, rt⟩ := deliver_frame k C σ acc j (Ev.timeout (D.tmsg C i)) s hl hinv.fresh
      rw [hd]
      refine ⟨rf, rk.trans hinv.keys, fun b a hb => rt b a (hinv.table b a hb), hrecs', ?_, ?_, ?_⟩
      · intro x hx hxl
        obtain ⟨sx, q1, q2, q3⟩ := hinv.others x hx hxl
        rw [recUpd_other _ _ _ _ hxl]
        exact ⟨sx, (ro x hxl).trans q1, q2, q3⟩
      · intro hlt'
        rw [recUpd_same] at hlt'
        simp only [List.length_append, List.length_singleton] at hlt'
        omega
      · intro _
        refine ⟨(step k (C.rcfg j) { s with truth := σ.truth, nextBytes := σ.nextBytes } (Ev.timeout (D.tmsg C i))).1, b',
          rj,
          Nat.le_trans hv (step_view_mono k (C.rcfg j) { s with truth := σ.truth, nextBytes := σ.nextBytes } _), p1, ?_, p3, p4, ?_⟩
        · rw [p2, recUpd_same, List.take_append_of_le_length (by omega)]
        · intro x hx hxl
          exact List.mem_append_left _ (p5 x hx hxl)
  · -- a replica that is not the next leader
    obtain ⟨s, s', outs, hl, hstep, _, _, hC', hM', _⟩ := rec_other_step k C D s0 ℓ T0 hS rec σ acc j i hinv hj hi hij hnew hjl
    obtain ⟨σ', hd, ⟨rj, ro, rk, _, _⟩, rf, rt⟩ := deliver_frame k C σ acc j (Ev.timeout (D.tmsg C i)) s hl hinv.fresh
    rw [hd]
    rw [hstep] at rj ⊢
    refine ⟨rf, rk.trans hinv.keys, fun b a hb => rt b a (hinv.table b a hb), hrecs', ?_, ?_, ?_⟩
    · intro x hx hxl
      by_cases hxj : x = j
      · subst hxj
        rw [recUpd_same]
        exact ⟨s', rj, hC', hM'⟩
      · obtain ⟨sx, q1, q2, q3⟩ := hinv.others x hx hxl
        rw [recUpd_other _ _ _ _ hxj]
        exact ⟨sx, (ro _ hxj).trans q1, q2, q3⟩
    · intro hlt
      rw [recUpd_other _ _ _ _ (fun e => hjl e.symm)] at hlt
      obtain ⟨sl, q1, q2⟩ := hinv.leaderC hlt
      rw [recUpd_other _ _ _ _ (fun e => hjl e.symm)]
      exact ⟨sl, (ro _ (fun e => hjl e.symm)).trans q1, q2⟩
    · intro hge
      rw [recUpd_other _ _ _ _ (fun e => hjl e.symm)] at hge
      obtain ⟨sl, b', q1, q2, p1, p2, p3, p4, p5⟩ := hinv.leaderM hge
      rw [recUpd_other _ _ _ _ (fun e => hjl e.symm)]
      exact ⟨sl, b', (ro _ (fun e => hjl e.symm)).trans q1, q2, p1, p2, p3, p4,
        fun x hx hxl => List.mem_append_left _ (p5 x hx hxl)⟩


/-- the initial state of the scenario: replica `j` is in state `s0 j`, the table is `T0` -/
structure RecStart (C : SysCfg) (s0 : Nat → RState) (T0 : List (Nat × Atom)) (σ : SysState) : Prop where
  fresh : FreshL σ.truth σ.nextBytes
  keys : σ.reps.map (·.1) = C.honest
  truth : σ.truth = T0
  reps : ∀ j ∈ C.honest, σ.reps.lookup j = some (s0 j)

/-- a delivery order of the timeout messages: every message (receiver `p.1`, sender `p.2 ≠ p.1`) exactly once -/
structure FullOrder (C : SysCfg) (msgs : List (Nat × Nat)) : Prop where
  nodup : msgs.Nodup
  valid : ∀ p ∈ msgs, p.1 ∈ C.honest ∧ p.2 ∈ C.honest ∧ p.2 ≠ p.1
  full : ∀ j ∈ C.honest, ∀ i ∈ C.honest, i ≠ j → (j, i) ∈ msgs

/-- the premiss of `deliver_pairs` for a full round from the start -/
theorem FullOrder.fresh {C : SysCfg} {msgs : List (Nat × Nat)} (hm : FullOrder C msgs) :
    ∀ p ∈ msgs, (p.1 ∈ C.honest ∧ p.2 ∈ C.honest ∧ p.2 ≠ p.1) ∧ p.2 ∉ (fun _ : Nat => ([] : List Nat)) p.1 :=
  fun p hp => ⟨hm.valid p hp, by simp⟩

theorem recInv_init {k : Keys} {C : SysCfg} {D : RecData} {s0 : Nat → RState} {ℓ : Nat} {T0 : List (Nat × Atom)}
    (hS : RecSetupLive k C D s0 ℓ T0) {σ0 : SysState} (h0 : RecStart C s0 T0 σ0) :
    RecInv k C D s0 ℓ T0 (fun _ => []) (σ0, []) := by
  have hq : 2 ≤ (C.rcfg 0).cfg.quorum := (quorum_le_n C.n hS.two).1
  refine ⟨h0.fresh, h0.keys, by intro b a hb; rw [h0.truth]; exact hb, by intro j _; simp, ?_, ?_, ?_⟩
  · intro j hj _
    exact ⟨s0 j, h0.reps j hj, fun _ => (hS.init j hj).1, fun h => by simp at h; omega⟩
  · intro _
    exact ⟨s0 ℓ, h0.reps ℓ hS.lmem, (hS.init ℓ hS.lmem).1⟩
  · intro h; simp at h; omega

theorem recAll_full {C : SysCfg} (hnd : C.honest.Nodup) (hqh : (C.rcfg 0).cfg.quorum ≤ C.honest.length)
    {msgs : List (Nat × Nat)} (hm : FullOrder C msgs) (j : Nat) (hj : j ∈ C.honest) :
    (C.rcfg 0).cfg.quorum ≤ (recAll (fun _ => []) msgs j).length + 1 := by
  have : C.honest.length ≤ (j :: recAll (fun _ => []) msgs j).length := by
    apply nodup_length_le _ _ hnd
    intro x hx
    by_cases hxj : x = j
    · simp [hxj]
    · exact List.mem_cons_of_mem _ (recAll_mem msgs _ j x (Or.inr (hm.full j hj x hx hxj)))
  simp only [List.length_cons] at this
  omega

theorem recovery_round_live (k : Keys) (C : SysCfg) (D : RecData) (s0 : Nat → RState) (ℓ : Nat) (T0 : List (Nat × Atom))
    (hS : RecSetupLive k C D s0 ℓ T0) (σ0 : SysState) (h0 : RecStart C s0 T0 σ0)
    (msgs : List (Nat × Nat)) (hm : FullOrder C msgs) :
    ∃ (i : Nat) (b' : Block),
      i ∈ C.honest ∧ Top C D i ∧
      b'.view = D.v + 1 ∧ b'.qc = D.hq i ∧ b'.parent = (D.hq i).hash ∧ b'.proposer = ℓ ∧
      (∀ j ∈ C.honest, j ≠ ℓ →
        (j, Ev.propose ℓ b' none) ∈ (deliverAll k C (σ0, []) (msgs.map fun p => (p.1, Ev.timeout (D.tmsg C p.2)))).2) ∧
      (∀ j ∈ C.honest, ∃ s,
        (deliverAll k C (σ0, []) (msgs.map fun p => (p.1, Ev.timeout (D.tmsg C p.2)))).1.reps.lookup j = some s ∧
        D.v + 1 ≤ s.view) ∧
      (∀ j ∈ C.honest, j ≠ ℓ → ∃ s bytes,
        (deliverAll k C (σ0, []) (msgs.map fun p => (p.1, Ev.timeout (D.tmsg C p.2)))).1.reps.lookup j = some s ∧
        s.view = D.v + 1 ∧
        (let σ1 := (deliverAll k C (σ0, []) (msgs.map fun p => (p.1, Ev.timeout (D.tmsg C p.2)))).1
         let r := step k (C.rcfg j) { s with truth := σ1.truth, nextBytes := σ1.nextBytes } (.propose ℓ b' none)
         Has b'.hash r.1 ∧ Out.sign (blkMsg b'.hash) ∈ r.2 ∧
         r.1.truth.lookup bytes = some ⟨j, blkMsg b'.hash⟩ ∧
         ((C.rcfg j).leader (D.v + 1 + 1) ≠ j →
           Out.sendVote ((C.rcfg j).leader (D.v + 1 + 1)) (.multi C.scheme [⟨j, bytes⟩]) b'.hash ∈ r.2))) := by
  have hfin := deliver_pairs k C (fun j i => (j, Ev.timeout (D.tmsg C i))) (fun j i => j ∈ C.honest ∧ i ∈ C.honest ∧ i ≠ j)
    (RecInv k C D s0 ℓ T0) (fun rec σ acc j i h ⟨hj, hi, hij⟩ hn => rec_step k C D s0 ℓ T0 hS rec σ acc j i h hj hi hij hn)
    msgs (fun _ => []) (σ0, []) (recInv_init hS h0) hm.nodup hm.fresh
  have hlen := recAll_full hS.nodup hS.qh hm
  obtain ⟨sl, b', hll, hvl, p1, p2, p3, p4, p5⟩ := hfin.leaderM (hlen ℓ hS.lmem)
  let recl := recAll (fun _ => []) msgs ℓ
  let i := absI D.bv ℓ (recl.take ((C.rcfg 0).cfg.quorum - 1))
  obtain ⟨hndl, hmeml⟩ := hfin.recs ℓ hS.lmem
  have hmemt : ∀ x ∈ recl.take ((C.rcfg 0).cfg.quorum - 1), x ∈ C.honest := fun x hx => hmeml x (List.mem_of_mem_take hx)
  have hih : i ∈ C.honest := absI_honest D.bv hS.lmem hmemt
  have htop : Top C D i := by
    refine absI_top (List.Sublist.nodup (List.Sublist.cons_cons ℓ (List.take_sublist _ _)) hndl) hS.lmem hmemt ?_
    have hl : (C.rcfg 0).cfg.quorum ≤ recl.length + 1 := hlen ℓ hS.lmem
    rw [List.length_take, Nat.min_eq_left (by omega)]
    omega
  refine ⟨i, b', hih, htop, p1, p2, by rw [p3, p2], p4, p5, ?_, ?_⟩
  · intro j hj
    by_cases hjl : j = ℓ
    · subst hjl; exact ⟨sl, hll, hvl⟩
    · obtain ⟨s, q1, _, q3⟩ := hfin.others j hj hjl
      have hmv := q3 (hlen j hj)
      exact ⟨s, q1, by rw [hmv.view]; exact Nat.le_refl _⟩
  · intro j hj hjl
    obtain ⟨s, q1, _, q3⟩ := hfin.others j hj hjl
    have hmv := q3 (hlen j hj)
    let σ1 := (deliverAll k C (σ0, []) (msgs.map fun p => (p.1, Ev.timeout (D.tmsg C p.2)))).1
    let sT : RState := { s with truth := σ1.truth, nextBytes := σ1.nextBytes }
    have hknow : KnowsAll k C D j sT := hfin.knows hS hj hmv.frame
    obtain ⟨a1, a2, a3, a4⟩ := hknow.qc i hih
    have hready : RuleReady (C.rcfg j) sT (D.v + 1) (D.hb i) :=
      ruleReady_congr (C.rcfg j) (s0 j) sT _ _ hmv.frame.chain hmv.frame.lock (hS.cover j hj i hih htop)
    have hbv : b'.view = sT.view := by rw [p1]; exact hmv.view.symm
    obtain ⟨bytes, r1, r2, r3, _, r5⟩ := step_propose_votes k (C.rcfg j) sT ℓ b' (D.hb i) hS.scheme hS.agg (hS.range j hj) hfin.fresh
      hbv (by rw [p1]; show s.lastVoted < _; rw [hmv.frame.lastVoted]; have := (hS.init j hj).2.2.1; omega)
      (by rw [p1]; exact (hS.leader j hj).symm) p3 (by rw [p1, p2]; exact Nat.lt_succ_of_lt a4) (by rw [p2]; exact a1) (by rw [p2]; exact a2)
      (RuleReady.rule (by rw [p1]; exact hready) (by rw [p2]; exact a2) (Nat.le_refl _) p3)
      hmv.queue
    refine ⟨s, bytes, q1, hmv.view, r1, r2, r3, ?_⟩
    intro hne
    have := r5 (by rw [p1]; exact hne)
    rw [p1] at this
    exact this

deriving instance DecidableEq for AggQC, SyncInfo, TimeoutMsg

/-- the order in which `syncRound` delivers the timeout messages: sender by sender -/
def senderMajor (C : SysCfg) : List (Nat × Nat) :=
  C.honest.flatMap fun i => (C.honest.filter (· != i)).map fun j => (j, i)

theorem senderMajor_nodup (H : List Nat) (hH : H.Nodup) : ∀ (l : List Nat), l.Nodup →
    (l.flatMap fun i => (H.filter (· != i)).map fun j => (j, i)).Nodup := by
  intro l
  induction l with
  | nil => intro _; simp
  | cons i rest ih =>
    intro hn
    rw [List.nodup_cons] at hn
    simp only [List.flatMap_cons]
    rw [List.nodup_append]
    refine ⟨?_, ih hn.2, ?_⟩
    · exact List.pairwise_map.2 ((hH.filter _).imp fun hne e => hne (congrArg Prod.fst e))
    · intro a ha b hb
      simp only [List.mem_map, List.mem_filter] at ha
      obtain ⟨x, _, rfl⟩ := ha
      simp only [List.mem_flatMap, List.mem_map, List.mem_filter] at hb
      obtain ⟨y, hy, z, _, rfl⟩ := hb
      intro e
      simp only [Prod.mk.injEq] at e
      exact hn.1 (e.2 ▸ hy)

theorem senderMajor_full (C : SysCfg) (hn : C.honest.Nodup) : FullOrder C (senderMajor C) := by
  refine ⟨senderMajor_nodup C.honest hn C.honest hn, ?_, ?_⟩
  · intro p hp
    simp only [senderMajor, List.mem_flatMap, List.mem_map, List.mem_filter, bne_iff_ne, ne_eq] at hp
    obtain ⟨i, hi, j, ⟨hj, hji⟩, rfl⟩ := hp
    exact ⟨hj, hi, fun e => hji e.symm⟩
  · intro j hj i hi hij
    simp only [senderMajor, List.mem_flatMap, List.mem_map, List.mem_filter, bne_iff_ne, ne_eq]
    exact ⟨i, hi, j, ⟨hj, fun e => hij e.symm⟩, rfl⟩

end HsVerif.Model
