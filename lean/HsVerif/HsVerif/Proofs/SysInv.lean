import HsVerif.Proofs.ListFacts
import HsVerif.Model.Sys
import HsVerif.Proofs.ReplicaSig
import HsVerif.Proofs.ReplicaEvidence
/-!
The invariant of the system of replica models (Model/Sys.lean), `SysInv`, by induction over `Reach`: byte ids of the
global table are pairwise distinct and below `nextBytes`; the replicas are the honest ids (`reach_keys`); honest
signatures over block messages are unforgeable (every such entry of the global table has its vote record in the signer's
ghost history) — the one clause that needs the hypothesis that timeout-message keys are not block-message keys; every
replica keeps the vote discipline `Inv3`, and `RepCur`: the certificate of every block it voted for verifies against ITS
table and store, those blocks are stored, and its table is contained in the global one (a replica's copy is an earlier
global table, and the global table only grows).  `sysStep_cases` says what an action does.
-/
namespace HsVerif.Model
open HsVerif.Props HsVerif.Props.C03Cur

theorem lookup_setKV_self {α} (i : Nat) (v : α) (l : List (Nat × α)) : (setKV i v l).lookup i = some v := by
  induction l with
  | nil => simp [setKV]
  | cons a l ih =>
    obtain ⟨j, w⟩ := a
    simp only [setKV]
    by_cases h : j = i
    · subst h; simp
    · have h' : (i == j) = false := by simp; omega
      simp [h, List.lookup, h', ih]

theorem lookup_setKV_ne {α} (i j : Nat) (v : α) (l : List (Nat × α)) (hne : j ≠ i) :
    (setKV i v l).lookup j = l.lookup j := by
  induction l with
  | nil =>
    have h' : (j == i) = false := by simp; omega
    simp [setKV, List.lookup, h']
  | cons a l ih =>
    obtain ⟨j', w⟩ := a
    simp only [setKV]
    by_cases h : j' = i
    · subst h
      have h' : (j == j') = false := by simp; omega
      simp [List.lookup, h']
    · simp only [beq_iff_eq, h, ↓reduceIte, List.lookup]
      split <;> simp_all

theorem lookup_setKV_cases {α} {i j : Nat} {v w : α} {l : List (Nat × α)} (h : (setKV i v l).lookup j = some w) :
    (j = i ∧ w = v) ∨ (j ≠ i ∧ l.lookup j = some w) := by
  by_cases hji : j = i
  · subst hji
    rw [lookup_setKV_self] at h
    exact Or.inl ⟨rfl, (Option.some.inj h).symm⟩
  · rw [lookup_setKV_ne _ _ _ _ hji] at h
    exact Or.inr ⟨hji, h⟩

theorem keys_setKV {α} (l : List (Nat × α)) (i : Nat) (v : α) (h : i ∈ l.map (·.1)) :
    (setKV i v l).map (·.1) = l.map (·.1) := by
  induction l with
  | nil => simp at h
  | cons p rest ih =>
    obtain ⟨k', v'⟩ := p
    unfold setKV
    by_cases hk : k' = i
    · subst hk; simp
    · have h1 : (k' == i) = false := by simpa using hk
      simp only [h1, Bool.false_eq_true, if_false, List.map_cons]
      simp only [List.map_cons, List.mem_cons] at h
      rcases h with h | h
      · exact absurd h.symm hk
      · rw [ih h]

theorem mem_keys_of_lookup {α} (l : List (Nat × α)) (i : Nat) (v : α) (h : l.lookup i = some v) : i ∈ l.map (·.1) :=
  List.mem_map_of_mem (f := (·.1)) (mem_of_lookup l i v h)

theorem keys_setKV_of_lookup {α} {l : List (Nat × α)} {i : Nat} {s : α} (v : α) (h : l.lookup i = some s) :
    (setKV i v l).map (·.1) = l.map (·.1) :=
  keys_setKV l i v (mem_keys_of_lookup l i s h)

theorem lookup_of_mem_keys {α} (l : List (Nat × α)) (i : Nat) (h : i ∈ l.map (·.1)) : ∃ v, l.lookup i = some v := by
  cases hl : l.lookup i with
  | some v => exact ⟨v, rfl⟩
  | none =>
    obtain ⟨p, hp, rfl⟩ := List.mem_map.mp h
    exact absurd (List.lookup_eq_none_iff.mp hl p hp) (by simp)

theorem lookup_init {α} (v : α) (l : List Nat) (i : Nat) :
    (l.map (fun i => (i, v))).lookup i = if i ∈ l then some v else none := by
  induction l with
  | nil => simp
  | cons a l ih =>
    simp only [List.map_cons, List.lookup, List.mem_cons]
    by_cases h : i = a
    · subst h; simp
    · have h' : (i == a) = false := by simp; omega
      simp [h', ih, h]

theorem sysInit_lookup {k : Keys} {C : SysCfg} {i : Nat} {s : RState} (h : (sysInit k C).reps.lookup i = some s) :
    i ∈ C.honest ∧ s = {} := by
  simp only [sysInit, lookup_init] at h
  split at h
  · cases h; exact ⟨‹_›, rfl⟩
  · cases h

/-- the replica that takes a step in action `a`, and the outputs of that step (`SysState.run` throws them away); defined
here because `sysStep_cases` states the outputs of an action together with its effect -/
def _root_.HsVerif.SysLedger.stepOuts (k : Keys) (C : SysCfg) (σ : SysState) : SysAct → Option (Nat × List Out)
  | .start i => (σ.reps.lookup i).map fun s =>
      (i, (start k (C.rcfg i) { s with truth := σ.truth, nextBytes := σ.nextBytes }).2)
  | .deliver i e => (σ.reps.lookup i).map fun s =>
      (i, (step k (C.rcfg i) { s with truth := σ.truth, nextBytes := σ.nextBytes } e).2)
  | _ => none

theorem SysState.run_lookup (σ : SysState) (i : Nat) (f : RState → RState × List Out) {s : RState}
    (hs : σ.reps.lookup i = some s) :
    (σ.run i f).reps.lookup i = some (f { s with truth := σ.truth, nextBytes := σ.nextBytes }).1 ∧
    (σ.reps.lookup i).map (fun s => (i, (f { s with truth := σ.truth, nextBytes := σ.nextBytes }).2)) =
      some (i, (f { s with truth := σ.truth, nextBytes := σ.nextBytes }).2) := by
  constructor
  · simp only [SysState.run, hs]
    exact lookup_setKV_self _ _ _
  · rw [hs, Option.map_some]

/-- The result `r` of `start` / `step` is a variable with its equation: in a case that replaces it by the call, the
unifier unfolds `start` / `step` at the first projection of the new state; turn a fact about the call into one about `r`
instead (`(hr ▸ … : P r.1)`). -/
theorem sysStep_cases (k : Keys) (C : SysCfg) (σ : SysState) {motive : SysAct → SysState → Option (Nat × List Out) → Prop}
    (hidle : ∀ a, motive a σ none)
    (hstart : ∀ i s, σ.reps.lookup i = some s →
      ∀ r, r = start k (C.rcfg i) { s with truth := σ.truth, nextBytes := σ.nextBytes } →
      motive (.start i) { reps := setKV i r.1 σ.reps, truth := r.1.truth, nextBytes := r.1.nextBytes } (some (i, r.2)))
    (hstep : ∀ i e s, σ.reps.lookup i = some s →
      ∀ r, r = step k (C.rcfg i) { s with truth := σ.truth, nextBytes := σ.nextBytes } e →
      motive (.deliver i e) { reps := setKV i r.1 σ.reps, truth := r.1.truth, nextBytes := r.1.nextBytes } (some (i, r.2)))
    (hfetch : ∀ i l s, σ.reps.lookup i = some s →
      motive (.fetchable i l) { σ with reps := setKV i { s with chain := { s.chain with fetchable := l } } σ.reps } none)
    (hforge : ∀ a, a.signer ∉ C.honest →
      motive (.forge a) { σ with truth := (σ.nextBytes, a) :: σ.truth, nextBytes := σ.nextBytes + 1 } none)
    (a : SysAct) : motive a (sysStep k C σ a) (HsVerif.SysLedger.stepOuts k C σ a) := by
  cases a with
  | start i =>
    cases h : σ.reps.lookup i with
    | none => simpa [sysStep, SysState.run, HsVerif.SysLedger.stepOuts, h] using hidle (.start i)
    | some s => simpa [sysStep, SysState.run, HsVerif.SysLedger.stepOuts, h] using hstart i s h _ rfl
  | deliver i e =>
    cases h : σ.reps.lookup i with
    | none => simpa [sysStep, SysState.run, HsVerif.SysLedger.stepOuts, h] using hidle (.deliver i e)
    | some s => simpa [sysStep, SysState.run, HsVerif.SysLedger.stepOuts, h] using hstep i e s h _ rfl
  | fetchable i l =>
    cases h : σ.reps.lookup i with
    | none => simpa [sysStep, HsVerif.SysLedger.stepOuts, h] using hidle (.fetchable i l)
    | some s => simpa [sysStep, HsVerif.SysLedger.stepOuts, h] using hfetch i l s h
  | forge a =>
    show motive _ (if C.honest.contains a.signer then σ else _) none
    split
    · exact hidle _
    · rename_i hc
      exact hforge a (fun h => hc (List.contains_iff_mem.mpr h))

def Unforgeable (C : SysCfg) (σ : SysState) : Prop :=
  ∀ p ∈ σ.truth, p.2.signer ∈ C.honest → ∀ h, p.2.msg = blkMsg h →
    ∃ s, σ.reps.lookup p.2.signer = some s ∧ ∃ b id, b.hash = h ∧ GRec.vote b id ∈ s.ghost

structure RepCur (k : Keys) (C : SysCfg) (σ : SysState) (i : Nat) (s : RState) : Prop where
  cur : Cur k (C.rcfg i) s
  stored : Stored s
  sub : ∀ b a, s.truth.lookup b = some a → σ.truth.lookup b = some a

structure SysInv (k : Keys) (C : SysCfg) (σ : SysState) : Prop where
  fresh : FreshL σ.truth σ.nextBytes
  keys : σ.reps.map (·.1) = C.honest
  unf : (∀ i v q h, k.tmo i v q ≠ blkMsg h) → Unforgeable C σ
  inv3 : ∀ i s, σ.reps.lookup i = some s → Inv3 k (C.rcfg i) s
  rep : ∀ i s, σ.reps.lookup i = some s → RepCur k C σ i s

theorem sysInit_inv (k : Keys) (C : SysCfg) : SysInv k C (sysInit k C) := by
  refine ⟨FreshL.nil _, by simp [sysInit, List.map_map, Function.comp_def], fun _ p hp => by simp [sysInit] at hp, ?_, ?_⟩
  · intro i s h
    obtain ⟨_, rfl⟩ := sysInit_lookup h
    exact InvV_init k _
  · intro i s h
    obtain ⟨_, rfl⟩ := sysInit_lookup h
    exact ⟨cur_init k _, fun b id hm => (by cases hm), fun b a hb => (by cases hb)⟩

theorem SysInv.dom {k : Keys} {C : SysCfg} {σ : SysState} (h : SysInv k C σ) :
    ∀ i ∈ C.honest, ∃ s, σ.reps.lookup i = some s :=
  fun i hi => lookup_of_mem_keys σ.reps i (h.keys ▸ hi)

theorem SysInv.honest_of_lookup {k : Keys} {C : SysCfg} {σ : SysState} (h : SysInv k C σ) :
    ∀ i s, σ.reps.lookup i = some s → i ∈ C.honest :=
  fun i s hl => h.keys ▸ mem_keys_of_lookup σ.reps i s hl

theorem SysInv.own {k : Keys} {C : SysCfg} {σ : SysState} {i : Nat} {s : RState} (h : SysInv k C σ)
    (hk : ∀ i v q h, k.tmo i v q ≠ blkMsg h) (hl : σ.reps.lookup i = some s) (p : Nat × Atom) (hp : p ∈ σ.truth) :
    (p ∈ σ.truth ∧ p.2.signer ≠ i) ∨
      (p.2.signer = i ∧ ∀ h, p.2.msg = blkMsg h → ∃ b id, b.hash = h ∧ GRec.vote b id ∈ s.ghost) := by
  by_cases hs : p.2.signer = i
  · refine Or.inr ⟨hs, fun hh e => ?_⟩
    obtain ⟨s1, hs1, hv⟩ := h.unf hk p hp (hs ▸ h.honest_of_lookup _ _ hl) hh e
    rw [hs, hl] at hs1
    cases hs1; exact hv
  · exact Or.inl ⟨hp, hs⟩

theorem sys_set_inv (k : Keys) (C : SysCfg) (σ : SysState) (i : Nat) (s s' : RState) (t' : List (Nat × Atom)) (nb : Nat)
    (h : SysInv k C σ) (hl : σ.reps.lookup i = some s) (hf : FreshL t' nb)
    (hg : ∀ b a, σ.truth.lookup b = some a → t'.lookup b = some a)
    (ht : (∀ i v q h, k.tmo i v q ≠ blkMsg h) → ∀ p ∈ t', (p ∈ σ.truth ∧ p.2.signer ≠ i) ∨
      (p.2.signer = i ∧ ∀ h, p.2.msg = blkMsg h → ∃ b id, b.hash = h ∧ GRec.vote b id ∈ s'.ghost))
    (h3 : Inv3 k (C.rcfg i) s') (hc : Cur k (C.rcfg i) s') (hst : Stored s')
    (hsub : ∀ b a, s'.truth.lookup b = some a → t'.lookup b = some a) :
    SysInv k C { reps := setKV i s' σ.reps, truth := t', nextBytes := nb } := by
  refine ⟨hf, (keys_setKV_of_lookup s' hl).trans h.keys, ?_, ?_, ?_⟩
  · intro hk p hp hh hsh e
    rcases ht hk p hp with ⟨hpo, hne⟩ | ⟨heq, hv⟩
    · obtain ⟨s1, hs1, hv⟩ := h.unf hk p hpo hh hsh e
      exact ⟨s1, by rw [lookup_setKV_ne _ _ _ _ hne]; exact hs1, hv⟩
    · exact ⟨s', by rw [heq]; exact lookup_setKV_self _ _ _, hv hsh e⟩
  · intro j sj hj
    rcases lookup_setKV_cases hj with ⟨rfl, rfl⟩ | ⟨_, hj⟩
    · exact h3
    · exact h.inv3 _ _ hj
  · intro j sj hj
    rcases lookup_setKV_cases hj with ⟨rfl, rfl⟩ | ⟨_, hj⟩
    · exact ⟨hc, hst, hsub⟩
    · exact ⟨(h.rep j sj hj).cur, (h.rep j sj hj).stored, fun b a hb => hg b a ((h.rep j sj hj).sub b a hb)⟩

theorem sys_run_inv (k : Keys) (C : SysCfg) (σ : SysState) (i : Nat) (s : RState) (f : RState → RState × List Out)
    (h : SysInv k C σ) (hl : σ.reps.lookup i = some s)
    (hfr : ∀ s, FreshS s → FreshS (f s).1) (hinv : ∀ s, Inv3 k (C.rcfg i) s → Inv3 k (C.rcfg i) (f s).1)
    (hcur : ∀ s, Cur k (C.rcfg i) s → Cur k (C.rcfg i) (f s).1) (hst : ∀ s, Stored s → Stored (f s).1)
    (hext : ∀ s, Fresh s → TGrows s.truth (f s).1)
    (hsig : (∀ i v q h, k.tmo i v q ≠ blkMsg h) → ∀ x s, SigInv k (C.rcfg i) x s → SigInv k (C.rcfg i) x (f s).1) :
    SysInv k C { reps := setKV i (f { s with truth := σ.truth, nextBytes := σ.nextBytes }).1 σ.reps,
                 truth := (f { s with truth := σ.truth, nextBytes := σ.nextBytes }).1.truth,
                 nextBytes := (f { s with truth := σ.truth, nextBytes := σ.nextBytes }).1.nextBytes } := by
  have hc := h.rep i s hl
  have hf : Fresh { s with truth := σ.truth, nextBytes := σ.nextBytes } := h.fresh.2
  refine sys_set_inv k C σ i s _ _ _ h hl (hfr _ h.fresh) (hext _ hf) ?_ (hinv _ (h.inv3 i s hl))
    (hcur _ (cur_ext k _ s _ ⟨hf, fun _ _ hb => hb, hc.sub⟩ (fun _ _ hm => hm) hc.cur)) (hst _ hc.stored)
    (fun _ _ hb => hb)
  intro hk p hp
  -- the initial table: everything signed by somebody else
  rcases hsig hk (σ.truth.filter (fun p => p.2.signer != i)) { s with truth := σ.truth, nextBytes := σ.nextBytes }
      (fun p hp => (h.own hk hl p hp).imp (fun ⟨hp, hs⟩ => List.mem_filter.mpr ⟨hp, by simpa using hs⟩) id) p hp with hx | hown
  · have := List.mem_filter.mp hx
    exact Or.inl ⟨this.1, by simpa using this.2⟩
  · exact Or.inr hown

theorem sysStep_inv (k : Keys) (C : SysCfg) (σ : SysState) (a : SysAct) (h : SysInv k C σ) :
    SysInv k C (sysStep k C σ a) := by
  refine sysStep_cases k C σ (motive := fun _ σ' _ => SysInv k C σ') (fun _ => h) ?_ ?_ ?_ ?_ a
  · exact fun i s hl r hr => hr ▸ sys_run_inv k C σ i s (start k (C.rcfg i)) h hl (start_fresh k _) (C03.start_inv k _)
      (start_cur k _) (start_stored k _) (fun s hs => (start_ext k _ s hs).truth) (fun hk x s => start_sig k _ hk x s)
  · exact fun i e s hl r hr => hr ▸ sys_run_inv k C σ i s (fun s => step k (C.rcfg i) s e) h hl
      (fun s => step_fresh k _ s e) (fun s => C03.step_inv k _ s e) (fun s => step_cur k _ s e)
      (fun s => step_stored_partial k _ s e) (fun s hs => (step_ext k _ s e hs).truth)
      (fun hk x s => step_sig k _ hk x s e)
  · intro i l s hl
    have hc := h.rep i s hl
    exact sys_set_inv k C σ i s _ σ.truth σ.nextBytes h hl h.fresh (fun _ _ hb => hb) (fun hk => h.own (s := s) hk hl)
      (h.inv3 i s hl : Inv3 k (C.rcfg i) s) hc.cur hc.stored hc.sub
  · intro a hc
    refine ⟨h.fresh.cons a, h.keys, ?_, h.inv3, ?_⟩
    · intro hk p hp hh
      rcases List.mem_cons.mp hp with rfl | hp
      · exact absurd hh hc
      · exact h.unf hk p hp hh
    · intro i s hl
      refine ⟨(h.rep i s hl).cur, (h.rep i s hl).stored, fun b a' hb => ?_⟩
      -- the new byte id is fresh, so it shadows nothing
      have hb' := (h.rep i s hl).sub b a' hb
      show ((σ.nextBytes, a) :: σ.truth).lookup b = some a'
      rw [List.lookup_cons]
      split
      · rename_i heq
        rw [show b = σ.nextBytes by simpa using heq, lookup_none_of_fresh σ.truth σ.nextBytes h.fresh.2] at hb'
        cases hb'
      · exact hb'

theorem reach_inv (k : Keys) (C : SysCfg) (σ : SysState) (h : Reach k C σ) : SysInv k C σ := by
  induction h with
  | init => exact sysInit_inv k C
  | step σ a _ ih => exact sysStep_inv k C σ a ih

theorem reach_fresh (k : Keys) (C : SysCfg) (σ : SysState) (h : Reach k C σ) : FreshL σ.truth σ.nextBytes :=
  (reach_inv k C σ h).fresh

theorem reach_keys (k : Keys) (C : SysCfg) (σ : SysState) (h : Reach k C σ) : σ.reps.map (·.1) = C.honest :=
  (reach_inv k C σ h).keys

theorem reach_cur (k : Keys) (C : SysCfg) (σ : SysState) (h : Reach k C σ) :
    ∀ i s, σ.reps.lookup i = some s → RepCur k C σ i s :=
  (reach_inv k C σ h).rep

theorem reach_run (k : Keys) (C : SysCfg) (acts : List SysAct) : Reach k C (sysRun k C acts) := by
  unfold sysRun
  suffices ∀ σ, Reach k C σ → Reach k C (acts.foldl (sysStep k C) σ) from this _ .init
  induction acts with
  | nil => intro σ h; exact h
  | cons a as ih => intro σ h; exact ih _ (.step σ a h)

theorem reach_iff_run (k : Keys) (C : SysCfg) (σ : SysState) : Reach k C σ ↔ ∃ acts, σ = sysRun k C acts := by
  constructor
  · intro h
    induction h with
    | init => exact ⟨[], rfl⟩
    | step σ a _ ih =>
      obtain ⟨acts, rfl⟩ := ih
      exact ⟨acts ++ [a], by simp [sysRun, List.foldl_append]⟩
  · rintro ⟨acts, rfl⟩; exact reach_run k C acts

end HsVerif.Model
