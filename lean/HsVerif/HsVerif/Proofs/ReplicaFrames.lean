import HsVerif.Proofs.ReplicaSteps
/-!
What can be read straight off the primitive updates (`Upd`), and so holds across every handler by the frame rule
(`StepsOf.preserves` / `StepsOf.frame` of Proofs/ReplicaSteps.lean): monotone facts (lock view, current view, effects,
no panic), the growing block store, fresh byte ids of the signature table, the projection `AP` that only `advanceView`
changes, and with it the one progress fact of the view synchronizer.
-/

/-!
* the lock (chained `bLock`, simplified `locked`) never moves to a lower view (C01 layer B, C04): the only assignment to it
  keeps the higher of the two blocks;
* the current view never decreases: the only assignment to it enters the view after a certificate that is not below it;
* the effects of a handler are only ever appended (`OutPre x s`); C05 uses it: an effect emitted by the first handler of a
  step is among the effects of the whole step;
* no handler reaches the model's panic (C10): the only operation that can panic is `VerifyAggregateQC` on an aggregate QC
  without signature (an existing test of the repository demands that panic), and both call sites guard it
  (`verifyAnyM_ne_panic`, `verifySyncInfo_ne_panic`), so the panic marker is in no handler's list of updates.
-/
section
open Std.Do
namespace HsVerif.Model
open HsVerif.Proofs

theorem Upd.lock_le {t : Tag} {s s' : RState} (h : Upd t s s') : s.lock.view ≤ s'.lock.view := by
  cases h <;> try exact Nat.le_refl _
  show _ ≤ (if _ then _ else _ : Block).view
  split <;> omega

theorem Steps.lock_le {L : List Tag} {s s' : RState} (h : Steps L s s') : s.lock.view ≤ s'.lock.view :=
  h.preserves (P := fun s' => s.lock.view ≤ s'.lock.view) (fun _ _ _ _ hu hp => Nat.le_trans hp hu.lock_le)
    (Nat.le_refl _)

def OutPre (x : List Out) (s : RState) : Prop := ∃ t, s.out = x ++ t

theorem OutPre.snoc {x : List Out} {o : List Out} (l : List Out) (h : ∃ t, o = x ++ t) : ∃ t, o ++ l = x ++ t := by
  obtain ⟨t, ht⟩ := h
  exact ⟨t ++ l, by rw [ht, List.append_assoc]⟩

theorem Upd.out_prefix {t : Tag} {s s' : RState} (h : Upd t s s') : ∃ l, s'.out = s.out ++ l := by
  cases h <;> first | exact ⟨[], (List.append_nil _).symm⟩ | exact ⟨_, rfl⟩

theorem Upd.outPre {t : Tag} {s s' : RState} (h : Upd t s s') {x : List Out} (hx : OutPre x s) : OutPre x s' := by
  obtain ⟨l, hl⟩ := h.out_prefix
  rw [OutPre, hl]
  exact OutPre.snoc l hx

theorem StepsOf.outPre {α} {L : List Tag} {f : M α} (h : StepsOf L f) (x : List Out) :
    ⦃fun s => ⌜OutPre x s⌝⦄ f ⦃⇓ _ s => ⌜OutPre x s⌝⦄ :=
  h.preserves fun _ _ _ _ h => h.outPre

theorem runLoop_out_prefix (k : Keys) (c : RCfg) (fuel : Nat) (s : RState) :
    ∃ t, ((runLoop k c fuel).run s).2.out = s.out ++ t :=
  run_res_of_triple (runLoop k c fuel) (fun s' => OutPre s.out s')
    (fun _ s' => OutPre s.out s') ((runLoop_steps k c fuel).outPre s.out) s ⟨[], by simp⟩

theorem Upd.view_le {t : Tag} {s s' : RState} (h : Upd t s s') : s.view ≤ s'.view := by
  cases h with
  | adv _ _ _ hv => exact Nat.le_succ_of_le (Nat.le_of_not_lt hv)
  | _ => exact Nat.le_refl _

theorem Steps.view_le {L : List Tag} {s s' : RState} (h : Steps L s s') : s.view ≤ s'.view :=
  h.preserves (P := fun s' => s.view ≤ s'.view) (fun _ _ _ _ hu hp => Nat.le_trans hp hu.view_le) (Nat.le_refl _)

theorem StepsOf.view_le {α} {L : List Tag} {f : M α} (h : StepsOf L f) (x : Nat) :
    ⦃fun s => ⌜x ≤ s.view⌝⦄ f ⦃⇓ _ s => ⌜x ≤ s.view⌝⦄ :=
  triple_of_run _ _ _ fun s hx => Nat.le_trans hx (h s).view_le

theorem runLoop_vw (k : Keys) (c : RCfg) (fuel : Nat) (x : Nat) :
    ⦃fun s => ⌜x ≤ s.view⌝⦄ runLoop k c fuel ⦃⇓ _ s => ⌜x ≤ s.view⌝⦄ :=
  (runLoop_steps k c fuel).view_le x

/-- no panic marker among the effects emitted so far -/
def NP (s : RState) : Prop := ∀ o ∈ s.out, o ≠ Out.panic

theorem Steps.np {L : List Tag} {s s' : RState} (h : Steps L s s') (hL : Tag.outPanic ∉ L := by decide) (hn : NP s) :
    NP s' := by
  refine h.preserves (fun t ht s s' hu hn => ?_) hn
  cases hu with
  | out s o =>
    intro o' ho'
    rcases List.mem_append.mp ho' with h' | h'
    · exact hn o' h'
    · rw [List.mem_singleton.mp h']
      rintro rfl
      exact hL ht
  | _ => exact hn

end HsVerif.Model
end

section
open Std.Do
namespace HsVerif.Model

def Grows (x : List (Hash × Block)) (s : RState) : Prop := ChainGrows x s.chain

theorem Steps.grows {L : List Tag} {s s' : RState} (h : Steps L s s') {x} (hg : Grows x s) : Grows x s' :=
  fun k b hk => h.chainGrows k b (hg k b hk)

theorem StepsOf.grows {α} {L : List Tag} {f : M α} (h : StepsOf L f) (x) :
    ⦃fun s => ⌜Grows x s⌝⦄ f ⦃⇓ _ s => ⌜Grows x s⌝⦄ :=
  HsVerif.Proofs.triple_of_run _ _ _ fun s hg => (h s).grows hg

theorem tryCommit_gr (c : RCfg) (b : Block) (x) :
    ⦃fun s => ⌜Grows x s⌝⦄ tryCommit c b ⦃⇓ _ s => ⌜Grows x s⌝⦄ :=
  (tryCommit_steps c b).grows x

end HsVerif.Model
end

/-!
Byte ids of the signature table are fresh, so a lookup finds an entry iff it is in the table and nothing signed later
shadows it: only signing touches the table, and it takes the next free id (`Upd.fresh`).
-/
namespace HsVerif.Model

def FreshL (t : List (Nat × Atom)) (nb : Nat) : Prop :=
  t.Pairwise (fun p q => q.1 < p.1) ∧ ∀ p ∈ t, p.1 < nb

def FreshS (s : RState) : Prop := FreshL s.truth s.nextBytes

theorem FreshL.cons {t nb} (a : Atom) (h : FreshL t nb) : FreshL ((nb, a) :: t) (nb + 1) := by
  refine ⟨List.pairwise_cons.mpr ⟨fun q hq => h.2 q hq, h.1⟩, ?_⟩
  intro p hp
  rcases List.mem_cons.mp hp with rfl | hp
  · exact Nat.lt_succ_self _
  · exact Nat.lt_succ_of_lt (h.2 p hp)

theorem FreshL.nil (nb : Nat) : FreshL [] nb := ⟨List.Pairwise.nil, by simp⟩

theorem FreshL.lookup_iff {t nb} (h : FreshL t nb) (b : Nat) (a : Atom) : t.lookup b = some a ↔ (b, a) ∈ t := by
  induction t with
  | nil => simp
  | cons p t ih =>
    obtain ⟨b', a'⟩ := p
    have ht : FreshL t nb := ⟨(List.pairwise_cons.mp h.1).2, fun q hq => h.2 q (List.mem_cons_of_mem _ hq)⟩
    have hlt := (List.pairwise_cons.mp h.1).1
    simp only [List.lookup, List.mem_cons, Prod.mk.injEq]
    by_cases hb : b = b'
    · subst hb
      simp only [beq_self_eq_true, Option.some.injEq, true_and]
      constructor
      · intro e; exact Or.inl e.symm
      · rintro (e | hm)
        · exact e.symm
        · have := hlt _ hm; simp at this
    · have h' : (b == b') = false := by simpa using hb
      simp only [h', hb, false_and, false_or]
      exact ih ht

theorem Upd.fresh {t : Tag} {s s' : RState} (h : Upd t s s') (hf : FreshS s) : FreshS s' := by
  cases h <;> first | exact hf | exact FreshL.cons _ hf

theorem step_fresh (k : Keys) (c : RCfg) (s : RState) (e : Ev) (h : FreshS s) : FreshS (step k c s e).1 :=
  (runLoop_steps k c 100000 { s with out := [], queue := s.queue ++ [e] }).preserves (fun _ _ _ _ hu => hu.fresh) h

theorem start_fresh (k : Keys) (c : RCfg) (s : RState) (h : FreshS s) : FreshS (start k c s).1 := by
  obtain ⟨s1, h1, he⟩ := start_steps k c s
  rw [he]
  exact h1.preserves (fun _ _ _ _ hu => hu.fresh) h

def GRec.isAdv : GRec → Bool
  | .adv _ _ _ => true
  | _ => false

@[reducible] def AP (s : RState) : List GRec × Nat × QC := (s.ghost.filter GRec.isAdv, s.view, s.highQC)

theorem Upd.ap_eq {t : Tag} {s s' : RState} (h : Upd t s s') (hb : t ∉ [Tag.adv, .highQC]) : AP s' = AP s := by
  cases h <;> first | rfl | exact absurd (by decide) hb | simp [AP, GRec.isAdv]

end HsVerif.Model

/-! C05: on an accepted sync info `advanceView` has no way out but `EnterViewAfter`. -/
section
open Std.Do
namespace HsVerif.Proofs
open HsVerif.Model

def Accepts (k : Keys) (c : RCfg) (si : SyncInfo) (s : RState) (w : Nat) : Prop :=
  ∃ qc t, ((verifySyncInfo k c si).run s).1 = VRes.ok (qc, w, t)

theorem advanceView_progress (k : Keys) (c : RCfg) (si : SyncInfo) (v w : Nat) (hw : v ≤ w) :
    ⦃fun s => ⌜s.view = v ∧ Accepts k c si s w⌝⦄ advanceView k c si ⦃⇓ _ s => ⌜s.view = w + 1⌝⦄ := by
  have keep : ∀ (x : Nat) {t s s'}, Upd t s s' → t ∉ [Tag.adv, .highQC] → s.view = x → s'.view = x :=
    fun _ _ _ _ h ht hs => (congrArg (·.2.1) (Upd.ap_eq h ht)).trans hs
  refine advanceView_rule_guard k c (R := fun x s => s.view = v ∧ x.2.1 = w) (R' := fun x s => s.view = v ∧ x.2.1 = w)
    (Q' := fun _ s => s.view = w + 1) si ?_ (fun _ _ _ _ h => h) ?_ (fun _ _ _ h => h) ?_ ?_
    (fun si => (createAndPropose_steps k c si).preserves (upd_of_notin (keep _) _)) (fun _ _ _ h => h)
  · refine triple_of_run _ _ _ fun s ⟨hv, qc, t, hr⟩ => ⟨fun h => ?_, fun x hx => ⟨?_, ?_⟩⟩
    · rw [hr] at h; cases h
    · exact (verifySyncInfo_steps k c si s).preserves (upd_of_notin (keep _) _) hv
    · rw [hr] at hx; cases hx; rfl
  · exact fun q _ _ => triple_of_run _ _ _ fun s hs =>
      have h := (getBlock_steps q.hash s).preserves (upd_of_notin (keep _) _) hs.1
      ⟨fun _ => ⟨h, hs.2⟩, fun _ _ => ⟨h, hs.2⟩⟩
  · intro _ _ _ s ⟨h1, h2⟩ h
    dsimp only at h2
    omega
  · intro _ _ _ s ⟨_, h2⟩ _
    dsimp only at h2 ⊢
    omega

end HsVerif.Proofs
end
