import HsVerif.Proofs.SysLedger
import HsVerif.Proofs.ReplicaSignal
/-!
C07's clauses on the high TC and on the signalling of view changes, system level; the property theorems are in
Props/C07Signal.lean.  The run with signalled views `sysRunV` is `sysRunObs vcOuts` (Proofs/SysLedger.lean); its invariant
`SigInv` (`VCInv (V i) s` for every replica) is kept in runs in which the adversary does not deliver `Ev.viewChange`
events (`SysAct.noVC`).
-/
namespace HsVerif.SysSignal
open HsVerif.Model HsVerif.SysLedger

def sysStepV (k : Keys) (C : SysCfg) (p : SysState × (Nat → List Nat)) (a : SysAct) :
    SysState × (Nat → List Nat) :=
  (sysStep k C p.1 a,
    match stepOuts k C p.1 a with
    | some (i, outs) => fun j => if j = i then p.2 j ++ vcOuts outs else p.2 j
    | none => p.2)

def sysRunV (k : Keys) (C : SysCfg) (acts : List SysAct) : SysState × (Nat → List Nat) :=
  acts.foldl (sysStepV k C) (sysInit k C, fun _ => [])

theorem sysRunV_eq (k : Keys) (C : SysCfg) (acts : List SysAct) : sysRunV k C acts = sysRunObs vcOuts k C acts := rfl

/-- the adversary does not inject view-change events into a replica's event loop (`Ev.viewChange` is an
internal event of the replica: synchronizer → event loop → the components registered for it) -/
def _root_.HsVerif.Model.SysAct.noVC : SysAct → Bool
  | .deliver _ e => e.noVC
  | _ => true

def SigInv (σ : SysState) (V : Nat → List Nat) : Prop :=
  ∀ i s, σ.reps.lookup i = some s → VCInv (V i) s

theorem sysRunV_inv (k : Keys) (C : SysCfg) (acts : List SysAct) (hacts : ∀ a ∈ acts, a.noVC = true) :
    SigInv (sysRun k C acts) (sysRunV k C acts).2 :=
  sysRunV_eq k C acts ▸ sysRunObs_inv vcOuts k C VCInv SysAct.noVC (fun _ => True) VCInv.init
    (fun _ _ _ h => ⟨h.wait, h.pos, h.all, h.climb⟩)
    (fun σ _ i s l _ _ _ r hr _ h => by
      have hls := h.ext σ.truth σ.nextBytes
      subst hr; exact hls.step (start_signal k _ _ hls.wait))
    (fun σ _ i e s l hok _ _ _ r hr _ h => by
      have hls := h.ext σ.truth σ.nextBytes
      have := step_signal k (C.rcfg i) _ e hls.wait
      rw [evVCs_noVC e hok, List.append_nil] at this
      subst hr; exact hls.step this)
    acts hacts (fun _ _ => trivial)

/-- no view-change event ever waits in a deferred list of a replica of a reachable system state — whatever
the adversary delivers, `Ev.viewChange` events included -/
theorem reach_vcwait (k : Keys) (C : SysCfg) (σ : SysState) (hr : Reach k C σ) :
    ∀ i s, σ.reps.lookup i = some s → vcWaiting s = [] :=
  reach_rep k C (fun _ s => vcWaiting s = []) (fun _ => rfl) (fun _ _ _ _ h => h) (fun _ _ _ h => h)
    (fun _ s h => (start_signal k _ s h).2.1) (fun _ s e h => (step_signal k _ s e h).2.1) σ hr

end HsVerif.SysSignal
