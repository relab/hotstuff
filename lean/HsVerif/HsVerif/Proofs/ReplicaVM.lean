import HsVerif.Proofs.CombineShape
import HsVerif.Proofs.ReplicaSteps
/-! The voting machine (C09): the invariant of the vote store of `collectVote` (= `VotingMachine.CollectVote` +
`verifyCert`) and what it gives when a quorum is reached.  Both are read off the equation of the atomic half,
`verifyCertM_run` (Proofs/ReplicaSteps.lean): `verifyCertM_vmi` for `verifyCert` run late, in any state, and `collectVote_vmi`
for the synchronous handler, whose first half touches neither the vote store nor the queue. -/
namespace HsVerif.Model

/-- a stored vote: signer `v.1`, signature `v.2`, for the block named `h` -/
def VoteOK (k : Keys) (c : RCfg) (h : Hash) (v : Nat × Sig) : Prop :=
  1 ≤ v.1 ∧ Shape c.cfg v.1 v.2 ∧ ∃ s0 : RState, verifyPC (env k c s0) (some v.2) h = .ok ()

/-- voting-machine invariant: per block, the stored votes come from pairwise different signers,
each is a single-signer signature that passed `VerifyPartialCert`, and fewer than a quorum are
waiting (a quorum is turned into a certificate at once) -/
def VMI (k : Keys) (c : RCfg) (s : RState) : Prop :=
  ∀ p ∈ s.votes, (p.2.map (·.1)).Nodup ∧ p.2.length < c.cfg.quorum ∧ ∀ v ∈ p.2, VoteOK k c p.1 v

theorem vmi_filter (k : Keys) (c : RCfg) (s : RState) (f : Hash × List (Nat × Sig) → Bool) (h : VMI k c s) :
    VMI k c { s with votes := s.votes.filter f } := by
  intro p hp
  exact h p (List.mem_filter.mp hp).1

theorem vmi_lookup (k : Keys) (c : RCfg) (s : RState) (hash : Hash) (h : VMI k c s) (hq : 2 ≤ c.cfg.quorum) :
    let old := (s.votes.lookup hash).getD []
    (old.map (·.1)).Nodup ∧ old.length < c.cfg.quorum ∧ ∀ v ∈ old, VoteOK k c hash v := by
  cases hl : s.votes.lookup hash with
  | none => simp; omega
  | some l => simpa using h (hash, l) (mem_of_lookup _ _ _ hl)

theorem participants_of_len_one (sg : Sig) (hw : sg.WF) (hl : sg.len = 1) : sg.participants = [sg.first] := by
  cases sg with
  | multi k es =>
    match es, hl with
    | [e], _ => simp [Sig.participants, Sig.first]
  | bls a j bits =>
    simp only [Sig.WF] at hw
    simp only [Sig.len] at hl
    have : bits.ids.length = 1 := by rw [← hw]; exact hl
    simp only [Sig.participants, Sig.first]
    match bits.ids, this with
    | [x], _ => simp

theorem voteOK_of_verify (k : Keys) (c : RCfg) (s : RState) (hash : Hash) (sg : Sig)
    (hw : sg.WF) (hl : sg.len = 1) (hv : verifyPC (env k c s) (some sg) hash = .ok ()) :
    VoteOK k c hash (sg.first, sg) := by
  have hp := participants_of_len_one sg hw hl
  have hver : ∃ b, verify (env k c s).T (env k c s).cfg sg (blkMsg b) = true := by
    unfold verifyPC at hv
    split at hv
    · simp at hv
    · rename_i b _
      simp only at hv
      split at hv
      · exact ⟨b.hash, by assumption⟩
      · simp at hv
  obtain ⟨b, hb⟩ := hver
  have hs := verify_sound _ _ _ _ hb hw
  have hhas := (hs.2.2.2 sg.first (by rw [hp]; simp)).1
  refine ⟨by simp [Cfg.has] at hhas; exact hhas.1, shape_of_verify _ _ _ _ _ hw hl hp hb, s, hv⟩

theorem vmi_snoc (k : Keys) (c : RCfg) (s : RState) (hash : Hash) (v : Nat × Sig)
    (h : VMI k c s) (hv : VoteOK k c hash v) (hq2 : 2 ≤ c.cfg.quorum)
    (hfresh : ∀ x : Sig, (v.1, x) ∉ (s.votes.lookup hash).getD []) :
    (((s.votes.lookup hash).getD [] ++ [v]).map (·.1)).Nodup ∧
    ∀ w ∈ (s.votes.lookup hash).getD [] ++ [v], VoteOK k c hash w := by
  obtain ⟨h1, _, h3⟩ := vmi_lookup k c s hash h hq2
  exact ⟨nodup_snoc_map h1 fun y hy e => hfresh y.2 (by rw [← e]; exact hy),
    fun w hw => (List.mem_append.mp hw).elim (h3 w) fun e => List.mem_singleton.mp e ▸ hv⟩

theorem vmi_insert (k : Keys) (c : RCfg) (s : RState) (hash : Hash) (v : Nat × Sig)
    (h : VMI k c s) (hv : VoteOK k c hash v) (hq2 : 2 ≤ c.cfg.quorum)
    (hfresh : ∀ x : Sig, (v.1, x) ∉ (s.votes.lookup hash).getD [])
    (hlt : ((s.votes.lookup hash).getD []).length + 1 < c.cfg.quorum) :
    VMI k c { s with votes := (hash, (s.votes.lookup hash).getD [] ++ [v]) :: s.votes.filter (fun p => p.1 != hash) } := by
  obtain ⟨hnd, hok⟩ := vmi_snoc k c s hash v h hv hq2 hfresh
  intro p hp
  simp only [List.mem_cons] at hp
  rcases hp with rfl | hp
  · exact ⟨hnd, by simp; omega, hok⟩
  · exact h p (List.mem_filter.mp hp).1

/-- with the invariant, assembling the certificate cannot fail once a quorum of votes is there:
hostile votes cannot block it (n ≥ 2) -/
theorem combine_votes_ok (k : Keys) (c : RCfg) (s : RState) (hash : Hash) (v : Nat × Sig)
    (h : VMI k c s) (hv : VoteOK k c hash v) (hq2 : 2 ≤ c.cfg.quorum)
    (hfresh : ∀ x : Sig, (v.1, x) ∉ (s.votes.lookup hash).getD [])
    (hq : c.cfg.quorum ≤ ((s.votes.lookup hash).getD []).length + 1) :
    ∃ sg, combine c.cfg (((s.votes.lookup hash).getD [] ++ [v]).map (·.2)) = .ok sg := by
  obtain ⟨hnd, hok⟩ := vmi_snoc k c s hash v h hv hq2 hfresh
  obtain ⟨sg, hsg, _⟩ := combine_shapes c.cfg (·.1) (·.2) ((s.votes.lookup hash).getD [] ++ [v]) hnd
    (by simp; omega) fun w hw => (hok w hw).2.1
  exact ⟨sg, hsg⟩

def QCFromVotes (k : Keys) (c : RCfg) (hash : Hash) (qc : QC) : Prop :=
  ∃ votes : List (Nat × Sig), c.cfg.quorum ≤ votes.length ∧ (votes.map (·.1)).Nodup ∧ (∀ v ∈ votes, VoteOK k c hash v) ∧
    (qc = genesisQC ∨ ∃ (sg : Sig) (b : Block), combine c.cfg (votes.map (·.2)) = .ok sg ∧ qc = ⟨some sg, b.view, b.hash⟩)

theorem qc_from_votes (k : Keys) (c : RCfg) (s : RState) (hash : Hash) (sg : Sig) (parent : Block) (q : QC)
    (h : VMI k c s) (hq2 : 2 ≤ c.cfg.quorum) (hv : VoteOK k c hash (sg.first, sg))
    (hfresh : ∀ x : Sig, (sg.first, x) ∉ (s.votes.lookup hash).getD [])
    (hle : c.cfg.quorum ≤ ((s.votes.lookup hash).getD []).length + 1)
    (hx : certOf c parent ((s.votes.lookup hash).getD [] ++ [(sg.first, sg)]) = some q) : QCFromVotes k c hash q := by
  obtain ⟨hnd, hok⟩ := vmi_snoc k c s hash (sg.first, sg) h hv hq2 hfresh
  refine ⟨(s.votes.lookup hash).getD [] ++ [(sg.first, sg)], by simp; omega, hnd, hok, ?_⟩
  unfold certOf at hx
  split at hx
  · left; simpa using hx.symm
  · right
    split at hx
    · rename_i sg' hc
      simp at hx
      exact ⟨sg', parent, hc, hx.symm⟩
    · simp at hx

theorem fresh_of_any {old : List (Nat × Sig)} {i : Nat} (h : ¬ old.any (fun v => v.1 == i) = true) :
    ∀ x : Sig, (i, x) ∉ old := fun x hx => h (List.any_eq_true.mpr ⟨_, hx, by simp⟩)

/-- **`verifyCert` from ANY state, for ANY captured block** (asynchronous verification: the state in which a verification
ends is unrelated to the one in which it began): the vote store keeps its invariant, and at most one event is queued, a
NewView carrying a certificate made of at least a quorum of stored votes -/
theorem verifyCertM_vmi (k : Keys) (c : RCfg) (sig : Option Sig) (hash : Hash) (b : Block) (s : RState)
    (hq : 2 ≤ c.cfg.quorum) (hw : ∀ sg, sig = some sg → sg.WF) (hl : ∀ sg, sig = some sg → sg.len = 1) (h : VMI k c s) :
    let s' := ((verifyCertM k c sig hash b).run s).2
    VMI k c s' ∧
      (s'.queue = s.queue ∨ ∃ qc, s'.queue = s.queue ++ [.newview c.id { qc := some qc }] ∧ QCFromVotes k c hash qc) := by
  cases sig with
  | none => exact ⟨h, Or.inl rfl⟩
  | some sg =>
    rw [verifyCertM_run]
    cases hpc : verifyPC (env k c s) (some sg) hash with
    | ok u =>
      have hv := voteOK_of_verify k c s hash sg (hw _ rfl) (hl _ rfl) hpc
      dsimp only
      split
      · exact ⟨vmi_filter k c s _ h, Or.inl rfl⟩
      · have hf := fresh_of_any ‹_›
        split
        · exact ⟨vmi_filter k c _ _ (vmi_insert k c s hash _ h hv hq hf ‹_›), Or.inl rfl⟩
        · cases hc : certOf c b ((s.votes.lookup hash).getD [] ++ [(sg.first, sg)]) with
          | none =>
            -- hostile votes cannot block the certificate
            obtain ⟨sg', hsg'⟩ := combine_votes_ok k c s hash _ h hv hq hf (by omega)
            rw [certOf, hsg'] at hc
            split at hc <;> simp at hc
          | some qc =>
            exact ⟨fun p hp => h p (List.mem_filter.mp (List.mem_filter.mp hp).1).1,
              Or.inr ⟨qc, rfl, qc_from_votes k c s hash sg b qc h hq hv hf (by omega) hc⟩⟩
    | reject => exact ⟨h, Or.inl rfl⟩
    | panic => exact ⟨h, Or.inl rfl⟩

theorem Upd.votes_queue_eq {t : Tag} {s s' : RState} (h : Upd t s s') (ht : t ∉ [Tag.votes, .enqCommit, .enqNewview, .enqVC,
    .enqOther, .pop, .requeueProp, .requeueVC]) : (s'.votes, s'.queue) = (s.votes, s.queue) := by
  cases h with
  | enq s e => cases e <;> simp [Ev.tag] at ht
  | _ => first | rfl | simp at ht

theorem collectVotePre_frame (id : Nat) (sig : Option Sig) (hash : Hash) (d : Bool) (s : RState) :
    ((collectVotePre id sig hash d).run s).2.votes = s.votes ∧ ((collectVotePre id sig hash d).run s).2.queue = s.queue :=
  Prod.mk.inj ((Proofs.run_res_of_triple _ _ _ (collectVotePre_spec id sig hash d s) s (.refl _)).1.proj Upd.votes_queue_eq)

/-- **The synchronous handler** is `collectVotePre` followed at once by `verifyCertM` (`collectVote_run`): the invariant of
the vote store (n ≥ 2; the vote's signature value is well formed, as every decoded or created signature is) and the quorum
clause pass the first piece and are those of `verifyCertM_vmi` -/
theorem collectVote_vmi (k : Keys) (c : RCfg) (id : Nat) (sig : Option Sig) (hash : Hash) (d : Bool) (s : RState)
    (hq : 2 ≤ c.cfg.quorum) (hw : ∀ sg, sig = some sg → sg.WF) (h : VMI k c s) :
    let s' := ((collectVote k c id sig hash d).run s).2
    VMI k c s' ∧
      (s'.queue = s.queue ∨ ∃ qc, s'.queue = s.queue ++ [.newview c.id { qc := some qc }] ∧ QCFromVotes k c hash qc) := by
  have h2 := (Proofs.run_res_of_triple _ _ _ (collectVotePre_spec id sig hash d s) s (.refl _)).2
  have hf := collectVotePre_frame id sig hash d s
  rw [collectVote_run]
  rcases hr : (collectVotePre id sig hash d).run s with ⟨_ | b, s1⟩ <;> rw [hr] at h2 hf <;>
    have h1 : VMI k c s1 := fun p hp => h p (hf.1 ▸ hp)
  · exact ⟨h1, Or.inl hf.2⟩
  · obtain ⟨sg, rfl, hl⟩ := h2 b rfl
    have := verifyCertM_vmi k c (some sg) hash b s1 hq hw (fun _ e => Option.some.inj e ▸ hl) h1
    rwa [hf.2] at this

end HsVerif.Model
