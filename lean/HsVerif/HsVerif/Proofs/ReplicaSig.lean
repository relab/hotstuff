import HsVerif.Proofs.ReplicaSteps
/-!
What a replica adds to the signature table (C01, system layer): every handler of the replica model adds entries only
under the replica's own id, and an entry over a block message `blkMsg h` comes with the vote record `GRec.vote b _`,
`b.hash = h`, in the ghost history.  Only signing touches the table, and the history only grows; `signMsg` signs view and
timeout messages, and a block message is signed by `voteFor` only, which writes the vote record in the same breath.
-/
open Std.Do
set_option mvcgen.warning false
namespace HsVerif.Model

def HasVote (g : List GRec) (h : Hash) : Prop := ∃ b id, b.hash = h ∧ GRec.vote b id ∈ g

def SigP (me : Nat) (x t : List (Nat × Atom)) (g : List GRec) : Prop :=
  ∀ p ∈ t, p ∈ x ∨ (p.2.signer = me ∧ ∀ h, p.2.msg = blkMsg h → HasVote g h)

/-- entries of the signature table that are not in the initial table `x` were added by this
replica, and those over a block message have their vote record -/
def SigInv (_k : Keys) (c : RCfg) (x : List (Nat × Atom)) (s : RState) : Prop :=
  ∀ p ∈ s.truth, p ∈ x ∨ (p.2.signer = c.id ∧ ∀ h, p.2.msg = blkMsg h →
    ∃ b id, b.hash = h ∧ GRec.vote b id ∈ s.ghost)

theorem SigP.ghost_append {me x t g} (g' : List GRec) (h : SigP me x t g) : SigP me x t (g ++ g') := by
  intro p hp
  rcases h p hp with h | ⟨h1, h2⟩
  · exact Or.inl h
  · refine Or.inr ⟨h1, fun hh e => ?_⟩
    obtain ⟨b, id, hb, hm⟩ := h2 hh e
    exact ⟨b, id, hb, List.mem_append_left _ hm⟩

theorem blkMsg_inj {a b : Hash} (h : blkMsg a = blkMsg b) : a = b := by
  unfold blkMsg at h
  exact (String.append_right_inj _).mp h

theorem viewMsg_ne (v : Nat) (h : Hash) : viewMsg v ≠ blkMsg h := by
  unfold viewMsg blkMsg
  intro e
  have := congrArg (fun s => s.toList.head?) e
  simp at this

theorem SigP.cons_own {me x t g} (n : Nat) (m : Msg) (hm : ∀ h, m ≠ blkMsg h) (h : SigP me x t g) :
    SigP me x ((n, ⟨me, m⟩) :: t) g := by
  intro p hp
  rcases List.mem_cons.mp hp with rfl | hp
  · exact Or.inr ⟨rfl, fun hh e => absurd e (hm hh)⟩
  · exact h p hp

theorem SigP.cons_vote {me x t g} (n : Nat) (b : Block) (id : Nat) (h : SigP me x t g) :
    SigP me x ((n, ⟨me, blkMsg b.hash⟩) :: t) (g ++ [.vote b id]) := by
  intro p hp
  rcases List.mem_cons.mp hp with rfl | hp
  · exact Or.inr ⟨rfl, fun hh e => ⟨b, id, blkMsg_inj e, by simp⟩⟩
  · exact h.ghost_append _ p hp

section SigFrames
variable (k : Keys) (c : RCfg)

theorem Upd.sig {x} {t : Tag} {s s' : RState} (h : Upd t s s') (ht : t ∉ [Tag.sign]) (hi : SigInv k c x s) :
    SigInv k c x s' := by
  cases h with
  | sign => exact absurd (by decide) ht
  | voted | timedOut | adv => exact SigP.ghost_append _ hi
  | _ => exact hi

theorem StepsOf.sig {α} {L : List Tag} {f : M α} (h : StepsOf L f) (x) (hL : ∀ t ∈ L, t ∉ [Tag.sign] := by decide) :
    ⦃fun s => ⌜SigInv k c x s⌝⦄ f ⦃⇓ _ s => ⌜SigInv k c x s⌝⦄ :=
  h.preserves (upd_of_notin (Upd.sig k c) L hL)

theorem signMsg_sig (m : Msg) (x) (hm : ∀ h, m ≠ blkMsg h) :
    ⦃fun s => ⌜SigInv k c x s⌝⦄ signMsg c m ⦃⇓ _ s => ⌜SigInv k c x s⌝⦄ := by
  have he := (emit_steps (.sign m) .outSign).sig k c x
  mvcgen [signMsg, he]
  exact SigP.cons_own _ _ hm ‹_›

theorem voteFor_sig (b : Block) (id : Nat) (x) :
    ⦃fun s => ⌜SigInv k c x s⌝⦄ voteFor c b id ⦃⇓ _ s => ⌜SigInv k c x s⌝⦄ := by
  have he := (emit_steps (.sign (blkMsg b.hash)) .outSign).sig k c x
  mvcgen [voteFor, signMsg, he]
  -- a BLS signature and a repeated Ed25519 signature leave the table alone
  · exact SigP.ghost_append _ ‹_›
  · exact SigP.ghost_append _ ‹_›
  · exact SigP.cons_vote _ _ _ ‹_›

theorem onValidPropose_sig (id : Nat) (b : Block) (x) :
    ⦃fun s => ⌜SigInv k c x s⌝⦄ onValidPropose k c id b ⦃⇓ _ s => ⌜SigInv k c x s⌝⦄ :=
  onValidPropose_rule k c id b ((tryCommit_steps c b).sig k c x) (voteFor_sig k c b id x) (upd_of_notin (Upd.sig k c) _)

theorem createAndPropose_sig (si : SyncInfo) (x) :
    ⦃fun s => ⌜SigInv k c x s⌝⦄ createAndPropose k c si ⦃⇓ _ s => ⌜SigInv k c x s⌝⦄ :=
  createAndPropose_rule k c si (W := fun _ _ => True) (J := fun _ => SigInv k c x)
    (fun b agg => triple_resTrue ((voterVerify_steps k c c.id b agg).sig k c x))
    (fun b => triple_of_left (voteFor_sig k c b c.id x)) (fun b => (tryCommit_steps c b).sig k c x)
    (upd_of_notin (Upd.sig k c) _)

theorem advanceView_sig (si : SyncInfo) (x) :
    ⦃fun s => ⌜SigInv k c x s⌝⦄ advanceView k c si ⦃⇓ _ s => ⌜SigInv k c x s⌝⦄ :=
  advanceView_rule k c si (fun si => createAndPropose_sig k c si x) (upd_of_notin (Upd.sig k c) _)

/-- `hk`: the bytes of a timeout are not the bytes of a block -/
theorem runLoop_sig (hk : ∀ i v q h, k.tmo i v q ≠ blkMsg h) (fuel : Nat) (x) :
    ⦃fun s => ⌜SigInv k c x s⌝⦄ runLoop k c fuel ⦃⇓ _ s => ⌜SigInv k c x s⌝⦄ :=
  runLoop_of_guard k c (G := fun _ _ => True) (W := fun _ _ _ => True) (fun si => advanceView_sig k c si x)
    (fun _ => triple_conseq (advanceView_sig k c _ x) (fun _ h => h) fun _ _ h => ⟨h, trivial⟩)
    (fun id b agg => triple_of_left (triple_resTrue ((voterVerify_steps k c id b agg).sig k c x)))
    (fun id b => triple_of_left (onValidPropose_sig k c id b x))
    (fun v => signMsg_sig k c (viewMsg v) x (viewMsg_ne v)) (fun i v q => signMsg_sig k c (k.tmo i v q) x (hk i v q))
    (fun _ _ _ _ h => SigP.ghost_append _ h) (hand_of_upd (upd_of_notin (Upd.sig k c) _)) (Upd.sig k c) fuel

end SigFrames

theorem step_sig (k : Keys) (c : RCfg) (hk : ∀ i v q h, k.tmo i v q ≠ blkMsg h) (x) (s : RState) (e : Ev)
    (h : SigInv k c x s) : SigInv k c x (step k c s e).1 :=
  step_keeps k c (runLoop_sig k c hk _ x) (fun _ h => h) s e h

theorem start_sig (k : Keys) (c : RCfg) (hk : ∀ i v q h, k.tmo i v q ≠ blkMsg h) (x) (s : RState)
    (h : SigInv k c x s) : SigInv k c x (start k c s).1 :=
  start_keeps k c (fun si => createAndPropose_sig k c si x) (runLoop_sig k c hk _ x) (fun _ h => h) s h

end HsVerif.Model
