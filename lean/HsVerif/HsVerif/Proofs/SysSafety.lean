import HsVerif.Proofs.SysDiscipline
import HsVerif.Proofs.ReplicaPair
/-!
C01, system layer: the SYSTEM of replica models (Model/Sys.lean) keeps the LOCK RULE of the abstract safety argument
(Proofs/Safety.lean, field `lock` of `Discipline`), hence is an instance of it, hence is safe.  The property theorems are
in Props/C01Safety.lean.  The replica invariants `CommittedBy` (every ruleset) and `RepSafe` = `LInv` ∧ `PairInv` (chained
and simplified HotStuff) are lifted to every replica of every reachable system state by `reach_rep`.  Namespace
`HsVerif.SysSafety` translates the stored-lookup vocabulary of the replica invariants into the abstract system
`SysAbs C σ blk`: under `Base` (all rulesets) the lock-free part of the discipline, under `Ctx` (chained and simplified
HotStuff) the lock rule, and commit chains are three-chains.
-/
namespace HsVerif.Model

def CommittedBy (c : RCfg) (s : RState) : Prop :=
  s.committed = genesisBlock ∨ ∃ x id, GRec.vote x id ∈ s.ghost ∧ CommitChain c s x s.committed

theorem committedBy_of_vr (c : RCfg) (s s' : RState) (new : List GRec) (hg : Grows s.chain.blocks s')
    (hnew : s'.ghost = s.ghost ++ new)
    (hc : s'.committed = s.committed ∨ ∃ x id, GRec.vote x id ∈ new ∧ CommitChain c s' x s'.committed)
    (h : CommittedBy c s) : CommittedBy c s' := by
  rcases hc with hc | ⟨x, id, hm, hcc⟩
  · rcases h with h | ⟨x, id, hm, hcc⟩
    · exact Or.inl (by rw [hc]; exact h)
    · refine Or.inr ⟨x, id, by rw [hnew]; exact List.mem_append_left _ hm, ?_⟩
      rw [hc]; exact commitChain_grows c s s' x _ hg hcc
  · exact Or.inr ⟨x, id, by rw [hnew]; exact List.mem_append_right _ hm, hcc⟩

theorem committedBy_congr (c : RCfg) (s s' : RState) (hb : s'.chain.blocks = s.chain.blocks)
    (hg : s'.ghost = s.ghost) (hcm : s'.committed = s.committed) (h : CommittedBy c s) : CommittedBy c s' :=
  committedBy_of_vr c s s' [] (grows_of_blocks_eq s s' hb) (by rw [hg, List.append_nil]) (Or.inl hcm) h

theorem reach_committedBy (k : Keys) (C : SysCfg) (σ : SysState) (hr : Reach k C σ) :
    ∀ i s, σ.reps.lookup i = some s → CommittedBy (C.rcfg i) s := by
  refine reach_rep k C (fun i s => CommittedBy (C.rcfg i) s) (fun _ => Or.inl rfl)
    (fun _ s _ _ => committedBy_congr _ s _ rfl rfl rfl) (fun _ s _ => committedBy_congr _ s _ rfl rfl rfl) ?_ ?_ σ hr
  · intro i s h
    obtain ⟨new, hnew, hcore⟩ := start_vr k (C.rcfg i) s
    exact committedBy_of_vr _ _ _ new (start_grows k _ _) hnew hcore.comm h
  · intro i s e h
    obtain ⟨new, hnew, hcore⟩ := step_vr k (C.rcfg i) s e
    exact committedBy_of_vr _ _ _ new (step_grows k _ _ e) hnew hcore.comm h

structure RepSafe (c : RCfg) (s : RState) : Prop where
  linv : LInv c s
  pair : PairInv c s

theorem repSafe_congr (c : RCfg) (s s' : RState) (hb : s'.chain.blocks = s.chain.blocks) (hl : s'.lock = s.lock)
    (hg : s'.ghost = s.ghost) (h : RepSafe c s) : RepSafe c s' :=
  have hsame := same_of_eq s s' hb hl hg
  ⟨linv_same hsame c h.linv, pair_grows hsame.store hg c h.pair⟩

theorem reach_safe (k : Keys) (C : SysCfg) (hc : C.rules ≠ .fast) (σ : SysState) (hr : Reach k C σ) :
    ∀ i s, σ.reps.lookup i = some s → RepSafe (C.rcfg i) s := by
  refine reach_rep k C (fun i s => RepSafe (C.rcfg i) s) (fun i => ⟨⟨fun _ _ h => h, fun _ _ hm => (by cases hm), Or.inl rfl⟩, pair_init _⟩)
    (fun _ s _ _ => repSafe_congr _ s _ rfl rfl rfl) (fun _ s _ => repSafe_congr _ s _ rfl rfl rfl) ?_ ?_ σ hr
  · intro i s h
    obtain ⟨h1, h2⟩ := start_lp k (C.rcfg i) hc s ⟨h.linv, h.pair⟩
    exact ⟨h1, h2⟩
  · intro i s e h
    obtain ⟨h1, h2⟩ := step_lp k (C.rcfg i) hc s e ⟨h.linv, h.pair⟩
    exact ⟨h1, h2⟩

theorem ghost_order (k : Keys) (c : RCfg) (s : RState) (hi : Inv3 k c s) (pre post : List GRec) (w : Block) (id : Nat)
    (he : s.ghost = pre ++ GRec.vote w id :: post) :
    (∀ x idx, GRec.vote x idx ∈ pre → x.view < w.view) ∧ (∀ x idx, GRec.vote x idx ∈ post → w.view < x.view) := by
  have hp : s.ghost.Pairwise (fun r1 r2 => ∀ v1 v2, r1.signedView = some v1 → r2.voteView = some v2 → v1 < v2) := hi.2.1
  rw [he, List.pairwise_append, List.pairwise_cons] at hp
  refine ⟨?_, ?_⟩
  · intro x idx hx
    exact hp.2.2 _ hx _ (List.mem_cons_self ..) x.view w.view rfl rfl
  · intro x idx hx
    exact hp.2.1.1 _ hx w.view x.view rfl rfl

theorem ghost_before (k : Keys) (c : RCfg) (s : RState) (hi : Inv3 k c s) (pre post : List GRec) (x w : Block)
    (idx id : Nat) (he : s.ghost = pre ++ GRec.vote w id :: post) (hx : GRec.vote x idx ∈ s.ghost)
    (hlt : x.view < w.view) : GRec.vote x idx ∈ pre := by
  have hord := ghost_order k c s hi pre post w id he
  rw [he] at hx
  rcases List.mem_append.mp hx with h | h
  · exact h
  · rcases List.mem_cons.mp h with h | h
    · cases h; exact absurd hlt (Nat.lt_irrefl _)
    · have := hord.2 x idx h; omega

end HsVerif.Model

namespace HsVerif.Props.C01SysWF
open HsVerif.Model

/-- **Content addressing, strengthened**: `CA`, and NO BLOCK IS STORED UNDER THE EMPTY HASH at any honest replica.  Why it
is needed: the genesis block of the model carries the certificate hash `""`, chained HotStuff's `qcRef` follows no
certificate with hash `""`, and the replica-level invariants are exact about that (`CoveredBy` has a vacuous branch for a
voted block with `qc.hash = ""` and for a certified parent with `qc.hash = ""`; `GPof` / `Walk2` stop at `""`).  Hashes are
a FIELD of the modelled block, so a Byzantine proposal with hash `""` is stored like any other (Props/C01LockInv.lean,
`votes_lock_grandparent_counterexample`); with such a block stored the vacuous branches are real and the lock does not
cover the grandparent.  Real hashes are 32 bytes (SHA-256) and `genesisHash = "G" ≠ ""`, so the clause is part of what
"the hash field is a hash" means, like `CA` itself. -/
def CA' (σ : SysState) (blk : Hash → Block) : Prop :=
  CA σ blk ∧ ∀ i s h b, σ.reps.lookup i = some s → s.chain.blocks.lookup h = some b → h ≠ ""

def ca'Check (σ : SysState) (blk : Hash → Block) : Bool :=
  caCheck σ blk && σ.reps.all (fun p => p.2.chain.blocks.all (fun e => e.1 != ""))

theorem ca'_of_ca'Check (σ : SysState) (blk : Hash → Block) (h : ca'Check σ blk = true) : CA' σ blk := by
  simp only [ca'Check, Bool.and_eq_true] at h
  refine ⟨ca_of_caCheck σ blk h.1, ?_⟩
  intro i s x b hl hb
  have hp := all_of_lookup h.2 hl
  have := all_of_lookup hp hb
  simpa using this

end HsVerif.Props.C01SysWF

namespace HsVerif.SysSafety
open HsVerif.Model HsVerif.Props.C01Sys HsVerif.Props.C01SysWF HsVerif.Safety

structure Base (k : Keys) (C : SysCfg) (σ : SysState) (blk : Hash → Block) : Prop where
  hk : KeysOK k
  hr : Reach k C σ
  hn : 1 ≤ C.n
  hf : FewFaulty C
  hsch : C.scheme ≠ .bls12
  hca : CA σ blk

/-- what is known of a block an honest replica voted for, or of a certified block -/
structure VotedFacts (C : SysCfg) (σ : SysState) (blk : Hash → Block) (w : Block) : Prop where
  ne_gen : w ≠ genesisBlock
  known : w = blk w.hash
  par : (SysAbs C σ blk).par w = blk w.qc.hash
  gc : GC (SysAbs C σ blk) ((SysAbs C σ blk).par w)
  lt : Block.view ((SysAbs C σ blk).par w) < w.view
  qcv : Block.view ((SysAbs C σ blk).par w) = w.qc.view

section
variable {k : Keys} {C : SysCfg} {σ : SysState} {blk : Hash → Block} (X : Base k C σ blk)
include X

theorem Base.stored {i : Nat} {s : RState} {h : Hash} {b : Block} (hs : σ.reps.lookup i = some s)
    (hb : sget s h = some b) : b = blk h ∧ b.hash = h :=
  (X.hca.2 i s hs).1 h b hb

theorem Base.stored_known {i : Nat} {s : RState} {h : Hash} {b : Block} (hs : σ.reps.lookup i = some s)
    (hb : sget s h = some b) : b = blk b.hash := by
  obtain ⟨h1, h2⟩ := X.stored hs hb
  rw [h2]; exact h1

theorem Base.vd : VoteDiscipline (SysAbs C σ blk) :=
  { gen_view := (sys_gen C σ blk).1, par_gen := (sys_gen C σ blk).2,
    inter := sysAbs_inter C σ blk X.hn X.hf,
    one_per_view := sysAbs_one_per_view k C X.hk σ X.hr blk,
    wf := sysAbs_wf k C X.hk σ X.hr X.hsch blk X.hca }

theorem Base.voted {i : Nat} {s : RState} {w : Block} {id : Nat} (hs : σ.reps.lookup i = some s)
    (hm : GRec.vote w id ∈ s.ghost) : VotedFacts C σ blk w := by
  have hv : (SysAbs C σ blk).voted i w := ⟨s, id, hs, hm⟩
  obtain ⟨hgc, hvl⟩ := X.vd.wf i w ((reach_inv k C σ X.hr).honest_of_lookup i s hs) hv
  obtain ⟨hp, hq⟩ := voted_qc k C X.hk σ X.hr blk X.hca hs hm
  exact ⟨voted_ne_genesis k C X.hk σ X.hr blk i w hv, (X.hca.2 i s hs).2 w id hm, hp, hgc, hvl, hp ▸ hq⟩

theorem Base.cert_voter {b : Block} (h : Certified (SysAbs C σ blk) b) :
    ∃ i s id, σ.reps.lookup i = some s ∧ GRec.vote b id ∈ s.ghost := by
  obtain ⟨r, _, ⟨s, id, hs, hm⟩, _⟩ := common_voter X.vd.inter h h
  exact ⟨r, s, id, hs, hm⟩

theorem Base.cert {b : Block} (h : Certified (SysAbs C σ blk) b) : VotedFacts C σ blk b := by
  obtain ⟨i, s, id, hs, hm⟩ := X.cert_voter h
  exact X.voted hs hm

theorem Base.link_voted {i : Nat} {s : RState} {w p : Block} {id : Nat} (hs : σ.reps.lookup i = some s)
    (hm : GRec.vote w id ∈ s.ghost) (hp : sget s w.qc.hash = some p) : p = (SysAbs C σ blk).par w := by
  rw [(X.voted hs hm).par]; exact (X.stored hs hp).1

end

structure Ctx (k : Keys) (C : SysCfg) (σ : SysState) (blk : Hash → Block) : Prop where
  hk : KeysOK k
  hr : Reach k C σ
  hn : 1 ≤ C.n
  hf : FewFaulty C
  hsch : C.scheme ≠ .bls12
  hrl : C.rules ≠ .fast
  hca : CA' σ blk

section
variable {k : Keys} {C : SysCfg} {σ : SysState} {blk : Hash → Block} (X : Ctx k C σ blk)
include X

theorem Ctx.base : Base k C σ blk := ⟨X.hk, X.hr, X.hn, X.hf, X.hsch, X.hca.1⟩

theorem Ctx.stored {i : Nat} {s : RState} {h : Hash} {b : Block} (hs : σ.reps.lookup i = some s)
    (hb : sget s h = some b) : b = blk h ∧ b.hash = h ∧ h ≠ "" :=
  ⟨(X.base.stored hs hb).1, (X.base.stored hs hb).2, X.hca.2 i s h b hs hb⟩

theorem Ctx.safe {i : Nat} {s : RState} (hs : σ.reps.lookup i = some s) : RepSafe (C.rcfg i) s :=
  reach_safe k C X.hrl σ X.hr i s hs

/-- `LInv` has the block the certificate names stored, and `CA'` has no block stored under `""` -/
theorem Ctx.voted_qc_ne {i : Nat} {s : RState} {w : Block} {id : Nat} (hs : σ.reps.lookup i = some s)
    (hm : GRec.vote w id ∈ s.ghost) : w.qc.hash ≠ "" := by
  obtain ⟨p, hp, _⟩ := ((X.safe hs).linv.2.1 w id hm).1
  exact (X.stored hs hp).2.2

theorem Ctx.link_gc {i : Nat} {s : RState} {p g : Block} (hs : σ.reps.lookup i = some s)
    (hgc : GC (SysAbs C σ blk) p) (hg : sget s p.qc.hash = some g) :
    Certified (SysAbs C σ blk) p ∧ g = (SysAbs C σ blk).par p := by
  rcases hgc with rfl | hc
  · exact absurd rfl (X.stored hs hg).2.2
  · refine ⟨hc, ?_⟩
    rw [(X.base.cert hc).par]; exact (X.stored hs hg).1

theorem Ctx.two_links {i : Nat} {s : RState} {x p g : Block} {id : Nat} (hs : σ.reps.lookup i = some s)
    (hm : GRec.vote x id ∈ s.ghost) (h1 : sget s x.qc.hash = some p) (h2 : sget s p.qc.hash = some g) :
    Certified (SysAbs C σ blk) p ∧ g = (SysAbs C σ blk).par p ∧ GC (SysAbs C σ blk) g ∧ g.view < x.view := by
  have V := X.base.voted hs hm
  have hpx := X.base.link_voted hs hm h1
  have hgc : GC (SysAbs C σ blk) p := hpx ▸ V.gc
  obtain ⟨hc, hg⟩ := X.link_gc hs hgc h2
  have Cp := X.base.cert hc
  have hgp : g.view < p.view := by rw [hg]; exact Cp.lt
  have hpv : p.view < x.view := by rw [hpx]; exact V.lt
  exact ⟨hc, hg, hg ▸ Cp.gc, Nat.lt_trans hgp hpv⟩

theorem Ctx.covered {i : Nat} {s : RState} {x : Block} {id : Nat} (c : RCfg) (lv : Nat) (hs : σ.reps.lookup i = some s)
    (hm : GRec.vote x id ∈ s.ghost) (hcov : CoveredBy c s x lv) :
    Block.view ((SysAbs C σ blk).par ((SysAbs C σ blk).par x)) ≤ lv := by
  rcases hcov with ⟨_, h0⟩ | ⟨p, hp, h2⟩
  · exact absurd h0 (X.voted_qc_ne hs hm)
  · have hpx := X.base.link_voted hs hm hp
    have hgc : GC (SysAbs C σ blk) p := hpx ▸ (X.base.voted hs hm).gc
    rw [← hpx]
    rcases h2 with h2 | ⟨g, hg, hv⟩
    · rcases hgc with rfl | hc
      · rw [sysAbs_par, if_pos rfl]; exact Nat.zero_le _
      · obtain ⟨j, sj, idj, hsj, hmj⟩ := X.base.cert_voter hc
        exact absurd h2 (X.voted_qc_ne hsj hmj)
    · obtain ⟨_, hgp⟩ := X.link_gc hs hgc hg
      rw [← hgp]; exact hv

theorem Ctx.prov {i : Nat} {s : RState} (c : RCfg) (pre : List GRec) (L : Block) (hs : σ.reps.lookup i = some s)
    (hsub : ∀ r, r ∈ pre → r ∈ s.ghost) (hp : ProvIn c s pre L) :
    GC (SysAbs C σ blk) L ∧ L = blk L.hash ∧
      (L = genesisBlock ∨ ∃ x' id, GRec.vote x' id ∈ pre ∧ L.view < x'.view) := by
  rcases hp with rfl | ⟨x', id, hm, p, hp1, _, hp2⟩
  · exact ⟨Or.inl rfl, X.hca.1.1.symm, Or.inl rfl⟩
  · obtain ⟨_, _, hgc, hlt⟩ := X.two_links hs (hsub _ hm) hp1 hp2
    exact ⟨hgc, X.base.stored_known hs hp2, Or.inr ⟨x', id, hm, hlt⟩⟩

theorem Ctx.storeExt {i : Nat} {s : RState} {w l : Block} (hs : σ.reps.lookup i = some s)
    (hw : w = blk w.hash) (hl : l = blk l.hash) (h : StoreExt s w l) : Ext (SysAbs C σ blk) w l := by
  induction h with
  | here w l hv hh =>
    have : w = l := by
      calc w = blk w.hash := hw
        _ = blk l.hash := by rw [hh]
        _ = l := hl.symm
    rw [this]; exact Ext.refl _
  | up w p l hv hp _ ih =>
    have hne : w ≠ genesisBlock := by
      intro e; rw [e] at hv; exact Nat.not_lt_zero _ hv
    have hpar : (SysAbs C σ blk).par w = p := by
      rw [sysAbs_par, if_neg hne]; exact (X.stored hs hp).1.symm
    exact Ext.step (by rw [hpar]; exact ih (X.base.stored_known hs hp) hl)

theorem Ctx.rule {i : Nat} {s : RState} {w L : Block} {id : Nat} (hs : σ.reps.lookup i = some s)
    (hm : GRec.vote w id ∈ s.ghost) (hL : GC (SysAbs C σ blk) L) (hLk : L = blk L.hash)
    (h : RuleHolds (C.rcfg i) s w L) :
    L.view < Block.view ((SysAbs C σ blk).par w) ∨ Ext (SysAbs C σ blk) w L := by
  have V := X.base.voted hs hm
  unfold RuleHolds at h
  split at h
  · rcases h with ⟨p, hp, hv⟩ | hse
    · left; rw [← X.base.link_voted hs hm hp]; exact hv
    · right; exact X.storeExt hs V.known hLk hse
  · obtain ⟨p, hp, hv⟩ := h
    have hpw := X.base.link_voted hs hm hp
    rcases Nat.eq_or_lt_of_le hv with heq | hlt
    · right
      have : L = (SysAbs C σ blk).par w := X.base.vd.gc_unique hL V.gc (show L.view = Block.view _ by rw [heq, hpw])
      exact Ext.step (by rw [← this]; exact Ext.refl _)
    · left; rw [← hpw]; exact hlt
  · rename_i hfast
    exact absurd hfast X.hrl

theorem Ctx.lock : ∀ r x w, (SysAbs C σ blk).honest r → (SysAbs C σ blk).voted r x → (SysAbs C σ blk).voted r w →
    (SysAbs C σ blk).view x < (SysAbs C σ blk).view w →
    ∃ l, GC (SysAbs C σ blk) l ∧
      (SysAbs C σ blk).view ((SysAbs C σ blk).par ((SysAbs C σ blk).par x)) ≤ (SysAbs C σ blk).view l ∧
      (SysAbs C σ blk).view l < (SysAbs C σ blk).view w ∧
      ((SysAbs C σ blk).view l < (SysAbs C σ blk).view ((SysAbs C σ blk).par w) ∨ Ext (SysAbs C σ blk) w l) := by
  intro r x w _ ⟨s, idx, hs, hx⟩ ⟨s', id, hs', hw⟩ hlt
  obtain rfl : s' = s := Option.some.inj (hs'.symm.trans hs)
  obtain ⟨pre, post, he⟩ := List.append_of_mem hw
  have hinv := (reach_inv k C σ X.hr).inv3 r s' hs
  have hxpre := ghost_before k _ s' hinv pre post x w idx id he hx hlt
  have hsub : ∀ r, r ∈ pre → r ∈ s'.ghost := by
    intro r hr; rw [he]; exact List.mem_append_left _ hr
  obtain ⟨L, hprov, hcov, hrule⟩ := (X.safe hs).pair pre w id post he
  obtain ⟨hgc, hLk, hLv⟩ := X.prov _ pre L hs hsub hprov
  have hLw : L.view < w.view := by
    rcases hLv with rfl | ⟨x', id', hm', hv'⟩
    · exact Nat.lt_of_le_of_lt (Nat.zero_le _) (X.base.voted hs hw).lt
    · have := (ghost_order k _ s' hinv pre post w id he).1 x' id' hm'; omega
  exact ⟨L, hgc, X.covered _ _ hs hx (hcov x idx hxpre), hLw, X.rule hs hw hgc hLk hrule⟩

theorem Ctx.discipline : Discipline (SysAbs C σ blk) :=
  { X.base.vd with lock := X.lock }

theorem Ctx.three {i : Nat} {s : RState} {x b1 b2 b3 : Block} {id : Nat} (hs : σ.reps.lookup i = some s)
    (hm : GRec.vote x id ∈ s.ghost) (h1 : sget s x.qc.hash = some b1) (h2 : sget s b1.qc.hash = some b2)
    (h3 : sget s b2.qc.hash = some b3) (v1 : b2.view = b3.view + 1) (v2 : b1.view = b3.view + 2) :
    ThreeChain (S := SysAbs C σ blk) b3 b2 b1 := by
  obtain ⟨c1, e2, g2, _⟩ := X.two_links hs hm h1 h2
  obtain ⟨_, e3⟩ := X.link_gc hs g2 h3
  exact ⟨e2.symm, e3.symm, v1, v2, c1⟩

theorem Ctx.commit_chain {i : Nat} {s : RState} {x b3 : Block} {id : Nat} (hs : σ.reps.lookup i = some s)
    (hm : GRec.vote x id ∈ s.ghost) (h : CommitChain (C.rcfg i) s x b3) :
    ∃ b2 b1, ThreeChain (S := SysAbs C σ blk) b3 b2 b1 := by
  obtain ⟨b1, b2, l1, l2, l3, v2, v1⟩ := h.links X.hrl
  exact ⟨b2, b1, X.three hs hm l1 l2 l3 v2 v1⟩

theorem Ctx.committed {i : Nat} {s : RState} (hs : σ.reps.lookup i = some s) :
    s.committed = genesisBlock ∨ ∃ b2 b1, ThreeChain (S := SysAbs C σ blk) s.committed b2 b1 := by
  rcases reach_committedBy k C σ X.hr i s hs with h | ⟨x, id, hm, hcc⟩
  · exact Or.inl h
  · exact Or.inr (X.commit_chain hs hm hcc)

end
end HsVerif.SysSafety
