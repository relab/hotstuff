import HsVerif.Props.C01Pair
import HsVerif.Props.C07Commit
import HsVerif.Proofs.SysSignal
/-! C07, the clauses "the view of the highest known TC never decreases" and "it never
skips signalling a view change to its own components".  Helpers in Proofs/ReplicaSignal.lean and Proofs/SysSignal.lean.

`highTC` is written in one place (`advanceView`, `UpdateHighTC`), so its view never decreases, from ANY state.
Signalling: `vcOuts outs` are the views of the outputs `Out.viewChange v _` (what `tick` hands to the components
registered for `ViewChangeEvent`), `vcQueued s` those of the events still queued, `entered s` the views ENTERED according
to the ghost history.  A replica that adopts a certificate of view `w ≥ view` enters `w + 1` directly
(`EnterViewAfter`): ONE signal per entered view, none for the views jumped over.  `vcWaiting s = []` is a hypothesis
because `tick` re-queues the deferred lists; the run-level statements need that no `Ev.viewChange` event is injected (`Ev.noVC`). -/
namespace HsVerif.Props.C07Signal
open HsVerif.Model HsVerif.Props.C03 HsVerif.Props.C01Sys HsVerif.SysLedger HsVerif.SysSignal

/-- **The view of the high TC never decreases**: one delivered event — a message of any content from any
sender, a local timeout, any internal event — from ANY state -/
theorem hightc_view_monotone (k : Keys) (c : RCfg) (s : RState) (e : Ev) :
    s.highTC.view ≤ (step k c s e).1.highTC.view :=
  (runLoop_steps k c 100000 { s with out := [], queue := s.queue ++ [e] }).highTC_le

theorem hightc_view_monotone_start (k : Keys) (c : RCfg) (s : RState) :
    s.highTC.view ≤ (start k c s).1.highTC.view := by
  obtain ⟨s1, h1, he⟩ := start_steps k c s
  rw [he]
  exact h1.highTC_le

theorem hightc_view_monotone_run (k : Keys) (c : RCfg) (es : List Ev) (s : RState) :
    s.highTC.view ≤ (runEvents k c s es).highTC.view :=
  runEvents_keeps (I := fun s' => s.highTC.view ≤ s'.highTC.view)
    (fun s' e h => Nat.le_trans h (hightc_view_monotone k c s' e)) es s (Nat.le_refl _)

/-- **between any two points of any run from the initial state** (any events, in any order) -/
theorem hightc_view_never_decreases (k : Keys) (c : RCfg) (es more : List Ev) :
    (runEvents k c (start k c {}).1 es).highTC.view ≤ (runEvents k c (start k c {}).1 (es ++ more)).highTC.view := by
  have : runEvents k c (start k c {}).1 (es ++ more) = runEvents k c (runEvents k c (start k c {}).1 es) more := by
    simp [runEvents, List.foldl_append]
  rw [this]
  exact hightc_view_monotone_run k c more _

/-- **in the system of replica models**: across ANY action of the adversary from ANY system state -/
theorem hightc_view_monotone_sys (k : Keys) (C : SysCfg) (σ : SysState) (a : SysAct)
    (i : Nat) (s s' : RState) (hs : σ.reps.lookup i = some s) (hs' : (sysStep k C σ a).reps.lookup i = some s') :
    s.highTC.view ≤ s'.highTC.view :=
  sysStep_rep_rel k C σ a (fun _ s s' => s.highTC.view ≤ s'.highTC.view) (fun _ _ => Nat.le_refl _)
    (fun _ s t nb => hightc_view_monotone_start k _ { s with truth := t, nextBytes := nb })
    (fun _ s t nb e => hightc_view_monotone k _ { s with truth := t, nextBytes := nb } e)
    (fun _ _ _ => Nat.le_refl _) i s s' hs hs'

example (outs : List Out) : vcOuts outs = outs.filterMap (fun o => match o with | .viewChange v _ => some v | _ => none) := by
  unfold vcOuts
  congr 1
example (s : RState) : vcQueued s = s.queue.filterMap (fun e => match e with | .viewChange v _ => some v | _ => none) := by
  unfold vcQueued evVCs
  congr 1
example (s : RState) : vcWaiting s =
    (s.waitingVC ++ s.waitingProp).filterMap (fun e => match e with | .viewChange v _ => some v | _ => none) := by
  unfold vcWaiting evVCs
  congr 1
example (v : Nat) (t : Bool) : evVCs [.viewChange v t] = [v] := rfl
example (e : Ev) (h : e.noVC = true) : evVCs [e] = [] := evVCs_noVC e h

example (s : RState) : entered s = (s.ghost.filter GRec.isAdv).map GRec.advTo := rfl
example (f cv : Nat) (t : Bool) : (GRec.adv f cv t).advTo = cv + 1 := rfl
example (a b : Nat) : Climb a [] b ↔ a = b := Climb.nil_def a b
example (a x b : Nat) (l : List Nat) : Climb a (x :: l) b ↔ a < x ∧ Climb x l b := Climb.cons_def a x b l

/-- **View changes are signalled, each exactly once, in order — one delivered event** (ANY state `s` in
whose deferred lists no view-change event waits, ANY event `e`).  `l` are exactly the views ENTERED in this step (the
ghost history's advancement records grew by exactly these); an injected `Ev.viewChange v _` is carried in the equation
(`evVCs [e] = [v]`). -/
theorem step_signal (k : Keys) (c : RCfg) (s : RState) (e : Ev) (hw : vcWaiting s = []) :
    (∃ l, vcOuts (step k c s e).2 ++ vcQueued (step k c s e).1 = (vcQueued s ++ evVCs [e]) ++ l ∧
        entered (step k c s e).1 = entered s ++ l ∧ Climb s.view l (step k c s e).1.view) ∧
      vcWaiting (step k c s e).1 = [] ∧ s.view ≤ (step k c s e).1.view :=
  HsVerif.Model.step_signal k c s e hw

theorem step_signal_noVC (k : Keys) (c : RCfg) (s : RState) (e : Ev) (hw : vcWaiting s = []) (he : e.noVC = true) :
    (∃ l, vcOuts (step k c s e).2 ++ vcQueued (step k c s e).1 = vcQueued s ++ l ∧
        entered (step k c s e).1 = entered s ++ l ∧ Climb s.view l (step k c s e).1.view) ∧
      vcWaiting (step k c s e).1 = [] ∧ s.view ≤ (step k c s e).1.view := by
  have := HsVerif.Model.step_signal k c s e hw
  unfold VCStep at this
  rw [evVCs_noVC e he, List.append_nil] at this
  exact this

theorem start_signal (k : Keys) (c : RCfg) (s : RState) (hw : vcWaiting s = []) :
    (∃ l, vcOuts (start k c s).2 ++ vcQueued (start k c s).1 = vcQueued s ++ l ∧
        entered (start k c s).1 = entered s ++ l ∧ Climb s.view l (start k c s).1.view) ∧
      vcWaiting (start k c s).1 = [] ∧ s.view ≤ (start k c s).1.view :=
  HsVerif.Model.start_signal k c s hw

theorem climb_facts (a b : Nat) (l : List Nat) (h : Climb a l b) :
    l.Pairwise (· < ·) ∧ (∀ x ∈ l, a < x ∧ x ≤ b) ∧ l.getLast?.getD a = b ∧ (l = [] ↔ a = b) ∧ (a < b → b ∈ l) :=
  ⟨h.pairwise, h.mem, h.getLast?, h.nil_iff, h.end_mem⟩

theorem runV_is_runEvents (k : Keys) (c : RCfg) (es : List Ev) :
    (runV k c (startV k c {}) es).1 = runEvents k c (start k c {}).1 es := runV_fst k c _ es

example (k : Keys) (c : RCfg) : (startV k c {}).2 = vcOuts (start k c {}).2 := rfl
example (k : Keys) (c : RCfg) (p : RState × List Nat) (e : Ev) (es : List Ev) :
    runV k c p (e :: es) = runV k c ((step k c p.1 e).1, p.2 ++ vcOuts (step k c p.1 e).2) es := rfl

/-- **Run level: all views signalled so far, followed by those still queued, are exactly the views ENTERED
so far** (not `2, 3, …, view`: a lagging replica that adopts a certificate of view `w` enters `w + 1` directly,
`EnterViewAfter`, and signals `w + 1` only), which climb strictly from view 1 to the current
view — for every run from the initial state whose delivered events are not `Ev.viewChange` events -/
theorem signalled_run (k : Keys) (c : RCfg) (es : List Ev) (hes : ∀ e ∈ es, e.noVC = true) :
    (runV k c (startV k c {}) es).2 ++ vcQueued (runV k c (startV k c {}) es).1 =
        entered (runV k c (startV k c {}) es).1 ∧
      Climb 1 (entered (runV k c (startV k c {}) es).1) (runV k c (startV k c {}) es).1.view ∧
      vcWaiting (runV k c (startV k c {}) es).1 = [] ∧ 1 ≤ (runV k c (startV k c {}) es).1.view := by
  have := runV_sig k c es hes _ (startV_sig k c)
  exact ⟨this.all, this.climb, this.wait, this.pos⟩

theorem signalled_prefix (k : Keys) (c : RCfg) (es : List Ev) (hes : ∀ e ∈ es, e.noVC = true) :
    (runV k c (startV k c {}) es).2 <+: entered (runV k c (startV k c {}) es).1 :=
  ⟨_, (signalled_run k c es hes).1⟩

theorem signalled_increasing (k : Keys) (c : RCfg) (es : List Ev) (hes : ∀ e ∈ es, e.noVC = true) :
    ((runV k c (startV k c {}) es).2).Pairwise (· < ·) :=
  (signalled_run k c es hes).2.1.pairwise.sublist (signalled_prefix k c es hes).sublist

theorem signalled_nodup (k : Keys) (c : RCfg) (es : List Ev) (hes : ∀ e ∈ es, e.noVC = true) :
    ((runV k c (startV k c {}) es).2).Nodup :=
  (signalled_increasing k c es hes).imp Nat.ne_of_lt

/-- **no view change is skipped** (of the views ENTERED, not of every view `2 ≤ v ≤ view`): every
view entered so far — in particular the current one, unless it is still view 1 — has been signalled or its
signal is queued -/
theorem no_view_change_skipped (k : Keys) (c : RCfg) (es : List Ev) (hes : ∀ e ∈ es, e.noVC = true) :
    (∀ v ∈ entered (runV k c (startV k c {}) es).1,
        v ∈ (runV k c (startV k c {}) es).2 ∨ v ∈ vcQueued (runV k c (startV k c {}) es).1) ∧
      (2 ≤ (runV k c (startV k c {}) es).1.view →
        (runV k c (startV k c {}) es).1.view ∈ (runV k c (startV k c {}) es).2 ∨
          (runV k c (startV k c {}) es).1.view ∈ vcQueued (runV k c (startV k c {}) es).1) := by
  have h := signalled_run k c es hes
  have hall : ∀ v ∈ entered (runV k c (startV k c {}) es).1,
      v ∈ (runV k c (startV k c {}) es).2 ∨ v ∈ vcQueued (runV k c (startV k c {}) es).1 := by
    intro v hv
    rw [← h.1] at hv
    exact List.mem_append.mp hv
  exact ⟨hall, fun h2 => hall _ (h.2.1.end_mem (by omega))⟩

/-- nothing else is signalled: a signalled view has been entered (and is between 2 and the current view) -/
theorem signalled_sound (k : Keys) (c : RCfg) (es : List Ev) (hes : ∀ e ∈ es, e.noVC = true) (v : Nat)
    (hv : v ∈ (runV k c (startV k c {}) es).2) :
    2 ≤ v ∧ v ≤ (runV k c (startV k c {}) es).1.view ∧ v ∈ entered (runV k c (startV k c {}) es).1 := by
  have h := signalled_run k c es hes
  have : v ∈ entered (runV k c (startV k c {}) es).1 := by
    rw [← h.1]; exact List.mem_append_left _ hv
  have := h.2.1.mem v this
  exact ⟨by omega, this.2, ‹_›⟩

theorem sysStepV_is_sysStep (k : Keys) (C : SysCfg) (σ : SysState) (V : Nat → List Nat) (a : SysAct) :
    (sysStepV k C (σ, V) a).1 = sysStep k C σ a := rfl

theorem sysRunV_is_sysRun (k : Keys) (C : SysCfg) (acts : List SysAct) : (sysRunV k C acts).1 = sysRun k C acts :=
  sysRunV_eq k C acts ▸ sysRunObs_fst vcOuts k C acts

/-- **In the system of replica models**: along every run in which the adversary delivers no `Ev.viewChange`
event, for every replica the views signalled so far followed by those still queued are the views it ENTERED,
which climb strictly from view 1 to its view. -/
theorem signalled_sys (k : Keys) (C : SysCfg) (acts : List SysAct) (hacts : ∀ a ∈ acts, a.noVC = true)
    (i : Nat) (s : RState) (hs : (sysRunV k C acts).1.reps.lookup i = some s) :
    (sysRunV k C acts).2 i ++ vcQueued s = entered s ∧ Climb 1 (entered s) s.view ∧ vcWaiting s = [] ∧ 1 ≤ s.view := by
  rw [sysRunV_is_sysRun] at hs
  have := sysRunV_inv k C acts hacts i s hs
  exact ⟨this.all, this.climb, this.wait, this.pos⟩

theorem signalled_sys_increasing (k : Keys) (C : SysCfg) (acts : List SysAct) (hacts : ∀ a ∈ acts, a.noVC = true)
    (i : Nat) (s : RState) (hs : (sysRunV k C acts).1.reps.lookup i = some s) :
    ((sysRunV k C acts).2 i).Pairwise (· < ·) ∧ ((sysRunV k C acts).2 i).Nodup := by
  have h := signalled_sys k C acts hacts i s hs
  have hp : ((sysRunV k C acts).2 i).Pairwise (· < ·) :=
    h.2.1.pairwise.sublist (List.IsPrefix.sublist ⟨_, h.1⟩)
  exact ⟨hp, hp.imp Nat.ne_of_lt⟩

/-- **Per action, from ANY reachable state, ANY delivered event**: the views signalled by the step that
replica `i` takes continue the sequence (an injected view-change event is carried in the equation). -/
theorem signalled_sys_deliver (k : Keys) (C : SysCfg) (σ : SysState) (hr : Reach k C σ) (i : Nat) (e : Ev)
    (s : RState) (hs : σ.reps.lookup i = some s) :
    ∃ s' outs, (sysStep k C σ (.deliver i e)).reps.lookup i = some s' ∧
      stepOuts k C σ (.deliver i e) = some (i, outs) ∧
      (∃ l, vcOuts outs ++ vcQueued s' = (vcQueued s ++ evVCs [e]) ++ l ∧ entered s' = entered s ++ l ∧
        Climb s.view l s'.view) ∧
      vcWaiting s' = [] ∧ s.view ≤ s'.view := by
  obtain ⟨h1, h2⟩ := σ.run_lookup i (fun s => step k (C.rcfg i) s e) hs
  exact ⟨_, _, h1, h2,
    HsVerif.Model.step_signal k (C.rcfg i) { s with truth := σ.truth, nextBytes := σ.nextBytes } e
      (reach_vcwait k C σ hr i s hs)⟩

theorem signalled_sys_start (k : Keys) (C : SysCfg) (σ : SysState) (hr : Reach k C σ) (i : Nat)
    (s : RState) (hs : σ.reps.lookup i = some s) :
    ∃ s' outs, (sysStep k C σ (.start i)).reps.lookup i = some s' ∧
      stepOuts k C σ (.start i) = some (i, outs) ∧
      (∃ l, vcOuts outs ++ vcQueued s' = vcQueued s ++ l ∧ entered s' = entered s ++ l ∧ Climb s.view l s'.view) ∧
      vcWaiting s' = [] ∧ s.view ≤ s'.view := by
  obtain ⟨h1, h2⟩ := σ.run_lookup i (start k (C.rcfg i)) hs
  exact ⟨_, _, h1, h2,
    HsVerif.Model.start_signal k (C.rcfg i) { s with truth := σ.truth, nextBytes := σ.nextBytes }
      (reach_vcwait k C σ hr i s hs)⟩

theorem view_monotone_sys (k : Keys) (C : SysCfg) (σ : SysState) (hr : Reach k C σ) (a : SysAct)
    (i : Nat) (s s' : RState) (hs : σ.reps.lookup i = some s) (hs' : (sysStep k C σ a).reps.lookup i = some s') :
    s.view ≤ s'.view :=
  sysStep_rep_rel k C σ a (fun _ s s' => vcWaiting s = [] → s.view ≤ s'.view) (fun _ _ _ => Nat.le_refl _)
    (fun _ s t nb h => (HsVerif.Model.start_signal k _ { s with truth := t, nextBytes := nb } h).2.2)
    (fun _ s t nb e h => (HsVerif.Model.step_signal k _ { s with truth := t, nextBytes := nb } e h).2.2)
    (fun _ _ _ _ => Nat.le_refl _) i s s' hs hs' (reach_vcwait k C σ hr i s hs)

/-! Each conjunction is decided as one proposition: the kernel then evaluates the run once and shares it
between the conjuncts (deciding them one by one evaluates it once per conjunct). -/
section NonVacuity
open HsVerif.Props.C01Safety HsVerif.Props.C01Rule HsVerif.Props.C01Pair

/-- the run `sfActs` of Props/C01Safety.lean (no action delivers a view-change event): replicas 1 and 2 are
in view 4 and have signalled `[2, 3, 4]`, replica 3 is in view 3 and has signalled `[2, 3]`; nothing queued -/
theorem sf_signalled : (sysRunV exKeys exCfg sfActs).2 1 = [2, 3, 4] ∧ (sysRunV exKeys exCfg sfActs).2 2 = [2, 3, 4] ∧
    (sysRunV exKeys exCfg sfActs).2 3 = [2, 3] ∧ (∀ a ∈ sfActs, a.noVC = true) ∧
    (sysRunV exKeys exCfg sfActs).1.reps.map (fun p => (p.1, p.2.view, vcQueued p.2)) = [(1, 4, []), (2, 4, []), (3, 3, [])] := by
  decide +kernel

/-- `signalled_sys` applied to the run: whatever replica 1's state is, its signalled views `[2, 3, 4]`
followed by its queued ones are the views it entered -/
example (s : RState) (hs : (sysRunV exKeys exCfg sfActs).1.reps.lookup 1 = some s) :
    [2, 3, 4] ++ vcQueued s = entered s := by
  have := (signalled_sys exKeys exCfg sfActs sf_signalled.2.2.2.1 1 s hs).1
  rw [sf_signalled.1] at this
  exact this

/-- the run `nvEvents` of Props/C01Pair.lean (replica 1 of 4, four proposals of views 1..4): it is in view 4
and has signalled `[2, 3, 4]` -/
theorem nv_signalled : (runV nvKeys nvCfg (startV nvKeys nvCfg {}) nvEvents).2 = [2, 3, 4] ∧
    (runV nvKeys nvCfg (startV nvKeys nvCfg {}) nvEvents).1.view = 4 ∧
    vcQueued (runV nvKeys nvCfg (startV nvKeys nvCfg {}) nvEvents).1 = [] ∧ (∀ e ∈ nvEvents, e.noVC = true) := by
  decide +kernel

example : Climb 1 (entered (runV nvKeys nvCfg (startV nvKeys nvCfg {}) nvEvents).1) 4 := by
  have := (signalled_run nvKeys nvCfg nvEvents nv_signalled.2.2.2).2.1
  rw [nv_signalled.2.1] at this
  exact this

/-- the timeout message replica `i` sends on its first local timeout in view 1 (signature bytes `b`) -/
def tcTmo (i b : Nat) : TimeoutMsg :=
  { id := i, view := 1, viewSig := some (.multi .ecdsa [⟨i, b⟩]), msgSig := none,
    si := { qc := some genesisQC, tc := some ⟨none, 0⟩ } }

/-- a run with a timeout certificate: all three honest replicas time out in view 1; the timeout messages
of replicas 2 and 3 reach replica 1, which assembles the TC for view 1 and advances on it -/
def tcActs : List SysAct :=
  [.start 1, .start 2, .start 3, .deliver 1 (.localTimeout 1), .deliver 2 (.localTimeout 1), .deliver 3 (.localTimeout 1),
   .deliver 1 (.timeout (tcTmo 2 3)), .deliver 1 (.timeout (tcTmo 3 4))]

/-- **the high TC moves**: before the last delivery replica 1's high TC has view 0, after it view 1; replica 1
is then in view 2 and has signalled `[2]` (with `timeout = true`: the last step's outputs end in
`Out.viewChange 2 true`) -/
theorem tc_run :
    (sysRun exKeys exCfg (tcActs.take 7)).reps.map (fun p => (p.1, p.2.highTC.view, p.2.view)) = [(1, 0, 1), (2, 0, 1), (3, 0, 1)] ∧
    (sysRunV exKeys exCfg tcActs).1.reps.map (fun p => (p.1, p.2.highTC.view, p.2.view)) = [(1, 1, 2), (2, 0, 1), (3, 0, 1)] ∧
    (sysRunV exKeys exCfg tcActs).2 1 = [2] ∧ (∀ a ∈ tcActs, a.noVC = true) ∧
    ((stepOuts exKeys exCfg (sysRun exKeys exCfg (tcActs.take 7)) (.deliver 1 (.timeout (tcTmo 3 4)))).map
      (fun p => p.2.filterMap (fun o => match o with | .viewChange v t => some (v, t) | _ => none))) = some [(2, true)] := by
  decide +kernel

/-- **Counterexample to the run-level statement without `noVC`**: the adversary delivers `Ev.viewChange 7 false`
to the started replica; it signals view 7 while in view 1, so signalled ++ queued is `[7]`, not `[]` -/
theorem signal_counterexample :
    (runV nvKeys nvCfg (startV nvKeys nvCfg {}) [.viewChange 7 false]).2 = [7] ∧
    (runV nvKeys nvCfg (startV nvKeys nvCfg {}) [.viewChange 7 false]).1.view = 1 ∧
    (runV nvKeys nvCfg (startV nvKeys nvCfg {}) [.viewChange 7 false]).2 ++
        vcQueued (runV nvKeys nvCfg (startV nvKeys nvCfg {}) [.viewChange 7 false]).1 ≠
      entered (runV nvKeys nvCfg (startV nvKeys nvCfg {}) [.viewChange 7 false]).1 := by
  decide +kernel

end NonVacuity
end HsVerif.Props.C07Signal
