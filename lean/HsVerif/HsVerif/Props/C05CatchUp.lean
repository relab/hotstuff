import HsVerif.Proofs.ReplicaProgress
import HsVerif.Proofs.ReplicaSignal
import HsVerif.Props.C05
import HsVerif.Props.C01Rule
/-! C05 — a lagging replica catches up in one step.

The defect: `Synchronizer.advanceView` entered `current view + 1` even when the verified certificate was for a
much later view, so a replica that had fallen `k` views behind stayed `k` views behind for ever although every
message was delivered (proposals are for views ahead of it: it never votes or commits again).  The repair
(`EnterViewAfter(view)`; model: `advanceView`, `newView := view + 1` for the certified `view ≥` the current view).

The theorems are about the repaired model: any state between steps, any sync info (QC, TC or aggregate QC; either
timeout rule) or proposal certificate that the replica's verifier accepts with certified view `w ≥` the current view. -/
open Std.Do
set_option mvcgen.warning false
namespace HsVerif.Props.C05CatchUp
open HsVerif.Model HsVerif.Proofs

/-- a state between two steps: nothing queued, the outputs of the last step handed over -/
theorem between_steps (s : RState) (hq : s.queue = []) (ho : s.out = []) : ({ s with out := [], queue := [] } : RState) = s := by
  cases s; simp_all

/-- `onPropose` starts with `advanceView` on the proposal's certificate; nothing after it lowers the view -/
theorem onPropose_progress (k : Keys) (c : RCfg) (id : Nat) (b : Block) (agg : Option AggQC) (v w : Nat) (hw : v ≤ w) :
    ⦃fun s => ⌜s.view = v ∧ Accepts k c { qc := some b.qc } s w⌝⦄ onPropose k c id b agg ⦃⇓ _ s => ⌜w + 1 ≤ s.view⌝⦄ := by
  have h1 := advanceView_progress k c { qc := some b.qc } v w hw
  have h2 := (voterVerify_steps k c id b agg).view_le (w + 1)
  have h3 := (onValidPropose_steps k c id b).view_le (w + 1)
  have h4 := fun o => (emitAny_steps o).view_le (w + 1)
  mvcgen [onPropose, h1, h2, h3, h4]
  all_goals simp_all +zetaDelta
  all_goals omega

/-- **A lagging replica catches up in one step (new-view message).**  Replica `c.id` is in view `s.view`, between
two steps.  It receives a new-view message (from anybody) whose sync info its verifier accepts with certified view
`w ≥ s.view` — any `w`, however far ahead.  After the step it is in a view `≥ w + 1`. -/
theorem lagging_replica_catches_up (k : Keys) (c : RCfg) (s : RState) (id : Nat) (si : SyncInfo) (w : Nat)
    (hq : s.queue = []) (ho : s.out = []) (ha : Accepts k c si s w) (hw : s.view ≤ w) :
    w + 1 ≤ (step k c s (.newview id si)).1.view := by
  let s7 : RState := ((advanceView k c si).run s).2
  have hadv : (advanceView k c si).run { s with out := [], queue := [] } = pure ((), s7) := by rw [between_steps s hq ho]; rfl
  have h7 : s7.view = w + 1 := (HsVerif.Props.C05.view_moves_on_accepted_certificate k c si s w ha hw).1
  let s8 : RState := ((runLoop k c 99999).run s7).2
  have hstep : step k c s (.newview id si) = ({ s8 with out := [] }, s8.out) :=
    step_tick k c s s7 _ hq (tick_newview k c rfl hadv)
  have h8 : w + 1 ≤ s8.view :=
    run_res_of_triple (runLoop k c 99999) _ _ (runLoop_vw k c 99999 (w + 1)) s7 (Nat.le_of_eq h7.symm)
  rw [hstep]; exact h8

/-- **… on a proposal**: the proposal's certificate is accepted with certified view `w ≥ s.view`. -/
theorem lagging_replica_catches_up_on_proposal (k : Keys) (c : RCfg) (s : RState) (id : Nat) (b : Block)
    (agg : Option AggQC) (w : Nat)
    (hq : s.queue = []) (ho : s.out = []) (ha : Accepts k c { qc := some b.qc } s w) (hw : s.view ≤ w) :
    w + 1 ≤ (step k c s (.propose id b agg)).1.view := by
  let s6 : RState := ((onPropose k c id b agg).run s).2
  have h6 : w + 1 ≤ s6.view :=
    run_res_of_triple (onPropose k c id b agg) _ _ (onPropose_progress k c id b agg s.view w hw) s ⟨rfl, ha⟩
  let s7 : RState := { s6 with waitingProp := [], queue := s6.queue ++ s6.waitingProp }
  have hrun : (onPropose k c id b agg).run { s with out := [], queue := [] } = pure ((), s6) := by
    rw [between_steps s hq ho]; rfl
  let s8 : RState := ((runLoop k c 99999).run s7).2
  have hstep : step k c s (.propose id b agg) = ({ s8 with out := [] }, s8.out) :=
    step_tick k c s s7 _ hq (tick_propose k c rfl hrun)
  have h8 : w + 1 ≤ s8.view :=
    run_res_of_triple (runLoop k c 99999) _ _ (runLoop_vw k c 99999 (w + 1)) s7 h6
  rw [hstep]; exact h8

/-- **… exactly** (plain timeout rule; the certificate is a QC `q` of the stored block `nb`; the replica is not the
leader of view `q.view + 1`; no event is deferred until a view change): the replica ends in view `q.view + 1`
EXACTLY, whatever `q.view ≥ s.view` is; the step's outputs are the new-view message to the leader of that view and ONE
view-change signal, for `q.view + 1`; the ghost history has grown by the one record "left `s.view` on a certificate
of view `q.view`". -/
theorem lagging_replica_catches_up_exact (k : Keys) (c : RCfg) (s : RState) (id : Nat) (q : QC) (nb : Block)
    (hagg : c.agg = false) (hq : s.queue = []) (ho : s.out = []) (hwv : s.waitingVC = [])
    (hqc : verifyQC (env k c s) q = true) (hnb : s.chain.blocks.lookup q.hash = some nb) (hw : s.view ≤ q.view)
    (hl : c.leader (q.view + 1) ≠ c.id) :
    (step k c s (.newview id { qc := some q })).1 = { jumpedS s q nb with queue := [] } ∧
    (step k c s (.newview id { qc := some q })).1.view = q.view + 1 ∧
    (step k c s (.newview id { qc := some q })).1.ghost = s.ghost ++ [.adv s.view q.view false] ∧
    (step k c s (.newview id { qc := some q })).2 =
      [.sendNewView (c.leader (q.view + 1)) { qc := some (updHighQC s q nb).highQC }, .viewChange (q.view + 1) false] := by
  let o : Out := .sendNewView (c.leader (q.view + 1)) { qc := some (updHighQC s q nb).highQC }
  let s7 : RState := { jumpedS s q nb with out := [o] }
  have hadv : (advanceView k c { qc := some q }).run { s with out := [], queue := [] } = pure ((), s7) := by
    rw [between_steps s hq ho, advanceView_jump k c s q nb hagg hqc hnb hw, if_neg hl]
    simp [emit, s7, o, jumpedS, updHighQC, ho]
  have hq7 : s7.queue = [.viewChange (q.view + 1) false] := by simp [s7, jumpedS, updHighQC, hq]
  rw [step_tick_quiet k c s s7 _ hq (tick_newview k c rfl hadv)
    (by rw [hq7]; intro e he; simp at he; subst he; rfl) hwv (by rw [hq7]; simp), hq7]
  exact ⟨by simp [s7, jumpedS, updHighQC, ho], rfl, rfl, rfl⟩

section Evaluated
open HsVerif.Props.C01Rule

/-- a block of view 11 = 1 + 10 and one of view 10 (somebody else's chain; the replica has them in its store) -/
def cuX11 : Block := { hash := "X11", parent := "G", view := 11, proposer := 2, qc := genesisQC }
def cuX10 : Block := { hash := "X10", parent := "G", view := 10, proposer := 2, qc := genesisQC }
/-- replica 1 of 4 (chained HotStuff, fixed leader 2, BLS; `nvCfg` of Props/C01Rule.lean) after `Start`: view 1 -/
def cuS : RState :=
  let s := (start nvKeys nvCfg {}).1
  { s with chain := { s.chain with blocks := ("X11", cuX11) :: ("X10", cuX10) :: s.chain.blocks } }
/-- the proposal of view 11 on the certificate of `X10` -/
def cuP11 : Block := { hash := "P11", parent := "X10", view := 11, proposer := 2, qc := nvQC "X10" 10 }

/-- **Ten views behind, new-view message.**  The replica is in view 1, between steps; the certificate of `X11`
(view 11 = 1 + 10, signed by replicas 1, 2, 3 of 4) verifies.  One delivered new-view message (from replica 3) with
that certificate: the replica is in view 12 = 11 + 1, its high QC has view 11, the step's outputs are the new-view
message to leader 2 and ONE view-change signal, `[12]`; its advancement records are `1 → 12`.  (Before the repair:
view 2, and for ever ten views behind.) -/
theorem catch_up_ten_views :
    cuS.view = 1 ∧ cuS.queue = [] ∧ cuS.out = [] ∧ cuS.waitingVC = [] ∧
    verifyQC (env nvKeys nvCfg cuS) (nvQC "X11" 11) = true ∧
    (step nvKeys nvCfg cuS (.newview 3 { qc := some (nvQC "X11" 11) })).1.view = 12 ∧
    (step nvKeys nvCfg cuS (.newview 3 { qc := some (nvQC "X11" 11) })).1.highQC.view = 11 ∧
    vcOuts (step nvKeys nvCfg cuS (.newview 3 { qc := some (nvQC "X11" 11) })).2 = [12] ∧
    ((step nvKeys nvCfg cuS (.newview 3 { qc := some (nvQC "X11" 11) })).1.ghost.filter GRec.isAdv).map
      (fun r => (r.advFrom, r.advTo)) = [(1, 12)] := by
  decide +kernel

set_option maxRecDepth 100000 in
/-- the theorems applied to it: `w = 11`, any sender -/
example (id : Nat) : (step nvKeys nvCfg cuS (.newview id { qc := some (nvQC "X11" 11) })).1.view = 11 + 1 := by
  obtain ⟨hv, hq, ho, hwv, hqc, _⟩ := catch_up_ten_views
  have hk : nvCfg.agg = false ∧ cuS.chain.blocks.lookup (nvQC "X11" 11).hash = some cuX11 ∧
      nvCfg.leader ((nvQC "X11" 11).view + 1) ≠ nvCfg.id := by decide +kernel
  exact (lagging_replica_catches_up_exact nvKeys nvCfg cuS id (nvQC "X11" 11) cuX11 hk.1 hq ho hwv hqc hk.2.1
    (by rw [hv]; decide) hk.2.2).2.1

/-- **Ten views behind, proposal.**  The leader's proposal `P11` of view 11 carries the certificate of `X10` (view
10 = 1 + 9 … the replica is in view 1): one delivered proposal and the replica is in view 11 = 10 + 1, has
signalled `[11]`, and has VOTED for `P11` (its ghost history: left view 1 on a certificate of view 10, then the vote
for the block of view 11 proposed by 2).  (Before the repair: view 2; the proposal of view 11 is "more than 10 views
ahead"… and every later one too: the replica never votes again.) -/
theorem catch_up_on_proposal_ten_views :
    (step nvKeys nvCfg cuS (.propose 2 cuP11 none)).1.view = 11 ∧
    (step nvKeys nvCfg cuS (.propose 2 cuP11 none)).1.lastVoted = 11 ∧
    vcOuts (step nvKeys nvCfg cuS (.propose 2 cuP11 none)).2 = [11] ∧
    (step nvKeys nvCfg cuS (.propose 2 cuP11 none)).1.ghost.map
      (fun g => match g with | .vote b s => (b.view, s, 0) | .tmo v => (v, 0, 1) | .adv f cv _ => (f, cv, 2)) =
      [(1, 10, 2), (11, 2, 0)] := by
  decide +kernel

end Evaluated

end HsVerif.Props.C05CatchUp
