import HsVerif.Props.C01FastLock
import HsVerif.Proofs.FastSys
import HsVerif.Props.C01Ledger
/-! C01, Fast-HotStuff, system layer — THE SYSTEM OF REPLICA MODELS IS SAFE UNDER FAST-HOTSTUFF
(two-chain commit, no lock, aggregate QCs).  Helpers in Proofs/FastSys.lean.

Setting, as in Props/C01Safety.lean: any reachable state `σ` of the system of replica models (Model/Sys.lean),
`KeysOK k`, `1 ≤ C.n`, `FewFaulty C`, ECDSA / EdDSA (`C.scheme ≠ .bls12`), `C.rules = .fast` (any `C.agg`),
`blk : Hash → Block` with content addressing `CA σ blk` (Proofs/SysDiscipline.lean).  The strengthened `CA'`
(no block stored under the empty hash) is NOT needed: it serves the lock invariants of chained / simplified
HotStuff, and Fast-HotStuff has no lock.  The ledger theorems carry the hypothesis `noCommit` as in
Props/C01Ledger.lean and assume `CA` of the FINAL state only. -/
namespace HsVerif.Props.C01FastSys
open HsVerif.Model HsVerif.Props.C01Sys HsVerif.Props.C01SysWF HsVerif.Props.C01Ledger HsVerif.FastSys
  HsVerif.SysLedger HsVerif.Safety

/-- `FastDiscipline S`, unfolded: the five lock-free fields of `Discipline S` and `lockjust` -/
example (S : Sys) : FastDiscipline S ↔
    (S.view S.gen = 0 ∧ S.par S.gen = S.gen ∧
     (∀ Q1 Q2, S.Quorum Q1 → S.Quorum Q2 → ∃ r, Q1 r ∧ Q2 r ∧ S.honest r) ∧
     (∀ r x y, S.honest r → S.voted r x → S.voted r y → S.view x = S.view y → x = y) ∧
     (∀ r w, S.honest r → S.voted r w → GC S (S.par w) ∧ S.view (S.par w) < S.view w) ∧
     (∀ r x w, S.honest r → S.voted r x → S.voted r w → S.view x < S.view w →
        S.view (S.par x) ≤ S.view (S.par w))) :=
  ⟨fun D => ⟨D.gen_view, D.par_gen, D.inter, D.one_per_view, D.wf, D.lockjust⟩,
   fun ⟨h1, h2, h3, h4, h5, h6⟩ => ⟨h1, h2, h3, h4, h5, h6⟩⟩

/-- `TwoChain b0 b1`, unfolded -/
example (S : Sys) (b0 b1 : S.Blk) : TwoChain (S := S) b0 b1 ↔
    (S.par b1 = b0 ∧ S.view b1 = S.view b0 + 1 ∧ Certified S b1) :=
  ⟨fun T => ⟨T.p1, T.v1, T.cert⟩, fun ⟨h1, h2, h3⟩ => ⟨h1, h2, h3⟩⟩

/-- **Core of the safety argument**: under `FastDiscipline`, every certified block of view at least that of
the tail `b0` of a two-chain extends `b0`. -/
theorem fast_certified_extends {S : Sys} (D : FastDiscipline S) {b0 b1 : S.Blk} (T : TwoChain (S := S) b0 b1)
    (w : S.Blk) (hw : Certified S w) (hge : S.view b0 ≤ S.view w) : Ext S w b0 :=
  T.ext D w (Or.inr hw) hge

/-- **Safety of Fast-HotStuff, abstract and untimed**: the tails of two two-chains are on one branch. -/
theorem fast_committed_on_one_branch {S : Sys} (D : FastDiscipline S) {b0 b1 c0 c1 : S.Blk}
    (Tb : TwoChain (S := S) b0 b1) (Tc : TwoChain (S := S) c0 c1) : Ext S b0 c0 ∨ Ext S c0 b0 :=
  HsVerif.Safety.fast_committed_on_one_branch D Tb Tc

/-- **The commit invariant, for EVERY ruleset**: in every reachable system state the block a replica has
committed is genesis or the block the commit rule returned for a block the replica voted for. -/
theorem sys_committed_by_any (k : Keys) (C : SysCfg) (σ : SysState) (hr : Reach k C σ)
    (i : Nat) (s : RState) (hl : σ.reps.lookup i = some s) :
    s.committed = genesisBlock ∨ ∃ x id, GRec.vote x id ∈ s.ghost ∧ CommitChain (C.rcfg i) s x s.committed :=
  reach_committedBy k C σ hr i s hl

/-- **The QC view of a voted block is the view of its abstract parent** (any ruleset): the QC verified
against the replica's store, which `CA` identifies with `blk`. -/
theorem sys_qc_is_parent_view (k : Keys) (C : SysCfg) (hk : KeysOK k) (σ : SysState) (hr : Reach k C σ)
    (blk : Hash → Block) (hca : CA σ blk) (r : Nat) (w : Block) (hv : (SysAbs C σ blk).voted r w) :
    (SysAbs C σ blk).par w = blk w.qc.hash ∧ (SysAbs C σ blk).view ((SysAbs C σ blk).par w) = w.qc.view := by
  obtain ⟨s, id, hs, hm⟩ := hv
  obtain ⟨hp, hq⟩ := voted_qc k C hk σ hr blk hca hs hm
  exact ⟨hp, hp ▸ hq⟩

/-- **`lockjust`** — the field of `FastDiscipline (SysAbs C σ blk)`: an honest Fast-HotStuff replica that
voted for `x` and, in a higher view, for `w` has `view (par x) ≤ view (par w)` (`sys_qcmono`, the order of the
ghost history, and `sys_qc_is_parent_view`). -/
theorem sys_lockjust (k : Keys) (C : SysCfg) (hk : KeysOK k) (σ : SysState) (hr : Reach k C σ)
    (hn : 1 ≤ C.n) (hf : FewFaulty C) (hsch : C.scheme ≠ .bls12) (hrl : C.rules = .fast)
    (blk : Hash → Block) (hca : CA σ blk) :
    ∀ r x w, (SysAbs C σ blk).honest r → (SysAbs C σ blk).voted r x → (SysAbs C σ blk).voted r w →
      (SysAbs C σ blk).view x < (SysAbs C σ blk).view w →
      (SysAbs C σ blk).view ((SysAbs C σ blk).par x) ≤ (SysAbs C σ blk).view ((SysAbs C σ blk).par w) :=
  FCtx.lockjust ⟨hk, hr, hn, hf, hsch, hrl, hca⟩

/-- **The system of Fast-HotStuff replica models keeps the discipline of the abstract argument.** -/
theorem sys_fast_discipline (k : Keys) (C : SysCfg) (hk : KeysOK k) (σ : SysState) (hr : Reach k C σ)
    (hn : 1 ≤ C.n) (hf : FewFaulty C) (hsch : C.scheme ≠ .bls12) (hrl : C.rules = .fast)
    (blk : Hash → Block) (hca : CA σ blk) : FastDiscipline (SysAbs C σ blk) :=
  FCtx.discipline ⟨hk, hr, hn, hf, hsch, hrl, hca⟩

/-- **Safety of the system (Fast-HotStuff)**: any two two-chains (commit conditions) of `SysAbs C σ blk` are
on one branch. -/
theorem sys_fast_safety (k : Keys) (C : SysCfg) (hk : KeysOK k) (σ : SysState) (hr : Reach k C σ)
    (hn : 1 ≤ C.n) (hf : FewFaulty C) (hsch : C.scheme ≠ .bls12) (hrl : C.rules = .fast)
    (blk : Hash → Block) (hca : CA σ blk) {b0 b1 c0 c1 : (SysAbs C σ blk).Blk}
    (Tb : TwoChain (S := SysAbs C σ blk) b0 b1) (Tc : TwoChain (S := SysAbs C σ blk) c0 c1) :
    Ext (SysAbs C σ blk) b0 c0 ∨ Ext (SysAbs C σ blk) c0 b0 :=
  HsVerif.Safety.fast_committed_on_one_branch (sys_fast_discipline k C hk σ hr hn hf hsch hrl blk hca) Tb Tc

/-- **What a Fast-HotStuff replica has committed satisfies the commit condition of the abstract argument**:
it is genesis or the tail of a two-chain of `SysAbs C σ blk` (its child by an abstract parent link has the next
view and is certified — the block the replica voted for carries that child's QC). -/
theorem sys_fast_committed_two_chain (k : Keys) (C : SysCfg) (hk : KeysOK k) (σ : SysState) (hr : Reach k C σ)
    (hn : 1 ≤ C.n) (hf : FewFaulty C) (hsch : C.scheme ≠ .bls12) (hrl : C.rules = .fast)
    (blk : Hash → Block) (hca : CA σ blk) (i : Nat) (s : RState) (hl : σ.reps.lookup i = some s) :
    s.committed = genesisBlock ∨ ∃ b1, TwoChain (S := SysAbs C σ blk) s.committed b1 :=
  FCtx.committed ⟨hk, hr, hn, hf, hsch, hrl, hca⟩ hl

/-- **Committed blocks of any two honest Fast-HotStuff replicas are on one branch.** -/
theorem sys_fast_commits_agree (k : Keys) (C : SysCfg) (hk : KeysOK k) (σ : SysState) (hr : Reach k C σ)
    (hn : 1 ≤ C.n) (hf : FewFaulty C) (hsch : C.scheme ≠ .bls12) (hrl : C.rules = .fast)
    (blk : Hash → Block) (hca : CA σ blk) (i j : Nat) (si sj : RState)
    (hi : σ.reps.lookup i = some si) (hj : σ.reps.lookup j = some sj) :
    Ext (SysAbs C σ blk) si.committed sj.committed ∨ Ext (SysAbs C σ blk) sj.committed si.committed :=
  (FCtx.commit ⟨hk, hr, hn, hf, hsch, hrl, hca⟩).commits_agree hi hj

theorem ca_downward_run (k : Keys) (C : SysCfg) (blk : Hash → Block) (acts more : List SysAct)
    (h : CA (sysRun k C (acts ++ more)) blk) : CA (sysRun k C acts) blk :=
  back_run k C (CA · blk) (fun σ a => ca_back k C σ a blk) acts more h

theorem lctx_run_fast (k : Keys) (C : SysCfg) (hk : KeysOK k) (hn : 1 ≤ C.n) (hf : FewFaulty C)
    (hsch : C.scheme ≠ .bls12) (hrl : C.rules = .fast) (blk : Hash → Block) (acts : List SysAct)
    (hca : CA (sysRun k C acts) blk) :
    ∀ l, l <+: acts → HsVerif.SysSafety.LCtx k C (sysRun k C l) blk (FTip C (sysRun k C l) blk) :=
  fun l ⟨more, e⟩ =>
    FCtx.commit ⟨hk, reach_run k C l, hn, hf, hsch, hrl, ca_downward_run k C blk l more (e ▸ hca)⟩

/-- **Each honest Fast-HotStuff replica's committed sequence is a single hash-linked chain growing from
genesis**, and a commit log of the abstract system. -/
theorem ledger_is_chain_fast (k : Keys) (C : SysCfg) (hk : KeysOK k) (hn : 1 ≤ C.n) (hf : FewFaulty C)
    (hsch : C.scheme ≠ .bls12) (hrl : C.rules = .fast) (blk : Hash → Block) (acts : List SysAct)
    (hacts : ∀ a ∈ acts, a.noCommit = true) (hca : CA (sysRunL k C acts).1 blk) (i : Nat) (hi : i ∈ C.honest) :
    HashChain genesisHash 0 ((sysRunL k C acts).2 i) ∧
    ChainLog (SysAbs C (sysRunL k C acts).1 blk) genesisBlock ((sysRunL k C acts).2 i) := by
  rw [sysRunL_fst] at hca ⊢
  exact ledger_chain (T := fun σ => FTip C σ blk) hacts (lctx_run_fast k C hk hn hf hsch hrl blk acts hca) hi

/-- **The committed sequences of any two honest Fast-HotStuff replicas are prefix-related.** -/
theorem ledgers_prefix_related_fast (k : Keys) (C : SysCfg) (hk : KeysOK k) (hn : 1 ≤ C.n) (hf : FewFaulty C)
    (hsch : C.scheme ≠ .bls12) (hrl : C.rules = .fast) (blk : Hash → Block) (acts : List SysAct)
    (hacts : ∀ a ∈ acts, a.noCommit = true) (hca : CA (sysRunL k C acts).1 blk)
    (i j : Nat) (hi : i ∈ C.honest) (hj : j ∈ C.honest) :
    (sysRunL k C acts).2 i <+: (sysRunL k C acts).2 j ∨ (sysRunL k C acts).2 j <+: (sysRunL k C acts).2 i :=
  ledgers_prefix (T := fun σ => FTip C σ blk) hacts (lctx_run_fast k C hk hn hf hsch hrl blk acts (sysRunL_fst k C acts ▸ hca)) hi hj

/-- **No block is committed twice** (Fast-HotStuff): views strictly increase along a ledger. -/
theorem ledger_nodup_fast (k : Keys) (C : SysCfg) (hk : KeysOK k) (hn : 1 ≤ C.n) (hf : FewFaulty C)
    (hsch : C.scheme ≠ .bls12) (hrl : C.rules = .fast) (blk : Hash → Block) (acts : List SysAct)
    (hacts : ∀ a ∈ acts, a.noCommit = true) (hca : CA (sysRunL k C acts).1 blk) (i : Nat) (hi : i ∈ C.honest) :
    ((sysRunL k C acts).2 i).Pairwise (fun x y => x.view < y.view) ∧ ((sysRunL k C acts).2 i).Nodup :=
  hashChain_nodup _ _ _ (ledger_is_chain_fast k C hk hn hf hsch hrl blk acts hacts hca i hi).1

/-! Non-vacuity.

Four replicas, ids 1, 2, 3 honest, id 4 Byzantine, round-robin leaders (views 1, 2, 3: ids 2, 3, 4), ECDSA,
`rules := .fast, agg := true`; timeout-message keys `fsKeys` of Props/C01FastLock.lean (a plain string
function the kernel evaluates; `fsKeys_ok`: it is never a block key).  With aggregate QCs a plain QC does not end
a view, so views end by timeout certificates:
  * view 1: replica 2 starts, proposes `P1` (genesis QC) and votes; `P1` is delivered to replica 1, which votes;
    the Byzantine id signs a vote for `P1`.  Replicas 1 and 2 time out, the Byzantine id signs the view message:
    the adversary assembles the timeout certificate `fxTC1` and delivers it to replicas 1 and 2 (view 2).
  * view 2: `P2` (QC for `P1`: signers 2, 1, 4; no aggregate QC — the happy path `view = qc.view + 1`) is
    delivered to replicas 1 and 2 in the name of leader 3; both vote; the Byzantine id votes too.  Replicas 1 and
    2 time out reporting the QC for `P1` (they sign the timeout message), the Byzantine id signs the view message
    and a timeout message reporting the QC for `P2`; the adversary assembles `fxTC2` and delivers it to replica 1
    (view 3).
  * view 3: the Byzantine leader 4 proposes `P3` (QC for `P2`) WITH the aggregate QC `fxAgg` of view 2 (reports
    of 1, 2, 4; highest reported QC: the QC for `P2`).  Replica 1 verifies the aggregate QC, checks that `P3`'s QC
    is not below the QC of its earlier votes (`votedQCView = 1 ≤ 2`), votes for `P3` and COMMITS `P1`
    (`P3 —qc→ P2 —qc→ P1`, direct parents, views 3, 2, 1).
Replica 2 has committed nothing but genesis, replica 3 never left the initial state.  Runs evaluated by the kernel
(`decide +kernel`). -/
section NonVacuity
open HsVerif.Props.C01FastLock

theorem fsKeys_ok : KeysOK fsKeys := by
  intro i v q h e
  have := congrArg (fun s => s.toList.head?) e
  simp [fsKeys, blkMsg, toString] at this

def fxCfg : SysCfg :=
  { n := 4, rules := .fast, scheme := .ecdsa, agg := true, leaders := .roundRobin, honest := [1, 2, 3] }
def fxP1 : Block :=
  { hash := "P1", parent := "G", view := 1, proposer := 2, qc := genesisQC, cmds := ["102/1/c1"] }
def fxQC1 : QC := ⟨some (.multi .ecdsa [⟨2, 1⟩, ⟨1, 2⟩, ⟨4, 3⟩]), 1, "P1"⟩
def fxP2 : Block := { hash := "P2", parent := "P1", view := 2, proposer := 3, qc := fxQC1, cmds := [] }
def fxQC2 : QC := ⟨some (.multi .ecdsa [⟨1, 9⟩, ⟨2, 10⟩, ⟨4, 11⟩]), 2, "P2"⟩
def fxP3 : Block := { hash := "P3", parent := "P2", view := 3, proposer := 4, qc := fxQC2, cmds := [] }
def fxTC1 : TC := ⟨some (.multi .ecdsa [⟨1, 4⟩, ⟨2, 6⟩, ⟨4, 8⟩]), 1⟩
def fxTC2 : TC := ⟨some (.multi .ecdsa [⟨1, 12⟩, ⟨2, 14⟩, ⟨4, 16⟩]), 2⟩
/-- the aggregate QC of view 2: replicas 1 and 2 report the QC for `P1`, the Byzantine id the QC for `P2`; the
signatures are those over the three timeout messages -/
def fxAgg : AggQC :=
  ⟨[(1, fxQC1), (2, fxQC1), (4, fxQC2)], some (.multi .ecdsa [⟨1, 13⟩, ⟨2, 15⟩, ⟨4, 17⟩]), 2⟩

/-- "the block with that hash" in the run -/
def fxBlk (h : Hash) : Block :=
  if h = "P1" then fxP1 else if h = "P2" then fxP2 else if h = "P3" then fxP3 else genesisBlock

def fxActs : List SysAct :=
  [.start 2, .deliver 1 (.propose 2 fxP1 none), .forge ⟨4, blkMsg "P1"⟩,
   .deliver 1 (.localTimeout 1), .deliver 2 (.localTimeout 1), .forge ⟨4, viewMsg 1⟩,
   .deliver 1 (.newview 4 { tc := some fxTC1 }), .deliver 2 (.newview 4 { tc := some fxTC1 }),
   .deliver 1 (.propose 3 fxP2 none), .deliver 2 (.propose 3 fxP2 none), .forge ⟨4, blkMsg "P2"⟩,
   .deliver 1 (.localTimeout 2), .deliver 2 (.localTimeout 2), .forge ⟨4, viewMsg 2⟩,
   .forge ⟨4, fsKeys.tmo 4 2 (some fxQC2)⟩,
   .deliver 1 (.newview 4 { tc := some fxTC2 }),
   .deliver 1 (.propose 4 fxP3 (some fxAgg))]
def fxState : SysState := sysRun fsKeys fxCfg fxActs

theorem fx_ok : HsVerif.Props.C01Safety.runOK fsKeys fxCfg fxActs fxBlk [(1, fxP1, 2), (1, fxP2, 3), (1, fxP3, 4)]
    [(1, fxP1, [fxP1]), (2, genesisBlock, []), (3, genesisBlock, [])] = true := by decide +kernel

/-- the hypotheses of `sys_lockjust`, `sys_fast_discipline`, `sys_fast_safety`, `sys_fast_committed_two_chain`
and `sys_fast_commits_agree` hold together of `fxState` (with `CA'`, of which `CA` is the first component), in
which honest replica 1 has voted for `P1`, `P2` and `P3` -/
theorem sys_fast_nonvacuous : KeysOK fsKeys ∧ Reach fsKeys fxCfg fxState ∧ 1 ≤ fxCfg.n ∧ FewFaulty fxCfg ∧
    fxCfg.scheme ≠ .bls12 ∧ fxCfg.rules = .fast ∧ fxCfg.agg = true ∧ CA' fxState fxBlk ∧
    (SysAbs fxCfg fxState fxBlk).honest 1 ∧ (SysAbs fxCfg fxState fxBlk).voted 1 fxP1 ∧
    (SysAbs fxCfg fxState fxBlk).voted 1 fxP2 ∧ (SysAbs fxCfg fxState fxBlk).voted 1 fxP3 :=
  have ⟨hca, hv, _⟩ := HsVerif.Props.C01Safety.runOK_spec fx_ok
  ⟨fsKeys_ok, reach_run _ _ _, by decide, by unfold FewFaulty; decide, by decide, rfl, rfl,
    hca, by decide, hv _ (.head _), hv _ (.tail _ (.head _)), hv _ (.tail _ (.tail _ (.head _)))⟩

theorem fx_committed : (fxState.reps.lookup 1).map (·.committed) = some fxP1 ∧
    (fxState.reps.lookup 2).map (·.committed) = some genesisBlock ∧
    (fxState.reps.lookup 3).map (·.committed) = some genesisBlock :=
  have h := (HsVerif.Props.C01Safety.runOK_spec fx_ok).2.2.1
  ⟨(h _ (.head _)).1, (h _ (.tail _ (.head _))).1, (h _ (.tail _ (.tail _ (.head _)))).1⟩

/-- what `sys_lockjust` says of replica 1's votes for `P2` and `P3`: parent views 1 ≤ 2 -/
example : Block.view ((SysAbs fxCfg fxState fxBlk).par fxP2) ≤ Block.view ((SysAbs fxCfg fxState fxBlk).par fxP3) ∧
    (SysAbs fxCfg fxState fxBlk).par fxP2 = fxP1 ∧ (SysAbs fxCfg fxState fxBlk).par fxP3 = fxP2 := by
  obtain ⟨hk, hr, hn, hf, hs, hrl, _, hca, hh, _, hv2, hv3⟩ := sys_fast_nonvacuous
  exact ⟨sys_lockjust fsKeys fxCfg hk fxState hr hn hf hs hrl fxBlk hca.1 1 fxP2 fxP3 hh hv2 hv3 (by decide),
    by decide, by decide⟩

/-- what `sys_fast_committed_two_chain` and `sys_fast_commits_agree` yield in the run: `P1`, committed by
replica 1, is the tail of a two-chain of the abstract system (NOT the genesis case), and it extends what replica
3 has committed -/
theorem fx_theorems_apply : (∃ b1, TwoChain (S := SysAbs fxCfg fxState fxBlk) fxP1 b1) ∧
    Ext (SysAbs fxCfg fxState fxBlk) fxP1 genesisBlock := by
  obtain ⟨hk, hr, hn, hf, hs, hrl, _, hca, _⟩ := sys_fast_nonvacuous
  obtain ⟨c1, _, c3⟩ := fx_committed
  obtain ⟨s1, h1, e1⟩ := Option.map_eq_some_iff.mp c1
  obtain ⟨s3, h3, e3⟩ := Option.map_eq_some_iff.mp c3
  constructor
  · rcases sys_fast_committed_two_chain fsKeys fxCfg hk fxState hr hn hf hs hrl fxBlk hca.1 1 s1 h1 with h | h
    · rw [e1] at h; exact absurd h (by decide)
    · rw [e1] at h; exact h
  · rcases sys_fast_commits_agree fsKeys fxCfg hk fxState hr hn hf hs hrl fxBlk hca.1 1 3 s1 s3 h1 h3 with h | h
    · rw [e1, e3] at h; exact h
    · rw [e1, e3] at h
      obtain ⟨n, hn'⟩ := h
      rw [up_gen (sys_gen fxCfg fxState fxBlk).2 n] at hn'
      exact absurd hn' (by decide)

theorem fx_ledgers : (sysRunL fsKeys fxCfg fxActs).2 1 = [fxP1] ∧ (sysRunL fsKeys fxCfg fxActs).2 2 = [] ∧
    (sysRunL fsKeys fxCfg fxActs).2 3 = [] ∧ (∀ a ∈ fxActs, a.noCommit = true) :=
  have ⟨_, _, h, ha⟩ := HsVerif.Props.C01Safety.runOK_spec fx_ok
  ⟨(h _ (.head _)).2, (h _ (.tail _ (.head _))).2, (h _ (.tail _ (.tail _ (.head _)))).2, ha⟩

theorem fx_ledger_theorems_apply :
    HashChain genesisHash 0 ((sysRunL fsKeys fxCfg fxActs).2 1) ∧
    ((sysRunL fsKeys fxCfg fxActs).2 3 <+: (sysRunL fsKeys fxCfg fxActs).2 1 ∨
      (sysRunL fsKeys fxCfg fxActs).2 1 <+: (sysRunL fsKeys fxCfg fxActs).2 3) ∧
    ((sysRunL fsKeys fxCfg fxActs).2 1).Nodup := by
  obtain ⟨hk, _, hn, hf, hs, hrl, _, hca, _⟩ := sys_fast_nonvacuous
  have hca' : CA (sysRunL fsKeys fxCfg fxActs).1 fxBlk := by
    have e : (sysRunL fsKeys fxCfg fxActs).1 = fxState := sysRunL_fst fsKeys fxCfg fxActs
    rw [e]; exact hca.1
  have ha := fx_ledgers.2.2.2
  have h1 : 1 ∈ fxCfg.honest := by decide
  have h3 : 3 ∈ fxCfg.honest := by decide
  exact ⟨(ledger_is_chain_fast fsKeys fxCfg hk hn hf hs hrl fxBlk fxActs ha hca' 1 h1).1,
    ledgers_prefix_related_fast fsKeys fxCfg hk hn hf hs hrl fxBlk fxActs ha hca' 3 1 h3 h1,
    (ledger_nodup_fast fsKeys fxCfg hk hn hf hs hrl fxBlk fxActs ha hca' 1 h1).2⟩

end NonVacuity

end HsVerif.Props.C01FastSys
