import HsVerif.Props.C01Sys
/-! C01, system layer — the SYSTEM of replica models (Model/Sys.lean) keeps the voting discipline of
the abstract safety argument (Proofs/Safety.lean `Discipline`), all fields but the lock rule.
Property theorems; the abstraction `SysAbs`, the content addressing hypothesis `CA` and the proofs are in
Proofs/SysDiscipline.lean.

Setting: any reachable state `σ` of the system (honest ids run the replica model against one global
signature table; the adversary schedules, delivers arbitrary events, decides what fetches return
and signs with the Byzantine keys), `blk : Hash → Block` naming the block of each hash, `CA σ blk`.
`sys_safety_of_lock`: whoever supplies the remaining field `lock` gets `Discipline` and with it
"two committed blocks are on one branch".

On the formulation of `CA`: for stored blocks it says `b = blk h ∧ b.hash = h`, not only `b = blk h` —
fetched blocks are stored under the REQUESTED hash, and the verifier checks the signatures over the hash
FIELD of the stored block (`blkMsg b.hash`), so `verifyQC_certifies` needs the store to be keyed by the
blocks' own hashes (`C02.StoreOK`).  For voted blocks there is no clause `b ≠ genesisBlock`: it is a
theorem (`voted_ne_genesis`: a voted block has a positive view). -/
namespace HsVerif.Props.C01SysWF
open HsVerif.Model HsVerif.Props.C01Sys

/-- **Quorum intersection**: with at most `numFaulty n` of the ids `1..n` Byzantine, two quorums of
`SysAbs` share an honest replica. -/
theorem sys_inter (C : SysCfg) (σ : SysState) (blk : Hash → Block) (hn : 1 ≤ C.n) (hf : FewFaulty C) :
    ∀ Q1 Q2, (SysAbs C σ blk).Quorum Q1 → (SysAbs C σ blk).Quorum Q2 →
      ∃ r, Q1 r ∧ Q2 r ∧ (SysAbs C σ blk).honest r :=
  sysAbs_inter C σ blk hn hf

/-- **One vote per view**: two blocks of equal view an honest replica voted for are equal. -/
theorem sys_one_per_view (k : Keys) (C : SysCfg) (hk : KeysOK k) (σ : SysState) (hr : Reach k C σ)
    (blk : Hash → Block) :
    ∀ r x y, (SysAbs C σ blk).honest r → (SysAbs C σ blk).voted r x → (SysAbs C σ blk).voted r y →
      (SysAbs C σ blk).view x = (SysAbs C σ blk).view y → x = y :=
  sysAbs_one_per_view k C hk σ hr blk

/-- **Votes are well formed**: the parent of a block an honest replica voted for is genesis or
certified, and has a lower view.  (The block's certificate names the parent by hash and view (`voted_qc`), and its
view is below the block's (C03); `Cur`: it verifies against the replica's table, which is part of the global one;
a genesis certificate makes the parent genesis; any other accepted certificate carries a quorum of genuine
signatures over the parent's hash (`verifyQC_certifies`), hence `sys_certified_of_table`.) -/
theorem sys_wf (k : Keys) (C : SysCfg) (hk : KeysOK k) (σ : SysState) (hr : Reach k C σ)
    (hsch : C.scheme ≠ .bls12) (blk : Hash → Block) (hca : CA σ blk) :
    ∀ r w, (SysAbs C σ blk).honest r → (SysAbs C σ blk).voted r w →
      HsVerif.Safety.GC (SysAbs C σ blk) ((SysAbs C σ blk).par w) ∧
      (SysAbs C σ blk).view ((SysAbs C σ blk).par w) < (SysAbs C σ blk).view w :=
  sysAbs_wf k C hk σ hr hsch blk hca

/-- **Safety of the system, given the lock rule**: any two three-chains (commit conditions) of
`SysAbs C σ blk` are on one branch. -/
theorem sys_safety_of_lock (k : Keys) (C : SysCfg) (hk : KeysOK k) (σ : SysState) (hr : Reach k C σ)
    (hn : 1 ≤ C.n) (hf : FewFaulty C) (hsch : C.scheme ≠ .bls12) (blk : Hash → Block) (hca : CA σ blk)
    (lock : ∀ r x w, (SysAbs C σ blk).honest r → (SysAbs C σ blk).voted r x → (SysAbs C σ blk).voted r w →
      (SysAbs C σ blk).view x < (SysAbs C σ blk).view w →
      ∃ l, HsVerif.Safety.GC (SysAbs C σ blk) l ∧
        (SysAbs C σ blk).view ((SysAbs C σ blk).par ((SysAbs C σ blk).par x)) ≤ (SysAbs C σ blk).view l ∧
        (SysAbs C σ blk).view l < (SysAbs C σ blk).view w ∧
        ((SysAbs C σ blk).view l < (SysAbs C σ blk).view ((SysAbs C σ blk).par w) ∨
          HsVerif.Safety.Ext (SysAbs C σ blk) w l))
    {b b' b'' c c' c'' : (SysAbs C σ blk).Blk}
    (Tb : HsVerif.Safety.ThreeChain (S := SysAbs C σ blk) b b' b'')
    (Tc : HsVerif.Safety.ThreeChain (S := SysAbs C σ blk) c c' c'') :
    HsVerif.Safety.Ext (SysAbs C σ blk) b c ∨ HsVerif.Safety.Ext (SysAbs C σ blk) c b :=
  HsVerif.Safety.committed_on_one_branch
    { gen_view := (sys_gen C σ blk).1, par_gen := (sys_gen C σ blk).2,
      inter := sys_inter C σ blk hn hf,
      one_per_view := sys_one_per_view k C hk σ hr blk,
      wf := sys_wf k C hk σ hr hsch blk hca,
      lock := lock } Tb Tc

/-! Non-vacuity.  (a) The run `exState` of Props/C01Sys.lean (ids 1, 2, 3 honest, id 4 Byzantine;
the leader of view 1 proposes `P1` on the genesis certificate, everybody votes): the hypotheses of
`sys_wf` hold together, for replica 1 and its vote for `P1`.  (b) The run continued: the three
votes for `P1` are delivered to replica 3, the leader of view 2, which assembles the certificate,
advances and proposes and votes for `P2` — a vote whose certificate is NOT the genesis certificate,
so `sys_wf` goes through `verifyQC_certifies` and `sys_certified_of_table`; its conclusion makes
`P1` a certified block of the abstract system.  Runs evaluated by the kernel (`decide +kernel`). -/
section NonVacuity

def wfBlock2 : Block :=
  { hash := "P2", parent := "P1", view := 2, proposer := 3,
    qc := ⟨some (.multi .ecdsa [⟨3, 4⟩, ⟨1, 3⟩, ⟨2, 1⟩]), 1, "P1"⟩, cmds := ["103/1/c1"] }

/-- "the block with that hash" in both runs -/
def wfBlk (h : Hash) : Block := if h = "P1" then exBlock else if h = "P2" then wfBlock2 else genesisBlock

def wfActs : List SysAct :=
  exActs ++
  [.deliver 3 (.vote 1 (some (.multi .ecdsa [⟨1, 3⟩])) "P1" false),
   .deliver 3 (.vote 2 (some (.multi .ecdsa [⟨2, 1⟩])) "P1" false),
   .deliver 3 (.vote 3 (some (.multi .ecdsa [⟨3, 4⟩])) "P1" false)]
def wfState : SysState := sysRun exKeys exCfg wfActs

theorem voted_of_votedCheck (C : SysCfg) (σ : SysState) (blk : Hash → Block) (r : Nat) (w : Block) (id : Nat)
    (h : votedCheck σ r w id = true) : (SysAbs C σ blk).voted r w :=
  have ⟨s, hl, hm⟩ := votedCheck_spec σ r w id h
  ⟨s, id, hl, hm⟩

theorem ca_voted_of_check (C : SysCfg) (σ : SysState) (blk : Hash → Block) (r : Nat) (w : Block) (id : Nat)
    (h : (caCheck σ blk && votedCheck σ r w id) = true) : CA σ blk ∧ (SysAbs C σ blk).voted r w :=
  ⟨ca_of_caCheck σ blk (Bool.and_eq_true_iff.mp h).1, voted_of_votedCheck C σ blk r w id (Bool.and_eq_true_iff.mp h).2⟩

set_option maxRecDepth 100000 in
example : KeysOK exKeys ∧ Reach exKeys exCfg exState ∧ 1 ≤ exCfg.n ∧ FewFaulty exCfg ∧ exCfg.scheme ≠ .bls12 ∧
    CA exState wfBlk ∧ (SysAbs exCfg exState wfBlk).honest 1 ∧ (SysAbs exCfg exState wfBlk).voted 1 exBlock :=
  have h := ca_voted_of_check exCfg exState wfBlk 1 exBlock 2 (by decide +kernel)
  ⟨tmoMsgKey_ne_blkMsg, reach_run _ _ _, by decide, by unfold FewFaulty; decide, by decide, h.1, by decide, h.2⟩

/-- run (b): the hypotheses of `sys_wf` (and of `sys_safety_of_lock`, bar the lock rule) hold
together, for replica 3 and its vote for `P2`, whose certificate is not the genesis certificate -/
theorem sys_wf_nonvacuous : KeysOK exKeys ∧ Reach exKeys exCfg wfState ∧ 1 ≤ exCfg.n ∧ FewFaulty exCfg ∧ exCfg.scheme ≠ .bls12 ∧
    CA wfState wfBlk ∧ (SysAbs exCfg wfState wfBlk).honest 3 ∧ (SysAbs exCfg wfState wfBlk).voted 3 wfBlock2 ∧
    wfBlock2.qc.hash ≠ genesisHash :=
  have h := ca_voted_of_check exCfg wfState wfBlk 3 wfBlock2 3 (by decide +kernel)
  ⟨tmoMsgKey_ne_blkMsg, reach_run _ _ _, by decide, by unfold FewFaulty; decide, by decide, h.1, by decide, h.2, by decide⟩

/-- what `sys_wf` yields in run (b): `P1`, the parent of `P2`, is a certified block -/
example : HsVerif.Safety.Certified (SysAbs exCfg wfState wfBlk) exBlock := by
  obtain ⟨hk, hr, _, _, hs, hca, hh, hv, _⟩ := sys_wf_nonvacuous
  have hp : (SysAbs exCfg wfState wfBlk).par wfBlock2 = exBlock := by decide
  rcases (sys_wf exKeys exCfg hk wfState hr hs wfBlk hca 3 wfBlock2 hh hv).1 with h | h
  · rw [hp] at h; exact absurd h (by decide)
  · rw [hp] at h; exact h

end NonVacuity

end HsVerif.Props.C01SysWF
