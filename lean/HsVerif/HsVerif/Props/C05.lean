import HsVerif.Proofs.ReplicaFrames
import HsVerif.Props.C04
import HsVerif.Props.C08
/-! C05 — progress resumes once a quorum is synchronous.  Property theorems (partial).

Liveness of the whole system under timing assumptions is not a Lean theorem (timers, scheduling
and message delay live in the runtime); the fault-free synchronous run and the recovery by timeouts
of the system of replica models are in Props/C05Live.lean, C05Chain.lean and C05Rotate.lean.  What
is proved here, for every state and input, are the logical steps every progress argument rests on:
(1) the synchronizer always leaves a view on an accepted certificate for that or a later view;
(2) the message that completes a quorum of timeouts of one view makes the collector hand out that
view's messages (a corollary of `C08.collector_exact`; that they make a verifying certificate is
`C08.tc_verifies`); (3) the vote functions of `Model.Rules`, which the replica's `voteRule` calls,
never refuse a well-formed proposal built on a known certified block above the lock; and the negative result
(4): under the aggregate timeout rule a plain QC refreshes the high QC but cannot move the view
(since `fix:` 4f3d40f; before, it was ignored altogether).  The end-to-end claim is judged on the real replicas
by the `clusterlive` oracle. -/
namespace HsVerif.Props.C05
open HsVerif.Model HsVerif.Proofs

/-- **(1) Synchronizer progress.**  If `verifySyncInfo` accepts `si` in state `s` with certified
view `w` and `w` is at least the current view, `advanceView` ends in view `w + 1` — the view after the
certificate's (`EnterViewAfter`), which is at least `s.view + 1`. -/
theorem view_moves_on_accepted_certificate (k : Keys) (c : RCfg) (si : SyncInfo) (s : RState) (w : Nat)
    (ha : Accepts k c si s w) (hw : s.view ≤ w) :
    ((advanceView k c si).run s).2.view = w + 1 ∧ s.view + 1 ≤ ((advanceView k c si).run s).2.view := by
  have := run_res_of_triple (advanceView k c si) (fun s' => s'.view = s.view ∧ Accepts k c si s' w)
    (fun _ s' => s'.view = w + 1) (advanceView_progress k c si s.view w hw) s ⟨rfl, ha⟩
  exact ⟨this, by rw [this]; omega⟩

/-- **(2) A quorum of timeouts of one view yields the certificate material** (restating C08's
`collector_exact`): the message that completes `q` messages of its view makes the collector hand
out exactly the messages of that view. -/
theorem timeout_quorum_completes (q : Nat) (ts : List TimeoutMsg) (t : TimeoutMsg)
    (hk : HsVerif.Props.C08.Keyed ts) (hnew : ¬ ∃ x ∈ ts, x.view = t.view ∧ x.id = t.id)
    (hq : q ≤ (HsVerif.Props.C08.ofView (ts ++ [t]) t.view).length) :
    (collectorAdd q ts t).2 = some (HsVerif.Props.C08.ofView (ts ++ [t]) t.view) := by
  have := (HsVerif.Props.C08.collector_exact q ts t hk hnew).1 hq
  rw [this]

open HsVerif.Model.Rules HsVerif.Spec.Rules in
/-- **(3a) chained HotStuff**: a proposal whose certified block is known, higher than the lock, and
whose own certified block is known (or absent) is voted for — the liveness branch of `safeNode`. -/
theorem chained_votes_above_lock (s : HsVerif.Model.Rules.Store) (lock b j : HsVerif.Model.Rules.Block)
    (hj : s b.qcHash = some j) (hv : j.view > lock.view)
    (hk : j.qcHash = 0 ∨ (s j.qcHash).isSome = true) : chainedVote s lock b = true := by
  unfold chainedVote bcGet
  rw [hj]
  simp only
  have hno : ¬(j.qcHash ≠ 0 ∧ (s j.qcHash).isNone = true) := by
    rintro ⟨h0, hn⟩
    rcases hk with h | h
    · exact h0 h
    · cases hs : s j.qcHash with
      | none => simp [hs] at h
      | some _ => simp [hs] at hn
  rw [if_neg hno, if_pos hv]

open HsVerif.Model.Rules HsVerif.Spec.Rules in
/-- **(3b) simplified HotStuff**: a proposal for the current or a later view whose parent is known,
not below the lock, and whose grandparent is known is voted for. -/
theorem simple_votes_at_or_above_lock (s : HsVerif.Model.Rules.Store) (locked b p : HsVerif.Model.Rules.Block) (cur : Nat)
    (hcur : b.view ≥ cur) (hp : s b.qcHash = some p) (hv : p.view ≥ locked.view)
    (hk : p.qcHash = 0 ∨ (s p.qcHash).isSome = true) : simpleVote s locked cur b = true := by
  rw [HsVerif.Props.C04.simple_vote_eq_spec]
  refine ⟨⟨hcur, p, hp, hv⟩, ?_⟩
  intro j hj
  unfold justified at hj
  rw [hp] at hj; cases hj; exact hk

open HsVerif.Model.Rules HsVerif.Spec.Rules in
/-- **(3c) Fast-HotStuff, happy path**: a proposal for the current or a later view that directly
follows its certified block's view is voted for. -/
theorem fast_votes_next_view (s : HsVerif.Model.Rules.Store) (b : HsVerif.Model.Rules.Block) (cur : Nat)
    (hcur : b.view ≥ cur) (hn : b.view = b.qcView + 1) : fastVote s cur b false = true :=
  (HsVerif.Props.C04.fast_vote_plain_eq_spec s cur b).2 ⟨hn, hcur⟩

/-- **(4) The aggregate timeout rule and plain quorum certificates** (as repaired by `fix:` 4f3d40f;
before, the answer was `ok (none, 0, false)` whatever the certificate, so the high QC of a
Fast-HotStuff replica never moved and a Byzantine leader could fork below voted blocks —
corpus/cluster/02): a sync info that carries only a quorum certificate is rejected when the
certificate does not verify, and otherwise accepted with THAT certificate as high-QC candidate and
certified view 0 — it refreshes the high QC but, every current view being at least 1, cannot move
the view (the repository's TestAdvanceView demands the latter). -/
theorem aggregate_rule_plain_qc (k : Keys) (c : RCfg) (hc : c.agg = true) (q : QC) (s : RState) :
    ((verifySyncInfo k c { qc := some q, tc := none, agg := none }).run s).1 =
      if ((verifyQCM k c q).run s).1 = true then VRes.ok (some q, 0, false) else VRes.reject := by
  simp only [verifySyncInfo, hc, StateT.run, pure, bind, StateT.bind, if_true]
  split
  next a s' heq =>
    have h1 : (verifyQCM k c q s).fst = a := by rw [heq]
    simp only [h1]
    cases a <;> rfl

end HsVerif.Props.C05
