import HsVerif.Proofs.Twins
/-! C18 — the Twins tester enumerates what it announces and reports divergence faithfully.
Model in `Model/Twins.lean` (the generator as repaired by
fixes/C18-generator-last.diff), helper lemmas in `Proofs/Twins.lean`. -/
namespace HsVerif.Props.C18
open HsVerif.Model.Twins

/-- the scenarios among the results of successive `NextScenario` calls (`none` = `io.EOF`) -/
def delivered (rs : List (Option Scenario)) : List Scenario := rs.filterMap id

/-- offsets as `NewGenerator` (all 0, alphabet non-empty) or `Shuffle` (`Intn(len)`) leave them -/
def OffsetsOK (g : Gen) : Prop := g.offsets.length = g.views ∧ ∀ o ∈ g.offsets, o < g.lp.length

/-- `generator_complete`, call by call: for every alphabet (any size `L`, also 0) and every number
of views `V` (also 0), call number `c` (0-based) of a fresh generator returns the scenario selected
by the base-`L` digits of `c` as long as `c < L^V` and the end marker from then on — forever, with
no other outcome; `Remaining()` counts down from the announced `L^V` to 0 and never below. -/
theorem generator_complete (g : Gen) (h : Fresh g) (k : Nat) :
    (g.run k).2 = (List.range k).map (fun c => if c < g.total then some (scenarioAt g c) else none) ∧
    (g.run k).1.remaining = ((g.total - min k g.total : Nat) : Int) ∧
    ((g.run k).1.done = true ↔ g.total ≤ k) := by
  have hr := run_stateAt g k 0
  rw [fresh_stateAt g h] at hr
  simp only [Nat.zero_add] at hr
  rw [hr]
  refine ⟨rfl, ?_, by simp [stateAt]⟩
  simp only [stateAt]
  omega

/-- what a fresh generator announces is `L^V` -/
theorem announced (g : Gen) (h : Fresh g) : g.remaining = ((g.lp.length ^ g.views : Nat) : Int) := h.rem

theorem delivered_range (f : Nat → Scenario) (N k : Nat) :
    delivered ((List.range k).map fun c => if c < N then some (f c) else none) = (List.range (min k N)).map f := by
  induction k with
  | zero => simp [delivered]
  | succ k ih =>
    unfold delivered at ih ⊢
    rw [List.range_succ, List.map_append, List.filterMap_append, ih]
    by_cases hk : k < N
    · have : min (k + 1) N = min k N + 1 := by omega
      rw [this, List.range_succ, List.map_append]
      have hm : min k N = k := by omega
      simp [hk, hm]
    · have : min (k + 1) N = min k N := by omega
      rw [this]
      simp [hk]

/-- `generator_complete`, the whole stream: however many calls are made (at least `L^V`), the
scenarios delivered are exactly the `L^V` announced ones — `allSeq`, i.e. scenario number `c`
for `c = 0 … L^V-1` in this (odometer) order — no fewer and no more. -/
theorem generator_delivers_announced (g : Gen) (h : Fresh g) (k : Nat) (hk : g.total ≤ k) :
    delivered (g.run k).2 = allSeq g.lp emptyView g.views g.offsets ∧
    ((delivered (g.run k).2).length : Int) = g.remaining := by
  have h1 := (generator_complete g h k).1
  have h2 := delivered_range (scenarioAt g) g.total k
  rw [← h1] at h2
  have hm : min k g.total = g.total := by omega
  rw [hm] at h2
  refine ⟨h2, ?_⟩
  rw [h2, h.rem]
  simp [Gen.total]

/-- the odometer visits every index tuple exactly once: the index tuples of calls `0 … L^V-1`
are pairwise different, and every tuple of `V` indices below `L` is among them. -/
theorem odometer_enumerates (L V : Nat) :
    ((List.range (L ^ V)).map (digits L V)).Nodup ∧
    ∀ t : List Nat, (t.length = V ∧ ∀ d ∈ t, d < L) ↔ t ∈ (List.range (L ^ V)).map (digits L V) := by
  refine ⟨nodup_map_on (fun c hc c' hc' => digits_inj (List.mem_range.1 hc) (List.mem_range.1 hc')) List.nodup_range,
    fun t => ?_⟩
  simp only [List.mem_map, List.mem_range]
  constructor
  · rintro ⟨h1, h2⟩
    exact exists_digits h1 h2
  · rintro ⟨c, hc, rfl⟩
    exact ⟨digits_length _ _ _, digits_lt _ _ _ hc⟩

/-- every delivered scenario has `V` views, each taken from the alphabet (so the `getD` default of
the model — where Go would index out of range — is never observed), and conversely every sequence
of `V` views of the alphabet is delivered. -/
theorem delivered_iff (g : Gen) (ho : OffsetsOK g) (s : Scenario) :
    s ∈ allSeq g.lp emptyView g.views g.offsets ↔ s.length = g.views ∧ ∀ v ∈ s, v ∈ g.lp :=
  mem_allSeq g.lp emptyView g.views g.offsets ho.1 ho.2 s

/-- no repetition: if the alphabet has no repeated view, no scenario is delivered twice. -/
theorem generator_no_repetition (g : Gen) (ho : OffsetsOK g) (hn : g.lp.Nodup) :
    (allSeq g.lp emptyView g.views g.offsets).Nodup :=
  allSeq_nodup g.lp emptyView g.views g.offsets hn ho.1 ho.2

/-- determinism: the result sequence is a function of alphabet, view count and offsets alone. -/
theorem generator_deterministic (g g' : Gen) (h : Fresh g) (h' : Fresh g')
    (e1 : g.lp = g'.lp) (e2 : g.views = g'.views) (e3 : g.offsets = g'.offsets) (k : Nat) :
    (g.run k).2 = (g'.run k).2 := by
  rw [(generator_complete g h k).1, (generator_complete g' h' k).1]
  unfold Gen.total scenarioAt
  rw [e1, e2, e3]

/-- `NewGenerator` returns a fresh generator with valid offsets (when the alphabet is not empty). -/
theorem newGenerator_fresh (n t k v : Nat) : Fresh (newGenerator n t k v) := by
  constructor <;> simp [newGenerator, Gen.ofAlphabet]

theorem newGenerator_offsets (n t k v : Nat) (h : (alphabet n t k) ≠ []) : OffsetsOK (newGenerator n t k v) := by
  constructor
  · simp [newGenerator, Gen.ofAlphabet]
  · intro o ho
    simp only [newGenerator, Gen.ofAlphabet, List.mem_replicate] at ho ⊢
    rw [ho.2]
    exact List.length_pos_iff.2 h

theorem shuffle_eq (g : Gen) (perm offs : List Nat) (hp : perm.Perm (List.range g.lp.length)) (hne : g.lp ≠ []) :
    g.shuffle perm offs = { g with lp := perm.map (g.lp.getD · emptyView),
                                   offsets := (List.range g.offsets.length).map (offs.getD · 0) } := by
  have he : g.lp.isEmpty = false := by simpa using hne
  simp only [Gen.shuffle, he, Bool.false_eq_true, ↓reduceIte]
  rw [filterMap_getElem?_eq_map g.lp emptyView perm fun j hj => List.mem_range.1 (hp.mem_iff.1 hj)]

theorem shuffle_lp_perm (g : Gen) (perm offs : List Nat) (hp : perm.Perm (List.range g.lp.length)) :
    (g.shuffle perm offs).lp.Perm g.lp := by
  by_cases hne : g.lp = []
  · simp [Gen.shuffle, hne]
  · rw [shuffle_eq g perm offs hp hne]
    exact (hp.map _).trans (.of_eq (range_map_getD g.lp emptyView))

/-- a shuffled fresh generator is a fresh generator: it announces and delivers `L^V` again. -/
theorem shuffle_fresh (g : Gen) (h : Fresh g) (perm offs : List Nat) (hp : perm.Perm (List.range g.lp.length)) :
    Fresh (g.shuffle perm offs) := by
  have hl := (shuffle_lp_perm g perm offs hp).length_eq
  have hf : (g.shuffle perm offs).indices = g.indices ∧ (g.shuffle perm offs).views = g.views ∧
      (g.shuffle perm offs).remaining = g.remaining ∧ (g.shuffle perm offs).done = g.done := by
    unfold Gen.shuffle; split <;> exact ⟨rfl, rfl, rfl, rfl⟩
  exact ⟨by rw [hf.1, hf.2.1]; exact h.idx, by rw [hf.2.2.1, hl, hf.2.1]; exact h.rem,
    by rw [hf.2.2.2, hl, hf.2.1]; exact h.fin⟩

theorem shuffle_offsets (g : Gen) (ho : g.offsets.length = g.views) (perm offs : List Nat)
    (hp : perm.Perm (List.range g.lp.length)) (hne : g.lp ≠ []) (hoffs : ∀ o ∈ offs, o < g.lp.length) :
    OffsetsOK (g.shuffle perm offs) := by
  rw [shuffle_eq g perm offs hp hne]
  refine ⟨by simp [ho], fun o hmem => ?_⟩
  simp only [List.mem_map] at hmem
  obtain ⟨i, _, rfl⟩ := hmem
  simp only [List.length_map, hp.length_eq, List.length_range, List.getD_eq_getElem?_getD]
  cases h : offs[i]? with
  | none => exact List.length_pos_iff.2 hne
  | some o => exact hoffs o (List.mem_of_getElem? h)

/-- `shuffle_perm`: whatever permutation of the alphabet `rand.Shuffle` produced and whatever
offsets below `L` `Intn` returned, the stream of the shuffled generator is a permutation of the
stream of the unshuffled one (no hypothesis on the alphabet: repeated views are allowed). -/
theorem shuffle_perm (lp : List View) (V : Nat) (nodes : List NodeID) (perm offs : List Nat)
    (hp : perm.Perm (List.range lp.length)) (hoffs : ∀ o ∈ offs, o < lp.length)
    (g₀ g₁ : Gen) (hg₀ : g₀ = Gen.ofAlphabet lp V nodes) (hg₁ : g₁ = g₀.shuffle perm offs) :
    (allSeq g₁.lp emptyView g₁.views g₁.offsets).Perm (allSeq g₀.lp emptyView g₀.views g₀.offsets) := by
  subst hg₀ hg₁
  by_cases hne : lp = []
  · rw [show (Gen.ofAlphabet lp V nodes).shuffle perm offs = Gen.ofAlphabet lp V nodes by
      simp [Gen.shuffle, Gen.ofAlphabet, hne]]
  · have hL : 0 < lp.length := List.length_pos_iff.2 hne
    obtain ⟨hlen, hlt⟩ := shuffle_offsets (Gen.ofAlphabet lp V nodes) (by simp [Gen.ofAlphabet]) perm offs hp hne hoffs
    rw [shuffle_eq _ perm offs hp hne] at hlen hlt ⊢
    have h0 : Digits (List.range lp.length).length (List.replicate V 0) := fun o ho => by
      rw [(List.mem_replicate.1 ho).2, List.length_range]; exact hL
    -- both streams are images, under `lp.getD`, of streams over the positions: `perm` and `range L`
    have e0 := allSeq_map (lp.getD · emptyView) (List.range lp.length) 0 emptyView V (List.replicate V 0) h0
    rw [range_map_getD] at e0
    simp only [Gen.ofAlphabet] at hlen hlt ⊢
    rw [List.length_map, hp.length_eq] at hlt
    rw [allSeq_map (lp.getD · emptyView) perm 0 emptyView V _ (by rw [hp.length_eq]; exact hlt), e0]
    exact List.Perm.map (·.map (lp.getD · emptyView)) (allSeq_perm hp List.nodup_range 0 V _ _ (by simp) hlen h0 hlt)

/-- the configured node identities for (NumNodes, NumTwins): replicas `1 … min(n,t)` run as two
twins each, replicas `min(n,t)+1 … n` as one node -/
def configured (n t : Nat) : List NodeID := cfgTwins 1 (min n t) ++ cfgNodes (1 + min n t) (n - min n t)

theorem assign_configured (n t : Nat) :
    (assignNodeIDs n t).2 ++ (assignNodeIDs n t).1 = configured n t ∧
    (∀ nd, nd ∈ (assignNodeIDs n t).1 ↔ nd.tid = 0 ∧ min n t < nd.rid ∧ nd.rid ≤ n) ∧
    (∀ nd, nd ∈ (assignNodeIDs n t).2 ↔ (nd.tid = 1 ∨ nd.tid = 2) ∧ 1 ≤ nd.rid ∧ nd.rid ≤ min n t) := by
  rw [assign_spec]
  refine ⟨rfl, fun nd => ?_, fun nd => ?_⟩
  · rw [mem_cfgNodes]; constructor <;> rintro ⟨h1, h2, h3⟩ <;> exact ⟨h1, by omega, by omega⟩
  · rw [mem_cfgTwins]; constructor <;> rintro ⟨h1, h2, h3⟩ <;> exact ⟨h1, by omega, by omega⟩

/-- the leader of every view of the alphabet is a configured replica (one that runs without a
twin), for all settings. -/
theorem leader_configured (n t k : Nat) (v : View) (hv : v ∈ alphabet n t k) :
    min n t < v.leader ∧ v.leader ≤ n := by
  unfold alphabet at hv
  simp only [List.mem_flatMap, List.mem_map] at hv
  obtain ⟨p, _, nd, hnd, rfl⟩ := hv
  have := ((assign_configured n t).2.1 nd).1 hnd
  exact ⟨this.2.1, this.2.2⟩

/-- a view in which every configured node, both twins of a pair included, is in exactly one of the
`k` partitions, the partitions hold nothing else, and the leader is a configured replica -/
def WellFormed (n t k : Nat) (v : View) : Prop :=
  v.partitions.length = k ∧
  (∀ nd ∈ configured n t, (v.partitions.filter fun p => decide (nd ∈ p)).length = 1) ∧
  (∀ p ∈ v.partitions, p.Nodup ∧ ∀ nd ∈ p, nd ∈ configured n t) ∧
  1 ≤ v.leader ∧ v.leader ≤ n

/-- the partition scenarios of a setting, as `NewGenerator` asks for them -/
def scenarios (n t k : Nat) : List (List NodeSet) :=
  genPartitionScenarios (assignNodeIDs n t).2 (assignNodeIDs n t).1 k 1

theorem alphabet_eq (n t k : Nat) : alphabet n t k =
    (scenarios n t k).flatMap fun p => (assignNodeIDs n t).1.map fun nd => ⟨nd.rid, p⟩ := rfl

/-- the leaders of one scenario are different replicas, so views repeat only if scenarios do -/
theorem alphabet_nodup (n t k : Nat) (h : (scenarios n t k).Nodup) : (alphabet n t k).Nodup := by
  rw [alphabet_eq, assign_spec]
  unfold List.Nodup
  rw [List.pairwise_flatMap]
  refine ⟨fun p _ => ?_, h.imp fun hne x hx y hy e => ?_⟩
  · simp only [cfgNodes, List.map_map]
    refine nodup_map_on (fun i _ j _ e => ?_) List.nodup_range
    simp only [Function.comp, View.mk.injEq] at e
    omega
  · simp only [List.mem_map] at hx hy
    obtain ⟨_, _, rfl⟩ := hx
    obtain ⟨_, _, rfl⟩ := hy
    exact hne (View.mk.inj e).2

/-- a number per scenario. Different numbers can only come from different scenarios, so `Nodup` of
the numbers (cheap for the kernel) gives `Nodup` of the scenarios, and nothing about `code` has to
be proved. -/
def code (p : List NodeSet) : Nat :=
  p.foldl (fun c q => 32 * q.foldl (fun c x => 32 * c + (4 * x.rid + x.tid + 1)) c) 1

def settingOK (n t k : Nat) : Bool :=
  distinct (· == ·) (configured n t) && distinct Nat.beq ((scenarios n t k).map code) &&
    (scenarios n t k).all fun p => p.length == k && p.flatten.isPerm (configured n t)

theorem wellformed_of_settingOK (n t k : Nat) (h : settingOK n t k = true) :
    (alphabet n t k).Nodup ∧ ∀ v ∈ alphabet n t k, WellFormed n t k v := by
  simp only [settingOK, Bool.and_eq_true, List.all_eq_true, beq_iff_eq, List.isPerm_iff] at h
  obtain ⟨⟨hc, hs⟩, hp⟩ := h
  refine ⟨alphabet_nodup n t k (nodup_of_map code (nodup_of_distinct Nat.beq_refl hs)), fun v hv => ?_⟩
  have hl := leader_configured n t k v hv
  rw [alphabet_eq] at hv
  simp only [List.mem_flatMap, List.mem_map] at hv
  obtain ⟨p, hps, _, _, rfl⟩ := hv
  obtain ⟨hk, hperm⟩ := hp p hps
  have hnd : p.flatten.Nodup := hperm.nodup_iff.2 (nodup_of_distinct (fun _ => BEq.rfl) hc)
  refine ⟨hk, fun nd hm => filter_mem_length nd p hnd (hperm.mem_iff.2 hm), fun q hq => ?_, by omega, hl.2⟩
  exact ⟨(List.sublist_flatten_of_mem hq).nodup hnd, fun nd hm => hperm.mem_iff.1 (List.mem_flatten.2 ⟨q, hq, hm⟩)⟩

theorem table_ok :
    ((List.range 6).all fun n => (List.range 3).all fun t => (List.range 4).all fun k => settingOK n t k) = true := by
  decide +kernel

/-- `scenario_wellformed` on the complete table of the property's bound (1–5 nodes, 0–2 twin pairs,
1–3 partitions): every view of the alphabet is well formed and the alphabet has no repeated view. -/
theorem alphabet_wellformed (n t k : Nat) (hn : 1 ≤ n ∧ n ≤ 5) (ht : t ≤ 2) (hk : 1 ≤ k ∧ k ≤ 3) :
    (alphabet n t k).Nodup ∧ ∀ v ∈ alphabet n t k, WellFormed n t k v := by
  have h := table_ok
  simp only [List.all_eq_true, List.mem_range] at h
  exact wellformed_of_settingOK n t k (h n (by omega) t (by omega) k (by omega))

/-- `scenario_wellformed`: for every setting of the bound and any number of views, every scenario
the generator delivers — unshuffled or shuffled with any permutation / offsets — consists of
well-formed views only, and no scenario is delivered twice. -/
theorem scenario_wellformed (n t k V : Nat) (hn : 1 ≤ n ∧ n ≤ 5) (ht : t ≤ 2) (hk : 1 ≤ k ∧ k ≤ 3)
    (g : Gen) (hg : g = newGenerator n t k V ∨
      ∃ perm offs, perm.Perm (List.range (alphabet n t k).length) ∧ (∀ o ∈ offs, o < (alphabet n t k).length) ∧
        g = (newGenerator n t k V).shuffle perm offs) :
    (∀ s ∈ allSeq g.lp emptyView g.views g.offsets, ∀ v ∈ s, WellFormed n t k v) ∧
    (allSeq g.lp emptyView g.views g.offsets).Nodup := by
  obtain ⟨hnd, hwf⟩ := alphabet_wellformed n t k hn ht hk
  have hperm : g.lp.Perm (alphabet n t k) := by
    rcases hg with rfl | ⟨perm, offs, hp, _, rfl⟩
    · exact .refl _
    · exact shuffle_lp_perm _ perm offs hp
  by_cases hne : alphabet n t k = []
  · -- empty alphabet: the stream is empty or holds the empty scenario only
    rw [hne] at hperm
    rw [hperm.eq_nil, allSeq_nil]
    split <;> simp
  · have hok : OffsetsOK g := by
      rcases hg with rfl | ⟨perm, offs, hp, hoffs, rfl⟩
      · exact newGenerator_offsets n t k V hne
      · exact shuffle_offsets _ (newGenerator_offsets n t k V hne).1 perm offs hp hne hoffs
    exact ⟨fun s hs v hv => hwf v (hperm.mem_iff.1 (((delivered_iff g hok s).1 hs).2 v hv)),
      generator_no_repetition g hok (hperm.nodup_iff.2 hnd)⟩

/-- `json_roundtrip`: a scenario written with `json.Marshal` and read back with `json.Unmarshal`
has the same views in the same order, each with the same leader, the same number of partitions, and
in every partition exactly the same members (read back without repetition). -/
theorem json_roundtrip (s : Scenario) :
    (jsonRoundtrip s).length = s.length ∧
    ∀ (i : Nat) (v : View), s[i]? = some v →
      ∃ v', (jsonRoundtrip s)[i]? = some v' ∧ v'.leader = v.leader ∧
        v'.partitions.length = v.partitions.length ∧
        ∀ (j : Nat) (p : NodeSet), v.partitions[j]? = some p →
          ∃ p', v'.partitions[j]? = some p' ∧ p'.Nodup ∧ ∀ nd, nd ∈ p' ↔ nd ∈ p := by
  refine ⟨by simp [jsonRoundtrip], ?_⟩
  intro i v hv
  refine ⟨⟨v.leader, v.partitions.map fun p => unmarshalSet (marshalSet p)⟩, ?_, rfl, by simp, ?_⟩
  · simp [jsonRoundtrip, hv]
  · intro j p hp
    exact ⟨unmarshalSet (marshalSet p), by simp [hp], nodup_unmarshalSet _,
      fun nd => (mem_unmarshalSet _ nd).trans (perm_marshalSet p).mem_iff⟩

/-- the JSON member list of a partition has one entry per member, whatever order the map yields -/
theorem json_members (p : NodeSet) : (marshalSet p).length = p.length ∧ ∀ nd, nd ∈ marshalSet p ↔ nd ∈ p :=
  ⟨(perm_marshalSet p).length_eq, fun _ => (perm_marshalSet p).mem_iff⟩

/-- `checkCommits_exact`: for every family of commit logs (any number of nodes, any twin
structure, any lengths). With `logs` = the logs of the replicas that run without a twin:
* the verdict is "unsafe" exactly when two of them hold different blocks at the same position;
* `commits` is the length of the agreed prefix: at every earlier position somebody committed and
  all who did agree; at position `commits` either nobody has committed (verdict safe) or there is
  a disagreement (verdict unsafe). -/
theorem checkCommits_exact (net : CommitLogs) :
    let logs := singles net
    let r := checkCommits net
    (r.1 = false ↔ ∃ l₁ ∈ logs, ∃ l₂ ∈ logs, ∃ (j a b : Nat),
        (l₁ : List Nat)[j]? = some a ∧ (l₂ : List Nat)[j]? = some b ∧ a ≠ b) ∧
    (∀ j < r.2, Occupied logs j ∧ Agree logs j) ∧
    (r.1 = true → ¬ Occupied logs r.2) ∧
    (r.1 = false → Occupied logs r.2 ∧ ¬ Agree logs r.2) := by
  intro logs r
  obtain ⟨h1, h2, h3⟩ := checkLoop_spec logs (maxLen logs + 1) 0 (by intro j hj; omega) (by omega)
  have hr : r = checkLoop logs (maxLen logs + 1) 0 := rfl
  rw [← hr] at h1 h2 h3
  refine ⟨?_, h1, h2, h3⟩
  constructor
  · intro hf
    obtain ⟨_, hna⟩ := h3 hf
    apply Classical.byContradiction
    intro hno
    apply hna
    intro l₁ hl₁ l₂ hl₂ a b ha hb
    apply Classical.byContradiction
    intro hab
    exact hno ⟨l₁, hl₁, l₂, hl₂, r.2, a, b, ha, hb, hab⟩
  · rintro ⟨l₁, hl₁, l₂, hl₂, j, a, b, ha, hb, hab⟩
    cases hs : r.1 with
    | false => rfl
    | true =>
      exfalso
      have hno := h2 hs
      by_cases hj : j < r.2
      · exact hab ((h1 j hj).2 l₁ hl₁ l₂ hl₂ a b ha hb)
      · apply hno
        refine ⟨l₁, hl₁, ?_⟩
        have := (List.getElem?_eq_some_iff.1 ha).1
        omega

/-- which logs are considered: those of nodes whose replica id occurs once in the network -/
theorem singles_iff (net : CommitLogs) (l : List Nat) :
    l ∈ singles net ↔ ∃ e ∈ net, e.2 = l ∧ (net.filter fun e' => e'.1.rid == e.1.rid).length = 1 := by
  simp only [singles, List.mem_map, List.mem_filter, beq_iff_eq]
  constructor
  · rintro ⟨e, ⟨he, hc⟩, rfl⟩; exact ⟨e, he, rfl, hc⟩
  · rintro ⟨e, he, rfl, hc⟩; exact ⟨e, ⟨he, hc⟩, rfl⟩

/-! ## Non-vacuity -/

/-- 3 nodes, 1 twin pair, 2 partitions, 2 views: 12 views, 144 announced, 144 delivered, the 145th
and 146th call give the end marker, the last scenario delivered is number 143. -/
example : (newGenerator 3 1 2 2).lp.length = 12 ∧ (newGenerator 3 1 2 2).remaining = 144 ∧
    (delivered ((newGenerator 3 1 2 2).run 146).2).length = 144 ∧
    (((newGenerator 3 1 2 2).run 146).2.drop 143).map Option.isSome = [true, false, false] ∧
    ((newGenerator 3 1 2 2).run 146).1.remaining = 0 := by decide +kernel

/-- all replicas twinned: nothing is announced, the first call already ends the stream -/
example : (newGenerator 2 2 2 2).remaining = 0 ∧ ((newGenerator 2 2 2 2).run 2).2 = [none, none] := by
  decide +kernel

/-- a shuffled stream differs in order but not in content -/
example : let g := (newGenerator 2 0 2 1).shuffle [2, 0, 3, 1] [1]
    (g.run 5).2.map (·.map (·.map (·.leader))) = [some [1], some [2], some [2], some [1], none] ∧
    ((newGenerator 2 0 2 1).run 5).2.map (·.map (·.map (·.leader))) = [some [1], some [2], some [1], some [2], none] := by
  decide +kernel

/-- verdicts: disagreement at position 1 between single replicas; twins' logs are ignored -/
example : checkCommits [(⟨1, 0⟩, [7, 8]), (⟨2, 0⟩, [7, 9]), (⟨3, 1⟩, [1]), (⟨3, 2⟩, [2])] = (false, 1) ∧
    checkCommits [(⟨1, 0⟩, [7, 8, 9]), (⟨2, 0⟩, [7, 8]), (⟨3, 1⟩, [1]), (⟨3, 2⟩, [2])] = (true, 3) ∧
    checkCommits [(⟨3, 1⟩, [1]), (⟨3, 2⟩, [2])] = (true, 0) := by decide +kernel

/-- JSON: members come back sorted and without repetition, nil and empty sets coincide -/
example : jsonRoundtrip [⟨2, [[⟨3, 0⟩, ⟨1, 2⟩, ⟨1, 1⟩], []]⟩] = [⟨2, [[⟨1, 1⟩, ⟨1, 2⟩, ⟨3, 0⟩], []]⟩] := by
  decide +kernel

end HsVerif.Props.C18
