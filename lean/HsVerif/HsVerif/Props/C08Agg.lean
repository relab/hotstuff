import HsVerif.Proofs.AggComplete
/-! C08 / C02, aggregate-QC half — the aggregate QC assembled from a reported quorum of timeout
messages verifies (completeness of `CreateAggregateQC` against `VerifyAggregateQC`), for ECDSA,
EdDSA and BLS12, any n ≥ 2, any quorum of senders.

`onRemoteTimeout` (Model/Replica.lean, after `-- RemoteTimeoutRule`, `c.agg = true`) builds
  qcs := list.foldl (fun acc x => match x.si.qc with | some q => setKV x.id q acc | none => acc) []
  sig := combine c.cfg (list.filterMap (·.msgSig))          view := the timed-out view
exactly as `CreateAggregateQC` does; the theorems below are stated over these very expressions.

With aggregate QCs configured `onRemoteTimeout` accepts a timeout message only if it carries a QC and its message
signature is the sender's and verifies (`AggAcceptedQC`).  The message signatures of an accepted quorum combine and
batch-verify against the senders' own messages (`agg_batch_verifies`), and the aggregate QC assembled from them verifies
(`agg_verifies`, at the end; `agg_verifies_partial` is the same statement with the QC test as a hypothesis `hqc` of its
own).  The QC test is needed: with the two signature tests alone (`AggAccepted`), one accepted message that carries no QC
gives an aggregate QC that every replica REJECTS, its builder included (`agg_rejected_of_qcless`,
`agg_verifies_counterexample`): `CreateAggregateQC` keeps that sender's signature but has no entry for it in the QC map,
so `BatchVerify` finds no message for a participant. -/
set_option linter.unusedVariables false
namespace HsVerif.Props.C08Agg
open HsVerif.Model

/-- what `OnRemoteTimeout` requires of the *message* signature of a timeout message, with aggregate
QCs configured, before the message reaches the collector — literally the two tests of the code:
`signedBy(timeout.MsgSignature, timeout.ID)` and `Verify(timeout.MsgSignature, timeout.ToBytes())`
(`tmo id view qc?` names those bytes).  `ms.WF` is the wire-decoding fact that a bit-field's cached
size is its number of members (C19 `len_eq_card`), as in C02 / C08. -/
def AggAccepted (T : Truth) (c : Cfg) (tmo : Nat → Nat → Option QC → Msg) (t : TimeoutMsg) : Prop :=
  signedBy t.msgSig t.id = true ∧
  ∃ ms, t.msgSig = some ms ∧ ms.WF ∧ verify T c ms (tmo t.id t.view t.si.qc) = true

/-- the timeout messages of the list have pairwise different bytes (`BatchVerify` demands it).
True of the real encoding because the sender id is part of the bytes: `distinct_of_key_shape`. -/
def DistinctMsgs (tmo : Nat → Nat → Option QC → Msg) (v : Nat) (l : List TimeoutMsg) : Prop :=
  ∀ x ∈ l, ∀ y ∈ l, tmo x.id v x.si.qc = tmo y.id v y.si.qc → x.id = y.id

/-- Every key function of the shape used by the model (`tmoMsgKey`) and by the driver (`tmoKey` in
Drv/Cert.lean: `s!"tmo:{id}:{v}:" ++ …`) gives different senders different messages — whatever
QCs they carry, duplicates included. -/
theorem distinct_of_key_shape (tmo : Nat → Nat → Option QC → Msg) (rest : Option QC → String)
    (hshape : ∀ i v q, tmo i v q = s!"tmo:{i}:{v}:" ++ rest q) (v : Nat) (l : List TimeoutMsg) :
    DistinctMsgs tmo v l := by
  intro x _ y _ h
  rw [hshape, hshape] at h
  exact tmoShape_inj _ _ _ _ _ h

/-- the model's own key function has that shape -/
theorem distinct_tmoMsgKey (v : Nat) (l : List TimeoutMsg) : DistinctMsgs tmoMsgKey v l :=
  distinct_of_key_shape tmoMsgKey _ (fun _ _ _ => rfl) v l

/-- **The message signatures of an accepted quorum combine and batch-verify** (n ≥ 2, all three
schemes): timeout messages of one view from pairwise different senders, each accepted by the
aggregate rule, at least two.  Their message signatures (all present) combine; the result has one
participant per sender and passes `BatchVerify` against the map sender ↦ that sender's message
bytes — whether or not the senders carry QCs, equal QCs or different ones. -/
theorem agg_batch_verifies (E : CertEnv) (k : Keys) (v : Nat) (l : List TimeoutMsg)
    (hv : ∀ x ∈ l, x.view = v) (hk : (l.map (·.id)).Nodup) (h2 : 2 ≤ l.length)
    (hd : DistinctMsgs k.tmo v l) (ha : ∀ x ∈ l, AggAccepted E.T E.cfg k.tmo x) :
    ∃ sg, combine E.cfg (l.filterMap (·.msgSig)) = .ok sg ∧ sg.len = l.length ∧ sg.WF ∧
      (∀ j, j ∈ sg.participants ↔ j ∈ l.map (·.id)) ∧
      batchVerify E.T E.cfg sg (l.map fun t => (t.id, k.tmo t.id v t.si.qc)) = true := by
  let d : Sig := .multi .ecdsa []
  have key : ∀ x ∈ l, x.msgSig = some (x.msgSig.getD d) ∧ E.cfg.has x.id = true ∧
      ∃ bits, SingleSig E.T E.cfg x.id (k.tmo x.id v x.si.qc) (x.msgSig.getD d) bits := by
    intro x hx
    obtain ⟨hsb, s, h1, hw, hver⟩ := ha x hx
    rw [h1] at hsb ⊢
    obtain ⟨hl, hp⟩ := signedBy_single s x.id hw hsb
    rw [hv x hx] at hver
    exact ⟨rfl, ((verify_sound _ _ _ _ hver hw).2.2.2 x.id (by simp [hp])).1,
      single_of_verify E.T E.cfg x.id _ s hw hl hp hver⟩
  obtain ⟨sg, hc, hlen, hw, hpart, _, hbv⟩ := combine_singles E.T E.cfg (·.id) (fun x => k.tmo x.id v x.si.qc)
    (fun x => x.msgSig.getD d) l hk (fun x hx => (key x hx).2.1) h2 (fun x hx => (key x hx).2.2)
  have hsigs : l.filterMap (·.msgSig) = l.map (fun x => x.msgSig.getD d) :=
    (filterMap_congr_mem _ _ l fun x hx => (key x hx).1).trans (congrFun List.filterMap_eq_map' l)
  have hmn : (l.map fun x => k.tmo x.id v x.si.qc).Nodup :=
    List.pairwise_map.mpr ((List.pairwise_map.mp hk).imp_of_mem fun ha hb hne e => hne (hd _ ha _ hb e))
  exact ⟨sg, hsigs ▸ hc, hlen, hw, hpart, hbv hmn⟩

/- Without the hypothesis `hqc` the statement is false (`agg_rejected_of_qcless`, `agg_verifies_counterexample`);
   `onRemoteTimeout` tests it (`fix: a timeout message must carry a quorum certificate under the aggregate rule`),
   and the statement for what it accepts is `agg_verifies` at the end of this file. -/
/-- **The aggregate QC built from a reported quorum verifies** at every replica with the same
configuration and store (n ≥ 2, all three schemes): `quorum` accepted timeout messages of view `v`
from pairwise different senders, *each carrying a QC* (`hqc`), at least one of these QCs passing
`VerifyQuorumCert`.  The message signatures combine, and the `AggregateQC{qcs, sig, v}` that
`CreateAggregateQC` assembles passes `VerifyAggregateQC`; the high QC reported is one of the carried
QCs, verifies, and no carried QC that verifies has a higher view. -/
theorem agg_verifies_partial (E : CertEnv) (k : Keys) (v : Nat) (l : List TimeoutMsg)
    (hE : ∀ i w q, E.tmoMsg i w q = k.tmo i w (some q))
    (hv : ∀ x ∈ l, x.view = v) (hk : (l.map (·.id)).Nodup) (h2 : 2 ≤ l.length)
    (hq : E.cfg.quorum ≤ l.length)
    (hd : DistinctMsgs k.tmo v l) (ha : ∀ x ∈ l, AggAccepted E.T E.cfg k.tmo x)
    (hqc : ∀ x ∈ l, x.si.qc.isSome = true)
    (hval : ∃ x ∈ l, ∃ q, x.si.qc = some q ∧ verifyQC E q = true) :
    ∃ sg high, combine E.cfg (l.filterMap (·.msgSig)) = .ok sg ∧
      verifyAggQC E ⟨l.foldl (fun acc x => match x.si.qc with | some q => setKV x.id q acc | none => acc) [],
        some sg, v⟩ = .ok high ∧
      verifyQC E high = true ∧ (∃ x ∈ l, x.si.qc = some high) ∧
      ∀ x ∈ l, ∀ q, x.si.qc = some q → verifyQC E q = true → q.view ≤ high.view := by
  obtain ⟨sg, hc, hlen, hw, hpart, hbv⟩ := agg_batch_verifies E k v l hv hk h2 hd ha
  have hmem : ∀ q, q ∈ (l.filterMap (fun x => x.si.qc.map (fun q => (x.id, q)))).map (·.2) ↔ ∃ x ∈ l, x.si.qc = some q := by
    simp [List.map_filterMap, Function.comp_def]
  obtain ⟨x0, hx0, q0, hq0, hvq0⟩ := hval
  obtain ⟨high, hhigh⟩ := findHighestValidQC_isSome E _ q0 ((hmem q0).mpr ⟨x0, hx0, hq0⟩) hvq0
  obtain ⟨f1, f2, f3⟩ := findHighestValidQC_some E _ high hhigh
  refine ⟨sg, high, hc, ?_, f1, (hmem high).mp f2, fun x hx q hxq hvq => f3 q ((hmem q).mpr ⟨x, hx, hxq⟩) hvq⟩
  refine (congrArg (fun qs => verifyAggQC E ⟨qs, some sg, v⟩) (foldl_qcs l [] hk (by simp))).trans ?_
  exact (verifyAggQC_ok_iff E _ high).mpr ⟨sg, rfl, hlen ▸ hq, (batch_of_qcs E.tmoMsg k.tmo hE v l hqc) ▸ hbv, hhigh⟩

/-- **One timeout message without a QC, accepted by the signature tests alone, spoils the aggregate QC** (all three
schemes): same quorum as above, but some sender's message carries no QC.  The message signatures still combine,
`CreateAggregateQC` still returns an aggregate QC — and `VerifyAggregateQC` rejects it. -/
theorem agg_rejected_of_qcless (E : CertEnv) (k : Keys) (v : Nat) (l : List TimeoutMsg)
    (hE : ∀ i w q, E.tmoMsg i w q = k.tmo i w (some q))
    (hv : ∀ x ∈ l, x.view = v) (hk : (l.map (·.id)).Nodup) (h2 : 2 ≤ l.length)
    (hd : DistinctMsgs k.tmo v l) (ha : ∀ x ∈ l, AggAccepted E.T E.cfg k.tmo x)
    (hno : ∃ x ∈ l, x.si.qc = none) :
    ∃ sg, combine E.cfg (l.filterMap (·.msgSig)) = .ok sg ∧
      verifyAggQC E ⟨l.foldl (fun acc x => match x.si.qc with | some q => setKV x.id q acc | none => acc) [],
        some sg, v⟩ = .reject := by
  obtain ⟨sg, hc, hlen, hw, hpart, _⟩ := agg_batch_verifies E k v l hv hk h2 hd ha
  obtain ⟨x, hx, hxq⟩ := hno
  refine ⟨sg, hc, ?_⟩
  have hbv : batchVerify E.T E.cfg sg
      ((l.filterMap (fun x => x.si.qc.map (fun q => (x.id, q)))).map (fun p => (p.1, E.tmoMsg p.1 v p.2))) = false := by
    apply batchVerify_missing _ _ _ _ x.id ((hpart x.id).mpr (List.mem_map_of_mem hx))
    · simp only [List.map_map, Function.comp_def, List.mem_map, List.mem_filterMap, Option.map_eq_some_iff]
      rintro ⟨p, ⟨y, hy, q, hyq, rfl⟩, hid⟩
      cases eq_of_nodup_map (·.id) hk hy hx hid
      rw [hxq] at hyq; cases hyq
    · have := Nat.lt_of_le_of_ne (List.length_filterMap_le (fun x : TimeoutMsg => x.si.qc.map (fun q => (x.id, q))) l)
        fun h => by simpa [hxq] using List.filterMap_length_eq_length.mp h x hx
      simp only [List.length_map]
      omega
  refine (congrArg (fun qs => verifyAggQC E ⟨qs, some sg, v⟩) (foldl_qcs l [] hk (by simp))).trans ?_
  unfold verifyAggQC
  simp only [List.nil_append, hbv]
  split <;> simp

/-- The same for the certificate environment a replica actually uses (`env k c s`, key function
supplied by the driver): no assumption on the environment beyond the shape of the key. -/
theorem agg_verifies_replica_partial (k : Keys) (c : RCfg) (s : RState) (rest : Option QC → String)
    (hshape : ∀ i v q, k.tmo i v q = s!"tmo:{i}:{v}:" ++ rest q)
    (v : Nat) (l : List TimeoutMsg)
    (hv : ∀ x ∈ l, x.view = v) (hk : (l.map (·.id)).Nodup) (h2 : 2 ≤ l.length)
    (hq : c.cfg.quorum ≤ l.length)
    (ha : ∀ x ∈ l, AggAccepted (env k c s).T c.cfg k.tmo x)
    (hqc : ∀ x ∈ l, x.si.qc.isSome = true)
    (hval : ∃ x ∈ l, ∃ q, x.si.qc = some q ∧ verifyQC (env k c s) q = true) :
    ∃ sg high, combine c.cfg (l.filterMap (·.msgSig)) = .ok sg ∧
      verifyAggQC (env k c s) ⟨l.foldl (fun acc x => match x.si.qc with | some q => setKV x.id q acc | none => acc) [],
        some sg, v⟩ = .ok high ∧
      verifyQC (env k c s) high = true ∧ (∃ x ∈ l, x.si.qc = some high) ∧
      ∀ x ∈ l, ∀ q, x.si.qc = some q → verifyQC (env k c s) q = true → q.view ≤ high.view :=
  agg_verifies_partial (env k c s) k v l (fun _ _ _ => rfl) hv hk h2 hq
    (distinct_of_key_shape k.tmo rest hshape v l) ha hqc hval

/-! ### concrete instances: n = 4 (quorum 3), timed-out view 2, senders 1, 2, 3 -/

/-- a small key function with the sender id, the view and the carried QC in the key -/
def exKey : Nat → Nat → Option QC → Msg := fun i v q =>
  (if i = 1 then "1" else if i = 2 then "2" else if i = 3 then "3" else "x") ++ ":" ++
  (if v = 2 then "2" else "y") ++ ":" ++ (match q with | none => "-" | some q => q.hash)

def exB1 : Block := { hash := "B1", parent := genesisHash, view := 1, proposer := 1, qc := genesisQC }
/-- a genuine ECDSA QC for `B1` (signature bytes 1, 2, 3) -/
def exQC : QC := ⟨some (.multi .ecdsa [⟨1, 1⟩, ⟨2, 2⟩, ⟨3, 3⟩]), 1, "B1"⟩

def exT (qc2 : Option QC) : Truth := fun b =>
  if b = 1 then some ⟨1, blkMsg "B1"⟩ else if b = 2 then some ⟨2, blkMsg "B1"⟩
  else if b = 3 then some ⟨3, blkMsg "B1"⟩
  else if b = 11 then some ⟨1, exKey 1 2 (some exQC)⟩
  else if b = 12 then some ⟨2, exKey 2 2 qc2⟩
  else if b = 13 then some ⟨3, exKey 3 2 (some exQC)⟩ else none

def exE (qc2 : Option QC) : CertEnv :=
  { T := exT qc2, cfg := ⟨4, .ecdsa⟩, store := [("B1", exB1)], tmoMsg := fun i v q => exKey i v (some q) }

/-- timeout messages of view 2 from 1, 2, 3: senders 1 and 3 carry the same QC for `B1`, sender 2
carries `qc2` -/
def exL (qc2 : Option QC) : List TimeoutMsg :=
  [⟨1, 2, none, some (.multi .ecdsa [⟨1, 11⟩]), { qc := some exQC }⟩,
   ⟨2, 2, none, some (.multi .ecdsa [⟨2, 12⟩]), { qc := qc2 }⟩,
   ⟨3, 2, none, some (.multi .ecdsa [⟨3, 13⟩]), { qc := some exQC }⟩]

theorem exL_accepted : ∀ x ∈ exL (some genesisQC),
    AggAccepted (exE (some genesisQC)).T (exE (some genesisQC)).cfg exKey x := by
  intro x hx
  simp only [exL, List.mem_cons, List.not_mem_nil, or_false] at hx
  rcases hx with rfl | rfl | rfl <;> exact ⟨by decide, _, rfl, trivial, by decide⟩

theorem exL_accepted_qcless : ∀ x ∈ exL none, AggAccepted (exE none).T (exE none).cfg exKey x := by
  intro x hx
  simp only [exL, List.mem_cons, List.not_mem_nil, or_false] at hx
  rcases hx with rfl | rfl | rfl <;> exact ⟨by decide, _, rfl, trivial, by decide⟩

/-- Non-vacuity of `agg_verifies_partial` (ECDSA): the hypotheses hold of three accepted timeout
messages (two carrying the same QC for `B1`, one the genesis QC), so their aggregate QC verifies. -/
example : ∃ sg high, combine (exE (some genesisQC)).cfg ((exL (some genesisQC)).filterMap (·.msgSig)) = .ok sg ∧
    verifyAggQC (exE (some genesisQC)) ⟨(exL (some genesisQC)).foldl
      (fun acc x => match x.si.qc with | some q => setKV x.id q acc | none => acc) [], some sg, 2⟩ = .ok high ∧
    verifyQC (exE (some genesisQC)) high = true ∧ (∃ x ∈ exL (some genesisQC), x.si.qc = some high) ∧
    ∀ x ∈ exL (some genesisQC), ∀ q, x.si.qc = some q → verifyQC (exE (some genesisQC)) q = true → q.view ≤ high.view :=
  agg_verifies_partial (exE (some genesisQC)) ⟨exKey⟩ 2 (exL (some genesisQC)) (fun _ _ _ => rfl)
    (by decide) (by decide) (by decide) (by decide) (by unfold DistinctMsgs; decide) exL_accepted (by decide)
    ⟨⟨1, 2, none, some (.multi .ecdsa [⟨1, 11⟩]), { qc := some exQC }⟩, by simp [exL], exQC, rfl, by decide⟩

/-- … and the value it reports is the QC for `B1` (view 1), not the genesis QC (view 0). -/
example : (match verifyAggQC (exE (some genesisQC)) ⟨[(1, exQC), (2, genesisQC), (3, exQC)],
    some (.multi .ecdsa [⟨1, 11⟩, ⟨2, 12⟩, ⟨3, 13⟩]), 2⟩ with | .ok q => q == exQC | _ => false) = true := by decide

/-- Without the QC test (`hqc` of `agg_verifies_partial`) the statement fails: sender 2's timeout
message, accepted by the signature tests, carries no QC (its message signature is over id‖view alone); every other hypothesis holds,
a carried QC verifies, the signatures combine — and the aggregate QC so assembled is rejected. -/
theorem agg_verifies_counterexample :
    ∃ (E : CertEnv) (k : Keys) (v : Nat) (l : List TimeoutMsg) (sg : Sig),
      (∀ i w q, E.tmoMsg i w q = k.tmo i w (some q)) ∧ (∀ x ∈ l, x.view = v) ∧ (l.map (·.id)).Nodup ∧
      2 ≤ l.length ∧ E.cfg.quorum ≤ l.length ∧ DistinctMsgs k.tmo v l ∧
      (∀ x ∈ l, AggAccepted E.T E.cfg k.tmo x) ∧
      (∃ x ∈ l, ∃ q, x.si.qc = some q ∧ verifyQC E q = true) ∧
      combine E.cfg (l.filterMap (·.msgSig)) = .ok sg ∧
      ∀ high, verifyAggQC E ⟨l.foldl (fun acc x => match x.si.qc with | some q => setKV x.id q acc | none => acc) [],
        some sg, v⟩ ≠ .ok high := by
  refine ⟨exE none, ⟨exKey⟩, 2, exL none, .multi .ecdsa [⟨1, 11⟩, ⟨2, 12⟩, ⟨3, 13⟩], fun _ _ _ => rfl,
    by decide, by decide, by decide, by decide, by unfold DistinctMsgs; decide, exL_accepted_qcless,
    ⟨⟨1, 2, none, some (.multi .ecdsa [⟨1, 11⟩]), { qc := some exQC }⟩, by simp [exL], exQC, rfl, by decide⟩,
    rfl, ?_⟩
  intro high h
  have : (match verifyAggQC (exE none) ⟨(exL none).foldl
      (fun acc x => match x.si.qc with | some q => setKV x.id q acc | none => acc) [],
      some (.multi .ecdsa [⟨1, 11⟩, ⟨2, 12⟩, ⟨3, 13⟩]), 2⟩ with | .ok _ => true | _ => false) = false := by decide
  rw [h] at this
  cases this

/-! the same quorum with BLS12 signatures -/

def exQCB : QC :=
  ⟨some (.bls [⟨1, blkMsg "B1"⟩, ⟨2, blkMsg "B1"⟩, ⟨3, blkMsg "B1"⟩] [] (((Bitfield.empty.add 1).add 2).add 3)), 1, "B1"⟩

def exEB : CertEnv :=
  { T := fun _ => none, cfg := ⟨4, .bls12⟩, store := [("B1", exB1)], tmoMsg := fun i v q => exKey i v (some q) }

def exLB : List TimeoutMsg :=
  [⟨1, 2, none, some (blsSign 1 (exKey 1 2 (some exQCB))), { qc := some exQCB }⟩,
   ⟨2, 2, none, some (blsSign 2 (exKey 2 2 (some genesisQC))), { qc := some genesisQC }⟩,
   ⟨3, 2, none, some (blsSign 3 (exKey 3 2 (some exQCB))), { qc := some exQCB }⟩]

theorem exLB_accepted : ∀ x ∈ exLB, AggAccepted exEB.T exEB.cfg exKey x := by
  intro x hx
  simp only [exLB, List.mem_cons, List.not_mem_nil, or_false] at hx
  rcases hx with rfl | rfl | rfl <;> exact ⟨by decide, _, rfl, by simp only [blsSign, Sig.WF]; decide, by decide⟩

/-- Non-vacuity of `agg_verifies_partial` (BLS12). -/
example : ∃ sg high, combine exEB.cfg (exLB.filterMap (·.msgSig)) = .ok sg ∧
    verifyAggQC exEB ⟨exLB.foldl
      (fun acc x => match x.si.qc with | some q => setKV x.id q acc | none => acc) [], some sg, 2⟩ = .ok high ∧
    verifyQC exEB high = true ∧ (∃ x ∈ exLB, x.si.qc = some high) ∧
    ∀ x ∈ exLB, ∀ q, x.si.qc = some q → verifyQC exEB q = true → q.view ≤ high.view :=
  agg_verifies_partial exEB ⟨exKey⟩ 2 exLB (fun _ _ _ => rfl)
    (by decide) (by decide) (by decide) (by decide) (by unfold DistinctMsgs; decide) exLB_accepted (by decide)
    ⟨⟨1, 2, none, some (blsSign 1 (exKey 1 2 (some exQCB))), { qc := some exQCB }⟩, by simp [exLB], exQCB, rfl, by decide⟩


/-- what `OnRemoteTimeout` requires with aggregate QCs configured: the two signature
tests AND a quorum certificate in the sync info (`fix:` "a timeout message must carry a quorum
certificate under the aggregate rule") -/
def AggAcceptedQC (T : Truth) (c : Cfg) (tmo : Nat → Nat → Option QC → Msg) (t : TimeoutMsg) : Prop :=
  AggAccepted T c tmo t ∧ t.si.qc.isSome = true

/-- **The aggregate QC built from a reported quorum verifies** (all three schemes,
n ≥ 2): any quorum of timeout messages of one view from pairwise different senders, each accepted
by `OnRemoteTimeout` under the aggregate rule, at least one carrying a QC that verifies: the
message signatures combine and the aggregate QC that `CreateAggregateQC` assembles passes
`VerifyAggregateQC`, reporting a verifying carried QC of maximal view. -/
theorem agg_verifies (E : CertEnv) (k : Keys) (v : Nat) (l : List TimeoutMsg)
    (hE : ∀ i w q, E.tmoMsg i w q = k.tmo i w (some q))
    (hv : ∀ x ∈ l, x.view = v) (hk : (l.map (·.id)).Nodup) (h2 : 2 ≤ l.length)
    (hq : E.cfg.quorum ≤ l.length)
    (hd : DistinctMsgs k.tmo v l) (ha : ∀ x ∈ l, AggAcceptedQC E.T E.cfg k.tmo x)
    (hval : ∃ x ∈ l, ∃ q, x.si.qc = some q ∧ verifyQC E q = true) :
    ∃ sg high, combine E.cfg (l.filterMap (·.msgSig)) = .ok sg ∧
      verifyAggQC E ⟨l.foldl (fun acc x => match x.si.qc with | some q => setKV x.id q acc | none => acc) [],
        some sg, v⟩ = .ok high ∧
      verifyQC E high = true ∧ (∃ x ∈ l, x.si.qc = some high) ∧
      ∀ x ∈ l, ∀ q, x.si.qc = some q → verifyQC E q = true → q.view ≤ high.view :=
  agg_verifies_partial E k v l hE hv hk h2 hq hd (fun x hx => (ha x hx).1) (fun x hx => (ha x hx).2) hval

end HsVerif.Props.C08Agg
