import HsVerif.Proofs.QuorumCount
import HsVerif.Gen.Quorum
/-! C20 — quorum size: intersection and availability for every n. -/
set_option linter.unusedVariables false
namespace HsVerif.Props.C20
open HsVerif.Model

/-- f is the largest integer with 3f < n. -/
theorem faulty_is_max (n : Nat) (h : 1 ≤ n) :
    3 * numFaulty n < n ∧ ∀ f, 3 * f < n → f ≤ numFaulty n :=
  QuorumCount.numFaulty_max n h

/-- Two quorums intersect in at least f+1 replicas: 2q - n ≥ f + 1. -/
theorem intersection (n : Nat) (h : 1 ≤ n) :
    n + numFaulty n + 1 ≤ 2 * quorumSize n :=
  QuorumCount.quorum_intersection n

/-- The honest replicas alone can form a quorum: q ≤ n - f. -/
theorem availability (n : Nat) (h : 1 ≤ n) :
    quorumSize n + numFaulty n ≤ n :=
  QuorumCount.quorum_availability n h

/-- q is the smallest number with the intersection property. -/
theorem minimal (n q : Nat) (hq : n + numFaulty n + 1 ≤ 2 * q) : quorumSize n ≤ q :=
  QuorumCount.quorumSize_minimal n q hq

/-- A quorum is larger than the number of tolerated faults, so it contains an honest replica when at most
`numFaulty n` are Byzantine.  (The counting form about two quorums is `QuorumCount.quorums_share_honest`.) -/
theorem quorum_gt_faulty (n : Nat) (h : 1 ≤ n) : numFaulty n < quorumSize n :=
  QuorumCount.numFaulty_lt_quorumSize n

/-! Bridging lemmas: the definitions regenerated from /repo/quorum.go by tools/gofacts on every
run (Go `int` arithmetic, truncating division) coincide with the model on every n ≥ 0.  Side
condition of the float idiom (n + f + 1 < 2^53) is recorded by the translator and exercised by
the correspondence at that boundary. -/

theorem gen_numFaulty (n : Nat) : HsVerif.Gen.NumFaulty (n : Int) = (numFaulty n : Int) := by
  unfold HsVerif.Gen.NumFaulty numFaulty
  rcases n with _ | n
  · decide
  · have h : ((n + 1 : Nat) : Int) - 1 = (n : Int) := by omega
    rw [h, Int.tdiv_eq_ediv_of_nonneg (by omega)]; omega

theorem gen_quorumSize (n : Nat) : HsVerif.Gen.QuorumSize (n : Int) = (quorumSize n : Int) := by
  unfold HsVerif.Gen.QuorumSize quorumSize
  simp only [gen_numFaulty]
  omega

/-- Non-vacuity: the classical table. -/
example : (quorumSize 1, quorumSize 4, quorumSize 7, quorumSize 10, quorumSize 13) = (1, 3, 5, 7, 9) := by decide

end HsVerif.Props.C20
