import HsVerif.Proofs.Tree
import HsVerif.Gen.Tree
/-! C17 — the Kauri tree is one consistent tree over all replicas.

Setting of every theorem: an arbitrary position assignment `pos : List Nat` without repeated ids
(`pos.Nodup`; length, ids and order arbitrary), an arbitrary branch factor `b ≥ 2`.  The replica `r`
holds its own instance `view b pos r = NewSimple(r, b, pos)`; statements relate what *different*
replicas' instances report. -/
set_option linter.unusedVariables false
namespace HsVerif.Props.C17
open HsVerif.Model HsVerif.Model.Tree

/-- the `Tree` instance held by replica `r` -/
abbrev view (b : Nat) (pos : List Nat) (r : Nat) : Tree := Tree.mk' r b pos

theorem newSimple_iff (id b : Nat) (pos : List Nat) (t : Tree) :
    newSimple id b pos = some t ↔ 2 ≤ b ∧ id ∈ pos ∧ t = view b pos id := by
  unfold newSimple
  by_cases h1 : b < 2
  · simp [h1]; omega
  · by_cases h2 : pos.idxOf id < pos.length
    · have hm : id ∈ pos := List.idxOf_lt_length_iff.mp h2
      simp [h1, h2, hm, eq_comm]; omega
    · have hm : id ∉ pos := fun h => h2 (List.idxOf_lt_length_iff.mpr h)
      simp [h1, h2, hm]

theorem newSimple_of_mem {b : Nat} {pos : List Nat} (hb : 2 ≤ b) {x : Nat} (hx : x ∈ pos) :
    newSimple x b pos = some (view b pos x) := (newSimple_iff _ _ _ _).mpr ⟨hb, hx, rfl⟩

/-- guard of `Parent`: a tree built by `NewSimple` always finds its own id (the model's
unreachable branch is unreachable). -/
theorem own_position (id b : Nat) (pos : List Nat) (t : Tree) (h : newSimple id b pos = some t) :
    ∃ p, t.replicaPosition t.id = some p ∧ p < pos.length := by
  obtain ⟨_, hm, rfl⟩ := (newSimple_iff _ _ _ _).mp h
  have : pos.idxOf id < pos.length := List.idxOf_lt_length_iff.mpr hm
  refine ⟨pos.idxOf id, ?_, this⟩
  show (if pos.idxOf id < pos.length then some (pos.idxOf id) else none) = _
  simp [this]

/-- Exactly one root: all replicas name the same root, it is a member, it is the only replica whose
`Parent()` reports "no parent" (and then returns the replica itself), and `IsRoot` — asked of any
replica's instance about any id — holds for it alone. -/
theorem one_root (b : Nat) (pos : List Nat) (hnd : pos.Nodup) (hb : 2 ≤ b) (hn : 1 ≤ pos.length) :
    ∃ root, root ∈ pos ∧ (∀ v, (view b pos v).root = root) ∧
      (∀ r ∈ pos, ((view b pos r).parent.2 = false ↔ r = root)) ∧
      (view b pos root).parent = (root, false) ∧
      (∀ v x, (view b pos v).isRoot x = true ↔ x = root) := by
  have h0 : 0 < pos.length := by omega
  refine ⟨pos[0], List.getElem_mem h0, fun _ => getD_eq_getElem h0, ?_, ?_, ?_⟩
  · intro r hr
    obtain ⟨q, hq, rfl⟩ := List.getElem_of_mem hr
    rw [parent_snd_eq_false_iff hnd q hq, List.getElem_inj hnd]
  · rw [parent_getElem hnd 0 h0]; rfl
  · intro v x
    rw [Tree.isRoot, replicaPosition_mk']
    by_cases hx : x ∈ pos
    · obtain ⟨q, hq, rfl⟩ := List.getElem_of_mem hx
      rw [hnd.idxOf_getElem q hq, if_pos hq, List.getElem_inj hnd]
      simp
    · rw [if_neg (by rwa [List.idxOf_lt_length_iff])]
      exact ⟨fun h => by simp at h, fun h => absurd (h ▸ List.getElem_mem h0) hx⟩

/-- Parent and children agree across replicas: `c` is listed among `p`'s children (whoever
evaluates `ChildrenOf(p)`) exactly when `c`'s own instance reports `p` as its parent. -/
theorem parent_child_iff (b : Nat) (pos : List Nat) (hnd : pos.Nodup) (hb : 2 ≤ b) (v p c : Nat) (hc : c ∈ pos) :
    c ∈ (view b pos v).childrenOf p ↔ (view b pos c).parent = (p, true) := by
  obtain ⟨q, hq, rfl⟩ := List.getElem_of_mem hc
  rw [parent_eq_iff hnd q hq, mem_childrenOf_iff hnd hb]
  constructor
  · rintro ⟨q', hq', e, h⟩
    rwa [(List.getElem_inj hnd).mp e] at h
  · exact fun h => ⟨q, hq, rfl, h⟩

/-- the reported parent of a non-root replica is a replica of the tree, closer to the root -/
theorem parent_mem (b : Nat) (pos : List Nat) (hnd : pos.Nodup) (hb : 2 ≤ b) (c p : Nat) (hc : c ∈ pos)
    (h : (view b pos c).parent = (p, true)) : p ∈ pos ∧ pos.idxOf p < pos.idxOf c := by
  have := childrenOf_idx_lt hnd hb ((parent_child_iff b pos hnd hb c p c hc).mpr h)
  exact ⟨this.1, this.2.2⟩

/-- Children lists: members only, no repetition, at most `b` entries, and the lists of two different
replicas never share an entry (each replica is listed under one parent and nowhere else). -/
theorem children_disjoint (b : Nat) (pos : List Nat) (hnd : pos.Nodup) (hb : 2 ≤ b) (v : Nat) :
    (∀ p, ((view b pos v).childrenOf p).Nodup ∧ ((view b pos v).childrenOf p).length ≤ b ∧
        ∀ c ∈ (view b pos v).childrenOf p, c ∈ pos ∧ c ≠ p) ∧
    (∀ p p' c, c ∈ (view b pos v).childrenOf p → c ∈ (view b pos v).childrenOf p' → p = p') := by
  have g := goodCh_mk' (id := v) hnd hb
  refine ⟨fun p => ⟨g.nodup p, ?_, fun c hc => ⟨g.sub p c hc, fun e => by subst e; exact g.acyc _ (Desc.child hc)⟩⟩, g.uniq⟩
  obtain ⟨s, e, (he : e ≤ s + b), h⟩ := childrenOf_eq_slice (view b pos v) p
  rw [h, List.length_drop, List.length_take]
  omega

/-- The children lists partition the non-root replicas: concatenating every replica's children gives
each replica other than the root exactly once. -/
theorem every_node_reached_once (b : Nat) (pos : List Nat) (hnd : pos.Nodup) (hb : 2 ≤ b) (v : Nat) :
    (pos.flatMap (view b pos v).childrenOf).Perm (pos.drop 1) := by
  have g := goodCh_mk' (id := v) hnd hb
  rw [List.perm_ext_iff_of_nodup (nodup_flatMap_of_mem hnd (fun x _ => g.nodup x) fun x _ y _ => g.uniq x y) ((List.drop_sublist _ _).nodup hnd)]
  intro c
  rw [List.mem_flatMap, List.mem_drop_iff_getElem]
  constructor
  · rintro ⟨x, _, hc⟩
    obtain ⟨q, hq, rfl, h1, _⟩ := (mem_childrenOf_iff hnd hb _ _).mp hc
    exact ⟨q - 1, by omega, by simp [Nat.add_sub_cancel' h1]⟩
  · rintro ⟨j, hj, rfl⟩
    have hlt : (1 + j - 1) / b < pos.length := Nat.lt_of_le_of_lt (Nat.div_le_self _ _) (by omega)
    exact ⟨pos[(1 + j - 1) / b], List.getElem_mem _,
      (mem_childrenOf_iff hnd hb _ _).mpr ⟨1 + j, by omega, rfl, by omega, List.getElem?_eq_getElem hlt⟩⟩

/-- `r` is a proper ancestor of `c` according to the `Parent()` reports of the replicas on the way up -/
inductive Anc (b : Nat) (pos : List Nat) (r : Nat) : Nat → Prop
  | parent {c : Nat} : c ∈ pos → (view b pos c).parent = (r, true) → Anc b pos r c
  | up {c x : Nat} : c ∈ pos → (view b pos c).parent = (x, true) → Anc b pos r x → Anc b pos r c

/-- A replica's `SubTree()` lists exactly its proper descendants (the replicas whose chain of
`Parent()` reports passes through it), each once. -/
theorem subtree_eq_descendants (b : Nat) (pos : List Nat) (hnd : pos.Nodup) (hb : 2 ≤ b) (r : Nat) :
    (view b pos r).subTree.Nodup ∧ ∀ c, c ∈ (view b pos r).subTree ↔ Anc b pos r c := by
  have g := goodCh_mk' (id := r) hnd hb
  obtain ⟨h1, h2⟩ := subTree_spec (view b pos r) g
  refine ⟨h1, fun c => ?_⟩
  rw [h2]
  show Desc (view b pos r).childrenOf r c ↔ _
  constructor
  · intro h
    induction h with
    | child hc => exact Anc.parent (g.sub _ _ hc) ((parent_child_iff b pos hnd hb r _ _ (g.sub _ _ hc)).mp hc)
    | step _ hc ih => exact Anc.up (g.sub _ _ hc) ((parent_child_iff b pos hnd hb r _ _ (g.sub _ _ hc)).mp hc) ih
  · intro h
    induction h with
    | parent hm hp => exact Desc.child ((parent_child_iff b pos hnd hb r _ _ hm).mpr hp)
    | up hm hp _ ih => exact Desc.step ih ((parent_child_iff b pos hnd hb r _ _ hm).mpr hp)

/-- The tree has no cycle: an ancestor sits at a strictly smaller position; nobody is its own ancestor. -/
theorem acyclic (b : Nat) (pos : List Nat) (hnd : pos.Nodup) (hb : 2 ≤ b) (r c : Nat) (h : Anc b pos r c) :
    pos.idxOf r < pos.idxOf c ∧ r ≠ c := by
  have key : pos.idxOf r < pos.idxOf c := by
    induction h with
    | parent hm hp => exact (parent_mem b pos hnd hb _ _ hm hp).2
    | up hm hp _ ih => exact Nat.lt_trans ih (parent_mem b pos hnd hb _ _ hm hp).2
  exact ⟨key, fun e => by subst e; omega⟩

/-- Sibling lists: `PeersOf()` of the root is empty; for any other replica it is the children list
of its reported parent, contains the replica itself, and consists exactly of the replicas reporting
the same parent. -/
theorem peers_eq_children_of_parent (b : Nat) (pos : List Nat) (hnd : pos.Nodup) (hb : 2 ≤ b) (c : Nat) (hc : c ∈ pos) :
    ((view b pos c).parent.2 = false → (view b pos c).peersOf = []) ∧
    (∀ p, (view b pos c).parent = (p, true) →
      (view b pos c).peersOf = (view b pos p).childrenOf p ∧ c ∈ (view b pos c).peersOf ∧
      ∀ x ∈ pos, (x ∈ (view b pos c).peersOf ↔ (view b pos x).parent = (p, true))) := by
  constructor
  · intro h
    unfold Tree.peersOf
    cases hp : (view b pos c).parent with
    | mk a ok => rw [hp] at h; simp at h; simp [h]
  · intro p hp
    have e : (view b pos c).peersOf = (view b pos p).childrenOf p := by
      unfold Tree.peersOf; rw [hp]; rfl
    refine ⟨e, ?_, fun x hx => ?_⟩
    · rw [e]; exact (parent_child_iff b pos hnd hb p p c hc).mpr hp
    · rw [e]; exact parent_child_iff b pos hnd hb p p x hx

/-- depth = number of `Parent()` hops up to the replica that reports "no parent" -/
inductive Depth (b : Nat) (pos : List Nat) : Nat → Nat → Prop
  | root {r : Nat} : r ∈ pos → (view b pos r).parent = (r, false) → Depth b pos r 0
  | child {c p d : Nat} : c ∈ pos → (view b pos c).parent = (p, true) → Depth b pos p d → Depth b pos c (d + 1)

theorem depth_onLevel (b : Nat) (pos : List Nat) (hnd : pos.Nodup) (hb : 2 ≤ b) (r d : Nat) (h : Depth b pos r d) :
    ∃ q, ∃ hq : q < pos.length, pos[q] = r ∧ OnLevel b q d := by
  induction h with
  | root hm hp =>
    obtain ⟨q, hq, rfl⟩ := List.getElem_of_mem hm
    exact ⟨q, hq, rfl, onLevel_zero.mpr ((parent_snd_eq_false_iff hnd q hq).mp (by rw [hp]))⟩
  | child hm hp _ ih =>
    obtain ⟨q, hq, rfl⟩ := List.getElem_of_mem hm
    obtain ⟨q', hq', e, hl⟩ := ih
    obtain ⟨h1, h2⟩ := (parent_eq_iff hnd q hq _).mp hp
    obtain ⟨_, e'⟩ := List.getElem?_eq_some_iff.mp h2
    have : (q - 1) / b = q' := (List.getElem_inj hnd).mp (e'.trans e.symm)
    exact ⟨q, hq, rfl, (onLevel_child (by omega) h1).mpr (this ▸ hl)⟩

theorem depth_of_onLevel (b : Nat) (pos : List Nat) (hnd : pos.Nodup) (hb : 2 ≤ b) :
    ∀ d q, ∀ hq : q < pos.length, OnLevel b q d → Depth b pos pos[q] d := by
  intro d
  induction d with
  | zero =>
    intro q hq hl
    obtain rfl := onLevel_zero.mp hl
    exact Depth.root (List.getElem_mem hq) (by rw [parent_getElem hnd 0 hq]; rfl)
  | succ d ih =>
    intro q hq hl
    have h1 : 1 ≤ q := Nat.le_trans (Nat.le_trans (Nat.le_add_left 1 d) (lvlStart_ge b (by omega) (d + 1))) hl.1
    have hpl : (q - 1) / b < pos.length := Nat.lt_trans (parentPos_lt h1) hq
    exact Depth.child (List.getElem_mem hq) ((parent_eq_iff hnd q hq _).mpr ⟨h1, List.getElem?_eq_getElem hpl⟩)
      (ih _ hpl ((onLevel_child (by omega) h1).mp hl))

/-- every replica has a depth: its parent chain ends at the root -/
theorem depth_exists (b : Nat) (pos : List Nat) (hnd : pos.Nodup) (hb : 2 ≤ b) (r : Nat) (hr : r ∈ pos) :
    ∃ d, Depth b pos r d := by
  obtain ⟨q, hq, rfl⟩ := List.getElem_of_mem hr
  obtain ⟨l, hl⟩ := onLevel_exists (b := b) (by omega) q
  exact ⟨l, depth_of_onLevel b pos hnd hb l q hq hl⟩

/-- Heights are consistent with the shape: `ReplicaHeight() + depth = TreeHeight()` for every
replica (so the root's height is the tree height, every child is exactly one lower than its parent,
every height is at least 1), all replicas agree on `TreeHeight()`, and some replica sits on the last
level (depth `TreeHeight()-1`): the tree height is 1 + the largest depth. -/
theorem height_consistent (b : Nat) (pos : List Nat) (hnd : pos.Nodup) (hb : 2 ≤ b) :
    (∀ r d, Depth b pos r d →
        (view b pos r).replicaHeight + d = treeHeight pos.length b ∧ 1 ≤ (view b pos r).replicaHeight) ∧
    (∀ v, (view b pos v).treeHeightOf = treeHeight pos.length b) ∧
    (∀ v p c, c ∈ pos → c ∈ (view b pos v).childrenOf p →
        (view b pos c).replicaHeight + 1 = (view b pos p).replicaHeight) ∧
    (1 ≤ pos.length → ∃ r, Depth b pos r (treeHeight pos.length b - 1)) := by
  have hdepth : ∀ r d, Depth b pos r d →
      (view b pos r).replicaHeight + d = treeHeight pos.length b ∧ 1 ≤ (view b pos r).replicaHeight := by
    intro r d h
    obtain ⟨q, hq, e, hl⟩ := depth_onLevel b pos hnd hb r d h
    subst e
    obtain ⟨h1, h2⟩ := heightOf_getElem (id := pos[q]) hnd hb q hq hl
    have : (view b pos pos[q]).replicaHeight = treeHeight pos.length b - d := h1
    omega
  refine ⟨hdepth, fun v => rfl, ?_, ?_⟩
  · intro v p c hc hch
    have hp := (parent_child_iff b pos hnd hb v p c hc).mp hch
    obtain ⟨hpm, _⟩ := parent_mem b pos hnd hb c p hc hp
    obtain ⟨d, hd⟩ := depth_exists b pos hnd hb p hpm
    have h1 := hdepth p d hd
    have h2 := hdepth c (d + 1) (Depth.child hc hp hd)
    omega
  · intro hn
    obtain ⟨hpos, hlo, hhi⟩ := treeHeight_spec (b := b) (n := pos.length) (by omega) hn
    refine ⟨_, depth_of_onLevel b pos hnd hb _ (pos.length - 1) (by omega) ?_⟩
    unfold OnLevel
    rw [show treeHeight pos.length b - 1 + 1 = treeHeight pos.length b by omega]
    omega

/-- the depth of a replica is unique: a vote has exactly one path up -/
theorem depth_unique (b : Nat) (pos : List Nat) (hnd : pos.Nodup) (hb : 2 ≤ b) (r d d' : Nat)
    (h : Depth b pos r d) (h' : Depth b pos r d') : d = d' := by
  obtain ⟨q, hq, e, hl⟩ := depth_onLevel b pos hnd hb r d h
  obtain ⟨q', hq', e', hl'⟩ := depth_onLevel b pos hnd hb r d' h'
  exact onLevel_unique hl ((List.getElem_inj hnd).mp (e.trans e'.symm) ▸ hl')

/-- Pushing a proposal down (kauri.go `sendProposalToChildren`, every replica forwarding to its own
`ReplicaChildren()`, starting at the tree leader `Root()`): the delivery list is the root followed
by the root's `SubTree()`, and it contains every replica exactly once. -/
theorem proposal_reaches_all_once (b : Nat) (pos : List Nat) (hnd : pos.Nodup) (hb : 2 ≤ b) (hn : 1 ≤ pos.length) :
    disseminate b pos = (view b pos (pos.getD 0 0)).root :: (view b pos (pos.getD 0 0)).subTree ∧
    (disseminate b pos).Perm pos := by
  have h0 : 0 < pos.length := by omega
  have e0 : pos.getD 0 0 = pos[0] := getD_eq_getElem h0
  rw [e0]
  have g := goodCh_mk' (id := pos[0]) hnd hb
  -- the dissemination loop is the SubTree work-list loop with the root in front
  have hloop : ∀ fuel i sub, (∀ x ∈ sub, x ∈ pos) →
      disseminateLoop b pos fuel (i + 1) (pos[0] :: sub) = pos[0] :: subTreeLoop (view b pos pos[0]) fuel i sub := by
    intro fuel
    induction fuel with
    | zero => intro i sub _; rfl
    | succ fuel ih =>
      intro i sub hsub
      unfold disseminateLoop subTreeLoop
      by_cases hlt : i < sub.length
      · have hx : sub.getD i 0 ∈ pos := by
          rw [getD_eq_getElem hlt]; exact hsub _ (List.getElem_mem hlt)
        rw [if_pos hlt, if_pos (show i + 1 < (pos[0] :: sub).length from Nat.succ_lt_succ hlt),
          show (pos[0] :: sub).getD (i + 1) 0 = sub.getD i 0 from rfl,
          newSimple_of_mem hb hx]
        exact ih _ _ fun y hy => (List.mem_append.mp hy).elim (hsub y) (g.sub _ _)
      · rw [if_neg hlt, if_neg (show ¬ i + 1 < (pos[0] :: sub).length from fun h => hlt (Nat.lt_of_succ_lt_succ h))]
  have hd : disseminate b pos = cl b pos pos[0] := by
    unfold disseminate
    rw [e0, cl, subTree_eq]
    unfold disseminateLoop
    rw [if_pos (by simp), show [pos[0]].getD 0 0 = pos[0] from rfl, newSimple_of_mem hb (List.getElem_mem h0)]
    exact hloop _ _ _ (fun x hx => g.sub _ _ hx)
  rw [hd]
  exact ⟨by rw [show (view b pos pos[0]).root = pos[0] from e0]; rfl, cl_root hnd hb h0⟩

/-- Sending a contribution up (kauri/sender.go `SendContributionToParent`, every replica consulting
its own `Parent()`): from a replica of depth `d` the path has exactly `d` hops, ends at the root, and
the hop budget `n` used by the driver is never exhausted. -/
theorem vote_path_up (b : Nat) (pos : List Nat) (hnd : pos.Nodup) (hb : 2 ≤ b) (r d : Nat) (h : Depth b pos r d) :
    d < pos.length ∧ ∀ fuel, d ≤ fuel →
      (voteUp b pos fuel r).length = d + 1 ∧ (voteUp b pos fuel r).head? = some r ∧
      (voteUp b pos fuel r).getLast? = some (pos.getD 0 0) := by
  constructor
  · obtain ⟨q, hq, e, hl⟩ := depth_onLevel b pos hnd hb r d h
    have := lvlStart_ge b (by omega) d
    unfold OnLevel at hl; omega
  · induction h with
    | @root r hm hp =>
      intro fuel _
      obtain ⟨q, hq, rfl⟩ := List.getElem_of_mem hm
      have hq0 : q = 0 := (parent_snd_eq_false_iff hnd q hq).mp (by rw [hp])
      subst hq0
      have e0 : pos.getD 0 0 = pos[0] := getD_eq_getElem hq
      rw [e0]
      cases fuel with
      | zero => simp [voteUp]
      | succ f => simp [voteUp, newSimple_of_mem hb hm, hp]
    | @child c p d hm hp hdp ih =>
      intro fuel hf
      cases fuel with
      | zero => omega
      | succ f =>
        obtain ⟨h1, h2, h3⟩ := ih f (by omega)
        have hne : voteUp b pos f p ≠ [] := by intro e; rw [e] at h1; simp at h1
        simp only [voteUp, newSimple_of_mem hb hm, hp, if_true, List.length_cons, h1, List.head?_cons, true_and]
        rw [List.getLast?_cons_of_ne_nil hne]
        exact h3

/-- `Shuffle` (any random stream) only permutes: the shuffled list assigns the same replicas, each
once, so it is again a valid position assignment; `DefaultTreePos(n)` is the valid assignment 1..n. -/
theorem shuffle_valid (js l : List Nat) :
    (shuffle js l).Perm l ∧ (l.Nodup → (shuffle js l).Nodup) ∧ (shuffle js l).length = l.length := by
  have hp : (shuffle js l).Perm l := by
    unfold shuffle
    apply shuffleLoop_perm
    cases l with
    | nil => right; rfl
    | cons a l => left; simp
  exact ⟨hp, fun h => (hp.nodup_iff).mpr h, hp.length_eq⟩

theorem defaultTreePos_valid (n : Nat) :
    (defaultTreePos n).Nodup ∧ (defaultTreePos n).length = n ∧ ∀ x, x ∈ defaultTreePos n ↔ 1 ≤ x ∧ x ≤ n := by
  unfold defaultTreePos
  refine ⟨?_, by simp, fun x => ?_⟩
  · rw [List.nodup_iff_pairwise_ne]
    exact (List.Pairwise.map (R := (· < ·)) _ (fun a b h => by omega) List.pairwise_lt_range).imp
      (fun h => Nat.ne_of_lt h)
  · simp only [List.mem_map, List.mem_range]
    constructor
    · rintro ⟨a, ha, rfl⟩; omega
    · rintro ⟨h1, h2⟩; exact ⟨x - 1, by omega, by omega⟩

/-- `treeHeight n b` is the number of levels of the `b`-ary heap layout with `n` nodes:
with `S h = 1 + b + … + b^(h-1)`, `S (h-1) < n ≤ S h`. -/
theorem treeHeight_levels (n b : Nat) (hb : 2 ≤ b) (hn : 1 ≤ n) :
    1 ≤ treeHeight n b ∧ lvlStart b (treeHeight n b - 1) < n ∧ n ≤ lvlStart b (treeHeight n b) :=
  treeHeight_spec (by omega) hn

/-- Bridging lemma: the definition regenerated from internal/tree/tree.go `treeHeight` on every run
equals the model's, for every fuel that covers the loop. -/
theorem gen_treeHeight (fuel n b : Nat) (hb : 1 ≤ b) (hf : n ≤ fuel) :
    HsVerif.Gen.treeHeight fuel (n : Int) (b : Int) = (treeHeight n b : Int) := by
  have key : ∀ (f1 f2 : Nat) (x m : Int) (ls h : Nat), 1 ≤ ls → m.toNat ≤ f1 → m.toNat ≤ f2 →
      (HsVerif.Gen.treeHeight_loop x (b : Int) f1 (m, (ls : Int), (h : Int))).2.2 =
        (treeHeightAux b f2 m.toNat ls h : Int) := by
    intro f1
    induction f1 with
    | zero =>
      intro f2 x m ls h hls h1 h2
      have : m.toNat = 0 := by omega
      rw [this]
      cases f2 <;> simp [HsVerif.Gen.treeHeight_loop, treeHeightAux]
    | succ f1 ih =>
      intro f2 x m ls h hls h1 h2
      unfold HsVerif.Gen.treeHeight_loop
      by_cases hm : m > 0
      · have hd : decide (m > 0) = true := by simp [hm]
        rw [hd]
        simp only [if_true]
        cases f2 with
        | zero => omega
        | succ f2 =>
          unfold treeHeightAux
          have hpos : m.toNat > 0 := by omega
          rw [if_pos hpos]
          have e1 : ((ls : Int) * (b : Int)) = ((ls * b : Nat) : Int) := by simp
          have e2 : ((h : Int) + 1) = ((h + 1 : Nat) : Int) := by simp
          have e3 : (m - (ls : Int)).toNat = m.toNat - ls := by omega
          rw [e1, e2, ← e3]
          apply ih
          · exact Nat.mul_pos hls (by omega)
          · omega
          · omega
      · have hd : decide (m > 0) = false := by simp [hm]
        rw [hd]
        have : m.toNat = 0 := by omega
        rw [this]
        cases f2 <;> simp [treeHeightAux]
  have := key fuel n (n : Int) (n : Int) 1 0 (by omega) (by simpa using hf) (by simp)
  simp only [Int.toNat_natCast] at this
  show (HsVerif.Gen.treeHeight_loop (n : Int) (b : Int) fuel ((n : Int), 1, 0)).2.2 = _
  exact this

/-! Non-vacuity: a concrete incomplete, permuted tree (n = 10, b = 3, ids not 1..n). -/

example : let pos := [50, 7, 31, 4, 12, 99, 1, 8, 23, 16]
    (view 3 pos 7).parent = (50, true) ∧ (view 3 pos 50).parent = (50, false) ∧
    (view 3 pos 50).childrenOf 50 = [7, 31, 4] ∧ (view 3 pos 31).replicaChildren = [8, 23, 16] ∧
    (view 3 pos 7).subTree = [12, 99, 1] ∧ (view 3 pos 50).subTree = [7, 31, 4, 12, 99, 1, 8, 23, 16] ∧
    (view 3 pos 4).subTree = [] ∧ (view 3 pos 23).peersOf = [8, 23, 16] ∧
    (view 3 pos 50).replicaHeight = 3 ∧ (view 3 pos 4).replicaHeight = 2 ∧ (view 3 pos 16).replicaHeight = 1 ∧
    disseminate 3 pos = pos ∧ voteUp 3 pos 10 16 = [16, 31, 50] := by decide

example : treeHeight 1 2 = 1 ∧ treeHeight 7 2 = 3 ∧ treeHeight 8 2 = 4 ∧ treeHeight 40 6 = 3 ∧ treeHeight 111 10 = 3 := by decide

example : newSimple 1 1 [1, 2, 3] = none ∧ newSimple 9 2 [1, 2, 3] = none ∧ (newSimple 2 2 [1, 2, 3]).isSome = true := by decide

example : shuffle [0, 1, 0, 2] [1, 2, 3, 4, 5] = [4, 3, 5, 2, 1] := by decide

end HsVerif.Props.C17
