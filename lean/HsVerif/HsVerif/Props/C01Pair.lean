import HsVerif.Proofs.ListFacts
import HsVerif.Proofs.ReplicaPair
import HsVerif.Props.C01Rule
/-! C01, layer B (replica level) — the lock rule as an invariant over the WHOLE vote history of one
replica, for chained and simplified HotStuff (`c.rules ≠ .fast`).
Replica, events, `runEvents` as in Props/C03.lean; vocabulary `sget`, `RuleHolds`
(Proofs/StoreWalk.lean), `LInv` (Proofs/ReplicaLockInv.lean), `ProvIn`, `CoveredBy`, `PairInv`
(Proofs/ReplicaPair.lean; spelled out in the docstring of `lock_rule_history`).

The block `L` that `PairInv` gives for a vote is the lock the replica held when it evaluated the vote rule
for it.  One `step` runs the event loop to quiescence and can append several votes (the replica's own proposal after a view change, then
proposals that were deferred until that view change and are re-queued by it), so this is NOT a
consequence of the one-step theorem `C01Rule.vote_respects_lock`, which does not order the locks of
one step against the votes of the same step; it is carried through every handler together with `LInv`
(`voterVerify` needs `LInv` of that very moment to know that the lock covers all earlier votes).
None of the three facts about `L` mentions the current lock, so `tryCommit` between `voterVerify` and `voteFor`
(`onValidPropose`) does not disturb them. -/
namespace HsVerif.Props.C01Pair
open HsVerif.Model HsVerif.Proofs HsVerif.Props.C03

theorem pair_init (c : RCfg) : PairInv c {} := HsVerif.Model.pair_init c

/-- **One-step preservation**: from ANY state satisfying the lock invariant `LInv` and the history
invariant `PairInv`, the state after delivering ANY event satisfies `PairInv` again: every vote in
the (extended) ghost history — old or cast in this step, however many — has a block `L` that is
genesis or the stored certificate-grandparent of an EARLIER vote, covers every earlier vote, and
against which the vote rule held. -/
theorem step_pair (k : Keys) (c : RCfg) (hc : c.rules ≠ .fast) (s : RState) (e : Ev) (hl : LInv c s)
    (hp : PairInv c s) : PairInv c (step k c s e).1 :=
  (step_lp k c hc s e ⟨hl, hp⟩).2

theorem start_pair (k : Keys) (c : RCfg) (hc : c.rules ≠ .fast) (s : RState) (hl : LInv c s)
    (hp : PairInv c s) : PairInv c (start k c s).1 :=
  (start_lp k c hc s ⟨hl, hp⟩).2

theorem reachable_pair (k : Keys) (c : RCfg) (hc : c.rules ≠ .fast) (es : List Ev) :
    LInv c (runEvents k c (start k c {}).1 es) ∧ PairInv c (runEvents k c (start k c {}).1 es) :=
  runEvents_keeps (I := fun s => LInv c s ∧ PairInv c s) (step_lp k c hc) es _
    (start_lp k c hc {} ⟨C01LockInv.linv_init c, HsVerif.Model.pair_init c⟩)

/-- The moment the witness is fixed: from a state satisfying the lock invariant, a positive answer
of the voter's checks for `b` leaves a state in which `b` is READY — with `L :=` the lock (which the
checks leave alone), `L` is genesis or the stored certificate-grandparent of a vote in the current
ghost history, every vote in the current ghost history is covered by `L.view`, and the vote rule
holds for `b` against `L`. -/
theorem voterVerify_ready (k : Keys) (c : RCfg) (id : Nat) (b : Block) (agg : Option AggQC)
    (s : RState) (hl : LInv c s) (h : ((voterVerify k c id b agg).run s).1 = .ok ()) :
    ∃ L, L = s.lock ∧ ProvIn c ((voterVerify k c id b agg).run s).2 ((voterVerify k c id b agg).run s).2.ghost L ∧
      (∀ x idx, GRec.vote x idx ∈ ((voterVerify k c id b agg).run s).2.ghost →
        CoveredBy c ((voterVerify k c id b agg).run s).2 x L.view) ∧
      RuleHolds c ((voterVerify k c id b agg).run s).2 b L := by
  have hsame := (voterVerify_steps k c id b agg).same s
  have hi := linv_same hsame c hl
  have hr := run_res_of_triple _ (fun _ => True) _ (voterVerify_rh k c id b agg) s trivial h
  have := ready_of_linv_lock c b _ hi hr
  rw [hsame.lock] at this
  exact ⟨s.lock, rfl, this⟩

/-- `tryCommit` — the only thing that moves the lock — leaves the history invariant alone: it neither
reads nor writes the ghost history, and stored lookups survive it. -/
theorem tryCommit_keeps_pair (c : RCfg) (b : Block) (s : RState) (hp : PairInv c s) :
    PairInv c ((tryCommit c b).run s).2 :=
  tryCommit_pair c b s hp

/-- **Changes from outside** (the harness writes fetchable blocks and other replicas' signatures into
the state between events): any change that leaves the ghost history alone and preserves every lookup
of the block store preserves the history invariant (which does not read the lock). -/
theorem external_extension_pair (c : RCfg) (s s' : RState) (hg : s'.ghost = s.ghost)
    (hS : ∀ h b, sget s h = some b → sget s' h = some b) (h : PairInv c s) : PairInv c s' :=
  pair_grows hS hg c h

theorem pair_lock_rule (c : RCfg) (s : RState) (h : PairInv c s) (pre post : List GRec) (w x : Block) (id idx : Nat)
    (he : s.ghost = pre ++ GRec.vote w id :: post) (hx : GRec.vote x idx ∈ pre) :
    ∃ L, ProvIn c s pre L ∧ CoveredBy c s x L.view ∧ RuleHolds c s w L := by
  obtain ⟨L, h1, h2, h3⟩ := h pre w id post he
  exact ⟨L, h1, h2 x idx hx, h3⟩

/-- **The lock rule over the vote history**: in every reachable state, if `GRec.vote x idx` occurs
before `GRec.vote w id` in the ghost history (`pre` = the records before the vote for `w`), there is a
block `L` such that
* `L` is genesis or the stored certificate-grandparent of a block voted for before `w` (`ProvIn … pre`),
* `x` is covered by `L`: chained with `x.qc.hash = ""`, or the block `p` certified by `x.qc` is stored
  and `p.qc.hash = ""` or the block `g` certified by `p.qc` is stored with `g.view ≤ L.view`,
* the vote rule holds for `w` against `L` (`RuleHolds`: chained — the block certified by `w.qc` is
  stored with a view above `L`'s, or `w` reaches `L` along stored parent links; simplified — the block
  certified by `w.qc` is stored and its view is not below `L`'s). -/
theorem lock_rule_history (k : Keys) (c : RCfg) (hc : c.rules ≠ .fast) (es : List Ev)
    (pre post : List GRec) (w x : Block) (id idx : Nat)
    (he : (runEvents k c (start k c {}).1 es).ghost = pre ++ GRec.vote w id :: post)
    (hx : GRec.vote x idx ∈ pre) :
    ∃ L, ProvIn c (runEvents k c (start k c {}).1 es) pre L ∧
      CoveredBy c (runEvents k c (start k c {}).1 es) x L.view ∧
      RuleHolds c (runEvents k c (start k c {}).1 es) w L :=
  pair_lock_rule c _ (reachable_pair k c hc es).2 pre post w x id idx he hx

/-- the same with positions in the ghost history: record `i` is a vote for `x`, record `j > i` a vote
for `w`; the votes `L` may stem from are those among the first `j` records -/
theorem lock_rule_history_idx (k : Keys) (c : RCfg) (hc : c.rules ≠ .fast) (es : List Ev)
    (i j : Nat) (hij : i < j) (w x : Block) (id idx : Nat)
    (hx : (runEvents k c (start k c {}).1 es).ghost[i]? = some (GRec.vote x idx))
    (hw : (runEvents k c (start k c {}).1 es).ghost[j]? = some (GRec.vote w id)) :
    ∃ L, ProvIn c (runEvents k c (start k c {}).1 es) ((runEvents k c (start k c {}).1 es).ghost.take j) L ∧
      CoveredBy c (runEvents k c (start k c {}).1 es) x L.view ∧
      RuleHolds c (runEvents k c (start k c {}).1 es) w L :=
  lock_rule_history k c hc es _ _ w x id idx (split_at_index _ j _ hw) (mem_take_of_index _ i j _ hij hx)

/-- one step from ANY state satisfying both invariants, pairwise form: covers two votes cast in the
same step as well as an old vote and a new one -/
theorem step_lock_rule_history (k : Keys) (c : RCfg) (hc : c.rules ≠ .fast) (s : RState) (e : Ev)
    (hl : LInv c s) (hp : PairInv c s) (pre post : List GRec) (w x : Block) (id idx : Nat)
    (he : (step k c s e).1.ghost = pre ++ GRec.vote w id :: post) (hx : GRec.vote x idx ∈ pre) :
    ∃ L, ProvIn c (step k c s e).1 pre L ∧ CoveredBy c (step k c s e).1 x L.view ∧ RuleHolds c (step k c s e).1 w L :=
  pair_lock_rule c _ (step_pair k c hc s e hl hp) pre post w x id idx he hx

/-! ### non-vacuity

The run of `Props/C01Rule.lean` (chained HotStuff, replica 1 of 4, fixed leader 2, proposals
`P1 ← P2 ← P3 ← P4` of views 1..4).  The vote for `P3` precedes the vote for `P4`; the block `L` of
`lock_rule_history` for this pair is not genesis: covering `P3` forces `L.view ≥ 1` (`P3`'s
certificate-grandparent is `P1`). -/
section NonVacuity
open HsVerif.Props.C01Rule

def nvEvents : List Ev := [.propose 2 nvP1 none, .propose 2 nvP2 none, .propose 2 nvP3 none, .propose 2 nvP4 none]
def nvS : RState := runEvents nvKeys nvCfg (start nvKeys nvCfg {}).1 nvEvents
def nvPre : List GRec := [.vote nvP1 2, .adv 1 1 false, .vote nvP2 2, .adv 2 2 false, .vote nvP3 2, .adv 3 3 false]

theorem nv_ghost : nvS.ghost = nvPre ++ GRec.vote nvP4 2 :: [] := by decide +kernel
theorem nv_p2 : sget nvS "P2" = some nvP2 := by decide +kernel
theorem nv_p1 : sget nvS "P1" = some nvP1 := by decide +kernel

example : ∃ L, ProvIn nvCfg nvS nvPre L ∧ 1 ≤ L.view ∧ RuleHolds nvCfg nvS nvP4 L := by
  obtain ⟨L, h1, h2, h3⟩ := lock_rule_history nvKeys nvCfg (by decide) nvEvents nvPre [] nvP4 nvP3 2 2 nv_ghost
    (by decide)
  refine ⟨L, h1, ?_, h3⟩
  rcases h2 with ⟨_, h⟩ | ⟨p, hp, h⟩
  · exact absurd h (by decide)
  · have hp' : sget nvS "P2" = some p := hp
    rw [nv_p2] at hp'; cases hp'
    rcases h with h | ⟨g, hg, hv⟩
    · exact absurd h (by decide)
    · have hg' : sget nvS "P1" = some g := hg
      rw [nv_p1] at hg'; cases hg'
      exact hv
end NonVacuity

end HsVerif.Props.C01Pair
