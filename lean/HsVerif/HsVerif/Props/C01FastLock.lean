import HsVerif.Props.C01Rule
import HsVerif.Proofs.ReplicaFastLock
import HsVerif.Proofs.FastSys
import HsVerif.Props.C03
/-! C01, Fast-HotStuff, replica level: THE REPLICA MODEL KEEPS `LockJust` — the QC views of the blocks
a replica votes for never go down.  Helpers in Proofs/ReplicaFastLock.lean.

`fast_safe_if_locked` (Props/C01FastExact.lean) proves safety of Fast-HotStuff in the abstract timed model under
the hypothesis `LockJust`: an honest replica never votes for a block whose QC is lower (by view) than the QC of a
block it voted for earlier.  The code enforces this (`Voter.lastVotedQCView`), the replica
model mirrors it (`votedQCView`, the check in `voterVerify`).  A voted block `b` has `b.parent = b.qc.hash` and a
verified QC (`C03.vote_wellformed`), so `b.qc.view` is the view of its parent — `S.view (S.par b)` of `LockJust`.
`QCMono` is inductive TOGETHER with C03's vote-discipline invariant `Inv3` (the case WITHOUT aggregate QC rests on
it); no hypothesis on scheme, `n`, leaders, keys or `c.agg`.  The statement is about Fast-HotStuff ONLY. -/
namespace HsVerif.Props.C01FastLock
open HsVerif.Model HsVerif.Props.C03

theorem qcMono_iff_views (c : RCfg) (s : RState) :
    QCMono c s ↔ (c.rules = .fast → (qcViews s.ghost).Pairwise (· ≤ ·)) := by
  unfold QCMono; rw [qcOrd_iff_views]

theorem qcMono_iff_voted (c : RCfg) (s : RState) :
    QCMono c s ↔ (c.rules = .fast → ∀ pre w id post, s.ghost = pre ++ GRec.vote w id :: post →
      votedQCView pre ≤ w.qc.view) := by
  unfold QCMono; rw [qcOrd_iff_voted]

/-- **Every reachable state** (initial state, `Start`, then ANY sequence of delivered events) satisfies `QCMono` -/
theorem reachable_qcmono (k : Keys) (c : RCfg) (es : List Ev) :
    QCMono c (runEvents k c (start k c {}).1 es) :=
  (runEvents_keeps (step_q k c) es _ (start_q k c {} (qcInv_init k c))).2

/-- **The QC views of voted blocks never go down** (Fast-HotStuff): in every reachable state, if record `i` of
the ghost history is a vote for `x` and record `j > i` a vote for `w`, then `x.qc.view ≤ w.qc.view` -/
theorem fast_votes_qc_monotone (k : Keys) (c : RCfg) (hc : c.rules = .fast) (es : List Ev)
    (i j : Nat) (hij : i < j) (x w : Block) (idx id : Nat)
    (hx : (runEvents k c (start k c {}).1 es).ghost[i]? = some (GRec.vote x idx))
    (hw : (runEvents k c (start k c {}).1 es).ghost[j]? = some (GRec.vote w id)) :
    x.qc.view ≤ w.qc.view :=
  qcOrd_idx _ (reachable_qcmono k c es hc) i j hij x w idx id hx hw

theorem fast_votes_qc_monotone_split (k : Keys) (c : RCfg) (hc : c.rules = .fast) (es : List Ev)
    (pre post : List GRec) (x w : Block) (idx id : Nat)
    (he : (runEvents k c (start k c {}).1 es).ghost = pre ++ GRec.vote w id :: post)
    (hx : GRec.vote x idx ∈ pre) : x.qc.view ≤ w.qc.view := by
  have h := reachable_qcmono k c es hc
  unfold QCOrd at h
  rw [he, List.pairwise_append] at h
  exact h.2.2 _ hx (GRec.vote w id) (by simp) x.qc.view w.qc.view rfl rfl

theorem fast_qc_views_sorted (k : Keys) (c : RCfg) (hc : c.rules = .fast) (es : List Ev) :
    (qcViews (runEvents k c (start k c {}).1 es).ghost).Pairwise (· ≤ ·) :=
  (qcOrd_iff_views _).mp (reachable_qcmono k c es hc)

/-- every vote is cast on a QC at least as high as `votedQCView` (`Voter.lastVotedQCView`) of the history before
it — with or without aggregate QC -/
theorem fast_vote_above_votedQCView (k : Keys) (c : RCfg) (hc : c.rules = .fast) (es : List Ev)
    (pre post : List GRec) (w : Block) (id : Nat)
    (he : (runEvents k c (start k c {}).1 es).ghost = pre ++ GRec.vote w id :: post) :
    votedQCView pre ≤ w.qc.view :=
  (qcOrd_iff_voted _).mp (reachable_qcmono k c es hc) pre w id post he

/-- **Every replica of every reachable system state** satisfies C03's invariant and `QCMono` — whatever the
adversary delivers, forges or makes fetchable (both read the ghost history and `lastVoted` only) -/
theorem sys_qcmono (k : Keys) (C : SysCfg) (σ : SysState) (hr : Reach k C σ) :
    ∀ i s, σ.reps.lookup i = some s → Inv3 k (C.rcfg i) s ∧ QCMono (C.rcfg i) s :=
  HsVerif.FastSys.reach_qcInv k C σ hr

theorem sys_fast_votes_qc_monotone (k : Keys) (C : SysCfg) (hc : C.rules = .fast) (σ : SysState) (hr : Reach k C σ)
    (r : Nat) (s : RState) (hs : σ.reps.lookup r = some s)
    (i j : Nat) (hij : i < j) (x w : Block) (idx id : Nat)
    (hx : s.ghost[i]? = some (GRec.vote x idx)) (hw : s.ghost[j]? = some (GRec.vote w id)) :
    x.qc.view ≤ w.qc.view :=
  qcOrd_idx _ ((sys_qcmono k C σ hr r s hs).2 hc) i j hij x w idx id hx hw

/-! ### chained and simplified HotStuff: the statement does NOT hold

Replica 1 of 4, fixed leader 2, BLS (other replicas' signatures verify without truth-table entries).  Proposals
`P1` (view 1, genesis QC) and `P2` (view 2, QC for `P1`) are voted for; the lock stays genesis (two certificate
links below `P2`).  A NewView with a QC for `P2` takes the replica to view 3, where the leader proposes `L3`
(view 3, parent genesis, genesis QC): it extends the lock (chained) / its QC block is not below the lock
(simplified), so it is voted for. -/
section Counterexamples

/-- a BLS quorum certificate by replicas 1, 2, 3 -/
def exQC (h : Hash) (v : Nat) : QC :=
  ⟨some (.bls [⟨1, blkMsg h⟩, ⟨2, blkMsg h⟩, ⟨3, blkMsg h⟩] [] (((Bitfield.empty.add 1).add 2).add 3)), v, h⟩
def exP1 : Block := { hash := "P1", parent := "G", view := 1, proposer := 2, qc := genesisQC }
def exP2 : Block := { hash := "P2", parent := "P1", view := 2, proposer := 2, qc := exQC "P1" 1 }
def exL3 : Block := { hash := "L3", parent := "G", view := 3, proposer := 2, qc := genesisQC }

def cxKeys : Keys := ⟨tmoMsgKey⟩
def cxChained : RCfg := { n := 4, id := 1, rules := .chained, agg := false, scheme := .bls12, leaders := .fixed 2 }
def cxSimple : RCfg := { n := 4, id := 1, rules := .simple, agg := false, scheme := .bls12, leaders := .fixed 2 }
def cxEvents : List Ev :=
  [.propose 2 exP1 none, .propose 2 exP2 none, .newview 3 { qc := some (exQC "P2" 2) }, .propose 2 exL3 none]

theorem cx_chained_ghost : (runEvents cxKeys cxChained (start cxKeys cxChained {}).1 cxEvents).ghost =
    [.vote exP1 2, .adv 1 1 false, .vote exP2 2, .adv 2 2 false, .vote exL3 2] := by decide +kernel

theorem cx_simple_ghost : (runEvents cxKeys cxSimple (start cxKeys cxSimple {}).1 cxEvents).ghost =
    [.vote exP1 2, .adv 1 1 false, .vote exP2 2, .adv 2 2 false, .vote exL3 2] := by decide +kernel

/-- **Chained HotStuff does not keep the QC views of its votes in order**: a reachable state with a vote on a
QC of view 1 followed by a vote on a QC of view 0 -/
theorem chained_qc_not_monotone :
    ∃ (k : Keys) (c : RCfg) (es : List Ev) (i j : Nat) (x w : Block) (idx id : Nat), c.rules = .chained ∧ i < j ∧
      (runEvents k c (start k c {}).1 es).ghost[i]? = some (GRec.vote x idx) ∧
      (runEvents k c (start k c {}).1 es).ghost[j]? = some (GRec.vote w id) ∧ w.qc.view < x.qc.view ∧
      ¬ QCOrd (runEvents k c (start k c {}).1 es).ghost := by
  refine ⟨cxKeys, cxChained, cxEvents, 2, 4, exP2, exL3, 2, 2, rfl, by decide, ?_, ?_, by decide, ?_⟩
  · rw [cx_chained_ghost]; rfl
  · rw [cx_chained_ghost]; rfl
  · rw [qcOrd_iff_views, cx_chained_ghost]; decide

theorem simple_qc_not_monotone :
    ∃ (k : Keys) (c : RCfg) (es : List Ev) (i j : Nat) (x w : Block) (idx id : Nat), c.rules = .simple ∧ i < j ∧
      (runEvents k c (start k c {}).1 es).ghost[i]? = some (GRec.vote x idx) ∧
      (runEvents k c (start k c {}).1 es).ghost[j]? = some (GRec.vote w id) ∧ w.qc.view < x.qc.view ∧
      ¬ QCOrd (runEvents k c (start k c {}).1 es).ghost := by
  refine ⟨cxKeys, cxSimple, cxEvents, 2, 4, exP2, exL3, 2, 2, rfl, by decide, ?_, ?_, by decide, ?_⟩
  · rw [cx_simple_ghost]; rfl
  · rw [cx_simple_ghost]; rfl
  · rw [qcOrd_iff_views, cx_simple_ghost]; decide

end Counterexamples

/-! ### non-vacuity: Fast-HotStuff with aggregate QCs

Replica 1 of 4, `rules := .fast, agg := true`, fixed leader 2, BLS.  With aggregate QCs a plain QC does not end a
view (`verifySyncInfo`, `fix:` 4f3d40f), so views end by timeout certificates.  The timeout-message key of the run
is a plain string function (the canonical `tmoMsgKey` prints the QC with `reprStr`, which the kernel does not
evaluate); it is injective in signer, view and what the QC certifies, and never a block key. -/
section NonVacuity

def fsKeys : Keys :=
  ⟨fun id v q => "tmo:" ++ toString id ++ ":" ++ toString v ++ ":" ++
    (match q with | none => "-" | some q => q.hash ++ "@" ++ toString q.view)⟩
def fsCfg : RCfg := { n := 4, id := 1, rules := .fast, agg := true, scheme := .bls12, leaders := .fixed 2 }
def fsTC (v : Nat) : TC :=
  ⟨some (.bls [⟨1, viewMsg v⟩, ⟨2, viewMsg v⟩, ⟨3, viewMsg v⟩] [] (((Bitfield.empty.add 1).add 2).add 3)), v⟩
/-- an aggregate QC of view `v`: replicas 1, 2, 3 report `q1`, `q2`, `q3`, each signing its timeout message -/
def fsAgg (v : Nat) (q1 q2 q3 : QC) : AggQC :=
  ⟨[(1, q1), (2, q2), (3, q3)],
   some (.bls [⟨1, fsKeys.tmo 1 v (some q1)⟩, ⟨2, fsKeys.tmo 2 v (some q2)⟩, ⟨3, fsKeys.tmo 3 v (some q3)⟩] []
     (((Bitfield.empty.add 1).add 2).add 3)), v⟩
/-- view 1 timed out; replicas 1 and 2 report the QC for `P1`, replica 3 the genesis QC -/
def fsA1 : AggQC := fsAgg 1 (exQC "P1" 1) (exQC "P1" 1) genesisQC
/-- view 2 timed out; all three report the genesis QC -/
def fsA2 : AggQC := fsAgg 2 genesisQC genesisQC genesisQC

/-- `P1` without aggregate QC; TC for view 1; `P2` (QC for `P1`) WITH the aggregate QC `fsA1`; TC for view 2;
`L3` (genesis QC) with the aggregate QC `fsA2` -/
def fsEvents : List Ev :=
  [.propose 2 exP1 none, .newview 3 { tc := some (fsTC 1) }, .propose 2 exP2 (some fsA1),
   .newview 3 { tc := some (fsTC 2) }, .propose 2 exL3 (some fsA2)]
def fsEvents' : List Ev :=
  [.propose 2 exP1 none, .newview 3 { tc := some (fsTC 1) },
   .newview 3 { tc := some (fsTC 2) }, .propose 2 exL3 (some fsA2)]

/-- two votes, the second for a proposal with a verified aggregate QC; the low proposal `L3` leaves no record -/
theorem fs_ghost : (runEvents fsKeys fsCfg (start fsKeys fsCfg {}).1 fsEvents).ghost =
    [.vote exP1 2, .adv 1 1 true, .vote exP2 2, .adv 2 2 true] := by decide +kernel

theorem fs_ghost' : (runEvents fsKeys fsCfg (start fsKeys fsCfg {}).1 fsEvents').ghost =
    [.vote exP1 2, .adv 1 1 true, .adv 2 2 true, .vote exL3 2] := by decide +kernel

/-- **the theorem applies to a run with two votes**, the later one on an aggregate-QC proposal: QC views `[0, 1]` -/
theorem fs_run : fsCfg.rules = .fast ∧ fsCfg.agg = true ∧
    qcViews (runEvents fsKeys fsCfg (start fsKeys fsCfg {}).1 fsEvents).ghost = [0, 1] ∧
    exP1.qc.view ≤ exP2.qc.view := by
  refine ⟨rfl, rfl, by rw [fs_ghost]; rfl, ?_⟩
  exact fast_votes_qc_monotone fsKeys fsCfg rfl fsEvents 0 2 (by decide) exP1 exP2 2 2
    (by rw [fs_ghost]; rfl) (by rw [fs_ghost]; rfl)

/-- **the rejected case**: the replica is in view 3 with `lastVoted = 2`, `L3` comes from the leader of view 3 with
an aggregate QC of view 2 that verifies and whose highest QC is `L3`'s own (genesis) QC, `L3` extends the block its
QC certifies — but `L3.qc.view = 0 < 1 = votedQCView`: no vote for `L3` -/
theorem fs_low_rejected :
    ∀ id, GRec.vote exL3 id ∉ (runEvents fsKeys fsCfg (start fsKeys fsCfg {}).1 fsEvents).ghost := by
  intro id hm
  rw [fs_ghost] at hm
  simp only [List.mem_cons, List.not_mem_nil, or_false] at hm
  rcases hm with h | h | h | h
  · exact absurd (GRec.vote.inj h).1 (by decide)
  · cases h
  · exact absurd (GRec.vote.inj h).1 (by decide)
  · cases h

/-- … and it is that check which rejects it: without the earlier vote for `P2` the same proposal, in the same
view, with the same aggregate QC, IS voted for (QC views `[0, 0]`) -/
theorem fs_low_accepted_without_p2 :
    GRec.vote exL3 2 ∈ (runEvents fsKeys fsCfg (start fsKeys fsCfg {}).1 fsEvents').ghost ∧
    qcViews (runEvents fsKeys fsCfg (start fsKeys fsCfg {}).1 fsEvents').ghost = [0, 0] := by
  rw [fs_ghost']; exact ⟨by simp, rfl⟩

end NonVacuity

end HsVerif.Props.C01FastLock
