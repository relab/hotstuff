import HsVerif.Proofs.Queue
import HsVerif.Proofs.EventLoop
/-! C14 — event loop: events are handled once each, in order, prioritised observers first.
Model: `Model/Queue.lean` (ring buffer as coded, with the repaired `push`),
`Model/EventLoop.lean` (handler table with free-slot reuse, AddEvent / Tick / DelayUntil as coded, with
the repaired idempotent unregister closure).  All statements are for every capacity `c ≥ 1`, every
word / script, every handler behaviour expressible by `Act`. -/
namespace HsVerif.Props.C14
open HsVerif.Model HsVerif.Model.Queue HsVerif.Model.EL HsVerif.Model.Obs

/-- The ring buffer refines the bounded deque: for every capacity ≥ 1 and every word over
push / pop / len the outputs (reported drops, popped values, lengths) are those of the ideal deque. -/
theorem queue_refines_deque {α : Type} (c : Nat) (hc : 1 ≤ c) (w : List (QOp α)) :
    ((Queue.new c : Queue α).run w).2 = (Deque.run c [] w).2 :=
  (run_refines hc w (rel_new c)).1

/-- … and the content of the ring (read from head to tail) is the deque's content. -/
theorem queue_abs_refines {α : Type} (c : Nat) (hc : 1 ≤ c) (w : List (QOp α)) :
    ((Queue.new c : Queue α).run w).1.abs = (Deque.run c [] w).1 :=
  rel_abs (run_refines hc w (rel_new c)).2

theorem reach_rel {α : Type} (c : Nat) (hc : 1 ≤ c) (w : List (QOp α)) :
    Rel c ((Queue.new c : Queue α).run w).1 ((Queue.new c : Queue α).run w).1.abs :=
  (run_refines hc w (rel_new c)).2.abs_self

/-- Never more than `c` entries. -/
theorem queue_bounded {α : Type} (c : Nat) (hc : 1 ≤ c) (w : List (QOp α)) :
    ((Queue.new c : Queue α).run w).1.abs.length ≤ c :=
  (reach_rel c hc w).hle

/-- Below capacity nothing is lost: after any history, a push onto a queue with room appends and
reports no drop. -/
theorem no_loss_below_capacity {α : Type} (c : Nat) (hc : 1 ≤ c) (w : List (QOp α)) (x : α) :
    let q := ((Queue.new c : Queue α).run w).1
    q.abs.length < c → (q.push x).2 = none ∧ (q.push x).1.abs = q.abs ++ [x] :=
  push_abs_of_lt hc (reach_rel c hc w) x

/-- On overflow exactly the oldest entry is dropped, and exactly that entry is reported. -/
theorem overflow_drops_oldest_and_reports_it {α : Type} (c : Nat) (hc : 1 ≤ c) (w : List (QOp α)) (x : α) :
    let q := ((Queue.new c : Queue α).run w).1
    q.abs.length = c → (q.push x).2 = q.abs.head? ∧ (q.push x).1.abs = q.abs.tail ++ [x] :=
  push_abs_of_eq hc (reach_rel c hc w) x

/-- pop returns the oldest entry (or nothing when empty); len is the number of entries. -/
theorem pop_is_oldest_len_is_length {α : Type} (c : Nat) (hc : 1 ≤ c) (w : List (QOp α)) :
    let q := ((Queue.new c : Queue α).run w).1
    q.pop.2 = q.abs.head? ∧ q.pop.1.abs = q.abs.tail ∧ q.len = q.abs.length :=
  have r := reach_rel c hc w
  ⟨(rel_pop r).2, rel_abs (rel_pop r).1, rel_len r⟩

/-- The unchanged tree's `push` does not refine the deque: capacity 2, push 1, 2, 3 reports 2 as
dropped (the ideal queue reports 1, and 2 is in fact still queued and is popped next). -/
theorem push_as_found_counterexample :
    ((Queue.new 2 : Queue Nat).runAsFound [.push 1, .push 2, .push 3, .pop]).2
      = [.pushed none, .pushed none, .pushed (some 2), .popped (some 2)] ∧
    (Deque.run 2 ([] : List Nat) [.push 1, .push 2, .push 3, .pop]).2
      = [.pushed none, .pushed none, .pushed (some 1), .popped (some 2)] := by
  constructor <;> decide

/-- In every state reachable by a script the handler table is consistent with the closures handed out. -/
theorem table_consistent (c : Nat) (hc : 1 ≤ c) (progs : List (List Act)) (ops : List Op) :
    WF c (run (EL.new c progs) ops).1 :=
  (good_run hc ops (wf_new c progs)).wf

/-- FIFO accounting for every script: the events pushed (by AddEvent from outside, from handlers, or
by re-adding deferred events), in push order, are exactly the events that left the queue at its head
— handled or reported dropped —, in that order, followed by the events still pending.  Hence no event
is lost or duplicated, events are handled in the order in which they were added, and what is dropped
is always the oldest pending event and is reported. -/
theorem fifo_accounting (c : Nat) (hc : 1 ≤ c) (progs : List (List Act)) (ops : List Op) :
    pushedOf (run (EL.new c progs) ops).2 =
      leftOf (run (EL.new c progs) ops).2 ++ (run (EL.new c progs) ops).1.q.abs := by
  have h := (good_run hc ops (wf_new c progs)).qf
  have h0 : (EL.new c progs).q.abs = [] := rel_abs (rel_new c)
  rw [h0, List.nil_append] at h
  exact h

/-- Events are handled in the order they were added, each at most once. -/
theorem handled_in_add_order (c : Nat) (hc : 1 ≤ c) (progs : List (List Act)) (ops : List Op) :
    (poppedOf (run (EL.new c progs) ops).2).Sublist (pushedOf (run (EL.new c progs) ops).2) := by
  rw [fifo_accounting c hc progs ops]
  exact (popped_sublist_left _).trans (List.sublist_append_left _ _)

/-- While nothing is reported dropped nothing is lost and nothing is duplicated: the events added are
exactly the events handled, in order, followed by the events still pending. -/
theorem no_loss_no_duplication (c : Nat) (hc : 1 ≤ c) (progs : List (List Act)) (ops : List Op)
    (h : droppedOf (run (EL.new c progs) ops).2 = []) :
    pushedOf (run (EL.new c progs) ops).2 =
      poppedOf (run (EL.new c progs) ops).2 ++ (run (EL.new c progs) ops).1.q.abs := by
  rw [fifo_accounting c hc progs ops, left_eq_popped_of_no_drop _ h]

/-- The push inside AddEvent, in any reachable state: with room left nothing is dropped or reported;
on a full queue the oldest pending event is dropped and exactly it is reported. -/
theorem drop_only_when_full_and_reported (c : Nat) (hc : 1 ≤ c) (progs : List (List Act)) (ops : List Op) (e : LEv) :
    let s := (run (EL.new c progs) ops).1
    s.q.abs.length ≤ c ∧
    (s.q.abs.length < c → (s.pushEv e).2 = [.pushed e] ∧ (s.pushEv e).1.q.abs = s.q.abs ++ [e]) ∧
    (s.q.abs.length = c → ∃ d, s.q.abs.head? = some d ∧ (s.pushEv e).2 = [.pushed e, .dropped d] ∧
        (s.pushEv e).1.q.abs = s.q.abs.tail ++ [e]) := by
  intro s
  obtain ⟨l, (hl : Rel c s.q l)⟩ := (table_consistent c hc progs ops).q
  rw [rel_abs hl]
  rcases pushEv_spec hc hl e with ⟨hlt, h⟩ | ⟨d, t, rfl, heq, h1, h2⟩
  · exact ⟨hl.hle, fun _ => h, fun heq => absurd heq (Nat.ne_of_lt hlt)⟩
  · exact ⟨hl.hle, fun hlt => absurd heq (Nat.ne_of_lt hlt), fun _ => ⟨d, rfl, h1, h2⟩⟩

/-- Tick on an empty queue handles nothing; otherwise it handles the oldest pending event. -/
theorem tick_idle_iff_empty (c : Nat) (s : EL) (hwf : WF c s) : (tick s).2 = none ↔ s.q.abs = [] := by
  rcases tick_cases hwf with ⟨h1, h2⟩ | ⟨e, rest, h1, _, _, h2⟩
  · simp [h1, h2]
  · simp [h1, h2]

/-- Dispatch: when Tick handles an event `e` — necessarily the oldest pending one — the handlers called
from the loop are called with `e`, and they are exactly the registrations for `e`'s type whose closure
has not been called at dispatch time (loop mode), each exactly once, all prioritised ones before all
ordinary ones.  (For every state with a consistent table, in particular every reachable state.) -/
theorem dispatch_once_in_order (c : Nat) (s s' : EL) (hwf : WF c s) (log : List Obs)
    (h : tick s = (s', some log)) :
    ∃ (e : LEv) (ps os : List Nat), s.q.abs.head? = some e ∧
      invsOf false log = (ps ++ os).map (fun r => (r, e)) ∧
      (ps ++ os).Nodup ∧
      (∀ r, r ∈ ps ++ os ↔ Registered s r e.ty false) ∧
      (∀ r ∈ ps, IsPrio s r) ∧ (∀ r ∈ os, ¬ IsPrio s r) := by
  rcases tick_cases hwf with ⟨_, h2⟩ | ⟨e, rest, h1, _, hwf1, h2⟩ <;> rw [h2] at h <;> cases h
  obtain ⟨n1, n2, n3, n4⟩ := snapshot_spec hwf1 e.ty false
  refine ⟨e, _, _, by rw [h1]; rfl, ?_, n1, n2, n3, n4⟩
  show invsOf false ((processEvent addEvent false _ e).2 ++ _) = _
  rw [invsOf_append, processLoop_invs, dispatchDelayed_invsFalse, List.append_nil]

/-- The literal "for every sequence of add / defer / register / unregister / tick": after any script, the
next Tick dispatches as stated above. -/
theorem dispatch_once_in_order_after_any_script (c : Nat) (hc : 1 ≤ c) (progs : List (List Act)) (ops : List Op)
    (s' : EL) (log : List Obs) (h : tick (run (EL.new c progs) ops).1 = (s', some log)) :
    ∃ (e : LEv) (ps os : List Nat), (run (EL.new c progs) ops).1.q.abs.head? = some e ∧
      invsOf false log = (ps ++ os).map (fun r => (r, e)) ∧
      (ps ++ os).Nodup ∧
      (∀ r, r ∈ ps ++ os ↔ Registered (run (EL.new c progs) ops).1 r e.ty false) ∧
      (∀ r ∈ ps, IsPrio (run (EL.new c progs) ops).1 r) ∧ (∀ r ∈ os, ¬ IsPrio (run (EL.new c progs) ops).1 r) :=
  dispatch_once_in_order c _ s' (table_consistent c hc progs ops) log h

/-- The same for the handlers that run inside AddEvent (UnsafeRunInAddEvent): every AddEvent(e) calls
exactly the in-add registrations for `e`'s type, once each, prioritised first, before the push. -/
theorem add_dispatch_once_in_order (c : Nat) (s : EL) (hwf : WF c s) (e : LEv) :
    ∃ ps os : List Nat,
      invsOf true (addEvent s e).2 = (ps ++ os).map (fun r => (r, e)) ∧
      (ps ++ os).Nodup ∧
      (∀ r, r ∈ ps ++ os ↔ Registered s r e.ty true) ∧
      (∀ r ∈ ps, IsPrio s r) ∧ (∀ r ∈ os, ¬ IsPrio s r) ∧
      invsOf false (addEvent s e).2 = [] := by
  obtain ⟨n1, n2, n3, n4⟩ := snapshot_spec hwf e.ty true
  exact ⟨_, _, addEvent_invs s e, n1, n2, n3, n4, addEvent_invsFalse s e⟩

/-- Registration and unregistration do what they say, in every consistent state: after `Register` the
new registration is registered; after its closure is called it is not; nobody else is affected. -/
theorem register_registers (c : Nat) (s : EL) (hwf : WF c s) (t : Nat) (o : HOpts) (acts : List Act) (q : Bool) :
    Registered (s.register t o acts q) s.regs.length t o.inAdd ∧
    ∀ r t' m, r ≠ s.regs.length → (Registered (s.register t o acts q) r t' m ↔ Registered s r t' m) := by
  obtain ⟨i, l', e, -⟩ := register_eq s t o acts q
  rw [e]
  refine ⟨⟨_, List.getElem?_concat_length, rfl, fun hm => Nat.lt_irrefl _ (hwf.unregdLt _ hm), rfl⟩,
    fun r t' m hne => ?_⟩
  simp only [Registered, getElem?_concat_eq_some]
  constructor
  · rintro ⟨rec, a1 | ⟨a1, _⟩, a2⟩
    · exact ⟨rec, a1, a2⟩
    · exact absurd a1 hne
  · rintro ⟨rec, a1, a2⟩
    exact ⟨rec, Or.inl a1, a2⟩

theorem unregister_unregisters (s : EL) (r : Nat) :
    (∀ t m, ¬ Registered (s.unregister r) r t m) ∧
    ∀ r' t m, r' ≠ r → (Registered (s.unregister r) r' t m ↔ Registered s r' t m) := by
  rcases unregister_eq s r with ⟨e, hn⟩ | ⟨rec, hrec, hnm, e⟩ <;> rw [e]
  · -- the closure does nothing: it does not exist yet or has been called, so `r` is not registered anyway
    refine ⟨?_, fun _ _ _ _ => Iff.rfl⟩
    rintro t m ⟨rec, a1, _, a3, _⟩
    rcases hn with hn | hm
    · rw [hn] at a1; cases a1
    · exact a3 hm
  · refine ⟨fun t m ⟨_, _, _, a3, _⟩ => a3 (List.mem_cons_self ..), fun r' t m hne => ?_⟩
    simp [Registered, hne]

/-- Calling an unregister closure again changes nothing (repaired code). -/
theorem unregister_idempotent (s : EL) (r : Nat) : (s.unregister r).unregister r = s.unregister r := by
  rcases unregister_eq s r with ⟨e, _⟩ | ⟨_, _, _, e⟩
  · rw [e, e]
  · rcases unregister_eq (s.unregister r) r with ⟨e', _⟩ | ⟨_, _, hnm, _⟩
    · exact e'
    · rw [e] at hnm
      exact absurd (List.mem_cons_self ..) hnm

/-- The closure of the unchanged tree is not idempotent: Register h0, call its closure, Register h1 (which
reuses the slot), call h0's closure again — h1 is still registered (nobody called its closure) but its
slot is empty, so an event of its type is handled by nobody; with the repaired closure h1 is called. -/
theorem unregister_as_found_counterexample :
    let s0 := EL.new 2 []
    let reg := fun (s : EL) => s.register 0 ⟨false, false⟩ [] false
    let bad := ((reg (reg s0 |>.unregisterAsFound 0)).unregisterAsFound 0)
    let good := ((reg (reg s0 |>.unregister 0)).unregister 0)
    (1 ∉ bad.unregd ∧ invsOf false (run bad [.add ⟨0, 7⟩, .tick]).2 = []) ∧
    (invsOf false (run good [.add ⟨0, 7⟩, .tick]).2 = [(1, ⟨0, 7⟩)]) := by
  decide

/-- Deferred events, accounting for every script and every awaited type `t`: the events deferred until
`t` (by DelayUntil from outside or from handlers), in deferral order, are exactly the events re-added
for `t`, in that order, followed by the events still waiting for `t`: each deferred event is re-added at
most once, none is lost, order is kept. -/
theorem deferred_accounting (c : Nat) (hc : 1 ≤ c) (progs : List (List Act)) (ops : List Op) (t : Nat) :
    deferredOf t (run (EL.new c progs) ops).2 =
      readdOf t (run (EL.new c progs) ops).2 ++ (run (EL.new c progs) ops).1.waiting t := by
  have h := (good_run hc ops (wf_new c progs)).wl t
  simpa [EL.new] using h

/-- Deferred events are delivered after an event of the awaited type has been handled, and only then:
the log of a Tick that handles `e` is `popped e`, then the handler phase (all loop handlers of `e`; nothing
is re-added here), then the re-add phase (no loop handler runs here) which re-adds, once each and in
deferral order, exactly the events waiting for `e`'s type — those deferred before this Tick and those
deferred by `e`'s own handlers — and re-adds nothing for any other type. -/
theorem deferred_once_after_trigger_in_order (c : Nat) (hc : 1 ≤ c) (s s' : EL) (hwf : WF c s) (log : List Obs)
    (h : tick s = (s', some log)) :
    ∃ e l1 l2, s.q.abs.head? = some e ∧ log = .popped e :: l1 ++ l2 ∧
      (∀ t, readdOf t l1 = []) ∧ invsOf false l2 = [] ∧
      readdOf e.ty l2 = s.waiting e.ty ++ deferredOf e.ty l1 ∧
      (∀ t, t ≠ e.ty → readdOf t l2 = []) := by
  rcases tick_cases hwf with ⟨_, h2⟩ | ⟨e, rest, h1, _, hwf1, h2⟩ <;> rw [h2] at h <;> cases h
  have g := (good_processEvent (good_addEvent hc) false hwf1 e).wl e.ty
  rw [processLoop_readd] at g
  refine ⟨e, _, _, by rw [h1]; rfl, rfl, fun t => processLoop_readd t _ e, dispatchDelayed_invsFalse .., ?_,
    fun t ht => ?_⟩
  · rw [dispatchDelayed_readd, if_pos rfl]
    exact g.symm
  · rw [dispatchDelayed_readd, if_neg (Ne.symm ht)]

/-- Nothing but a Tick re-adds deferred events. -/
theorem readd_only_in_tick (s : EL) (o : Op) (ho : o ≠ .tick) (t : Nat) : readdOf t (step s o).2 = [] := by
  cases o with
  | add e => exact addEvent_readd t s e
  | delay t' e => rfl
  | reg t' o a q => rfl
  | unreg r => rfl
  | cancel x => rfl
  | tick => exact absurd rfl ho

/-- capacity 2, wrap-around and overflow: 1, 2 pushed, 1 popped, 3 pushed (the ring wraps around), 4 pushed into the full
queue — 2, the oldest entry, is dropped and reported —, then 3, 4 popped in order and the queue is empty -/
example : ((Queue.new 2 : Queue Nat).run [.push 1, .push 2, .pop, .push 3, .push 4, .len, .pop, .pop, .pop]).2 =
    [.pushed none, .pushed none, .popped (some 1), .pushed none, .pushed (some 2), .len 2, .popped (some 3),
     .popped (some 4), .popped none] := by decide

/-- ordinary handler r0, prioritised r1 that unregisters r0 during dispatch, in-add r2; deferred B7
until an A event; capacity 2. -/
example :
    let s := EL.new 2 []
    let ops : List Op := [.reg 0 ⟨false, false⟩ [] false, .reg 0 ⟨false, true⟩ [.unreg 0] false,
      .reg 1 ⟨true, false⟩ [] false, .delay 0 ⟨1, 7⟩, .add ⟨0, 1⟩, .add ⟨0, 2⟩, .tick, .tick, .tick]
    (run s ops).2.filter (fun o => match o with | .inv .. => true | .dropped _ => true | _ => false) =
      [.inv 1 ⟨0, 1⟩ false false, .inv 0 ⟨0, 1⟩ false false, .inv 2 ⟨1, 7⟩ true false,
       .inv 1 ⟨0, 2⟩ false false] := by decide

end HsVerif.Props.C14
