import HsVerif.Model.Rules
import HsVerif.Props.C04
import HsVerif.Gen.RulesChained
import HsVerif.Gen.RulesFast
import HsVerif.Gen.RulesSimple
/-! C04 — the tie by translation for the three consensus rulesets of `/repo/protocol/rules`.

`Gen/RulesChained.lean`, `Gen/RulesFast.lean`, `Gen/RulesSimple.lean` are regenerated from the Go source of
`chainedhotstuff.go`, `fasthotstuff.go`, `simplehotstuff.go` on every run (tools/gofacts/methods.go): the methods
`qcRef`, `CommitRule`, `VoteRule` as pure functions

    f (accessors and block store …) (lock field) (parameters) : (new lock field) × results × Bool

Blocks (`*hotstuff.Block`) and aggregate QCs are POINTER values of opaque types `Blk`, `AggQC` whose `nil` is the
parameter `Blk_nil` / `AggQC_nil`; hashes and certificates are opaque; views are `Int`; `block.View()`, `.Parent()`,
`.Hash()`, `.QuorumCert()`, `qc.BlockHash()`, `qc.View()`, `aggQC.View()`, `hotstuff.Hash{}`, `blockchain.Get`,
`blockchain.Extends` are parameters (the same list for every function).  The last component is `false` on exactly
the paths on which Go would call a method through a nil pointer (a panic); logger calls are skipped (listed as
notes in the generated files), their arguments are still evaluated for that flag.

This file instantiates the regenerated functions with the types of the hand-written model `Model/Rules.lean`
(pointer = `Option Block`, nil = `none`, hash = `Nat`, zero hash = `0`, certificate = (hash, view) of the block's
`qcHash`, `qcView`; `Get h = (bcGet s h, found)`; `Extends = extends_ s`) and proves, for EVERY store, lock, block
and view, that they return what the model functions return, leave the lock field as the model says, and do not
dereference nil as long as the lock and the block handed in are not nil (`gen_*_eq_model`).

So the property theorems of `Props/C04.lean`, stated for the model functions, are theorems about the code as
regenerated.  One difference between code and model is made explicit: the Go `FastHotStuff.VoteRule` (after
fixes/C01-fast-aggqc-must-be-fresh.diff) refuses a proposal whose aggregate QC is older than the view before the
block's (`AggregateQC.View()+1 < Block.View()`); the model's `fastVote … agg` has no view of the aggregate QC.  The
code equals the model where that guard passes (`gen_fastVote_agg_eq_model`) and returns `false` where it does not
(`gen_fastVote_agg_stale`): the code votes in a subset of the cases in which the model votes.

A bridge theorem stops proving when the Go rule changes its meaning and keeps proving under renamed locals / swapped operands: the proofs split on the MODEL's conditions and let
`omega` decide the regenerated ones. -/
namespace HsVerif.Props.C04Gen
open HsVerif.Gen.Methods HsVerif.Model.Rules HsVerif.Model HsVerif.Spec.Rules HsVerif.Props.C04

abbrev Ptr := Option Block
abbrev QCv := Nat × Nat
def bView (b : Ptr) : Int := ((b.getD default).view : Int)
def bParent (b : Ptr) : Nat := (b.getD default).parent
def bHash (b : Ptr) : Nat := (b.getD default).hash
def bQC (b : Ptr) : QCv := ((b.getD default).qcHash, (b.getD default).qcView)
def qcHash (q : QCv) : Nat := q.1
def qcView (q : QCv) : Int := (q.2 : Int)
def aggView (a : Option Nat) : Int := ((a.getD 0 : Nat) : Int)
def get (s : Store) (h : Nat) : Ptr × Bool := (bcGet s h, (bcGet s h).isSome)
def ext (s : Store) (b t : Ptr) : Bool := extends_ s (b.getD default) (t.getD default)

attribute [local simp] bView bParent bHash bQC qcHash qcView aggView get

def genChainedQcRef (s : Store) (lock : Ptr) (q : QCv) :=
  ChainedHotStuff_qcRef (none : Ptr) (none : Option Nat) (0 : Nat) bView bParent bHash bQC qcHash qcView aggView (get s) (ext s) lock q
def genChainedCommit (s : Store) (lock block : Ptr) :=
  ChainedHotStuff_CommitRule (none : Ptr) (none : Option Nat) (0 : Nat) bView bParent bHash bQC qcHash qcView aggView (get s) (ext s) lock block
def genChainedVote (s : Store) (lock : Ptr) (v : Int) (block : Ptr) (agg : Option Nat) :=
  ChainedHotStuff_VoteRule (none : Ptr) (none : Option Nat) (0 : Nat) bView bParent bHash bQC qcHash qcView aggView (get s) (ext s) lock v block agg

/-- Go's `safe := false; if e { safe = true }` -/
@[local simp] theorem ite_true_false (e : Bool) : (if e = true then true else false) = e := by
  cases e <;> rfl

@[local simp] theorem gen_chainedQcRef_eq_model (s : Store) (lock : Ptr) (q : QCv) :
    ChainedHotStuff_qcRef (none : Ptr) (none : Option Nat) (0 : Nat) bView bParent bHash bQC qcHash qcView aggView (get s) (ext s) lock q
      = (lock, (qcRef s q.1, (qcRef s q.1).isSome), true) := by
  unfold ChainedHotStuff_qcRef qcRef
  by_cases h : q.1 = 0
  · simp [h]
  · simp [h, Ne.symm h]

theorem gen_chainedCommit_eq_model (s : Store) (bLock block : Block) :
    genChainedCommit s (some bLock) (some block) =
      (some (chainedCommit s bLock block).2, (chainedCommit s bLock block).1, true) := by
  unfold genChainedCommit ChainedHotStuff_CommitRule chainedCommit
  cases h1 : qcRef s block.qcHash with
  | none => simp [h1]
  | some b1 =>
  cases h2 : qcRef s b1.qcHash with
  | none => simp [h1, h2]
  | some b2 =>
  cases h3 : qcRef s b2.qcHash with
  | none => simp [h1, h2, h3]; split <;> rfl
  | some b3 =>
    simp [h1, h2, h3]
    by_cases hc : b1.parent = b2.hash ∧ b1.view = b2.view + 1 ∧ b2.parent = b3.hash ∧ b2.view = b3.view + 1
    · rw [if_pos hc, if_pos]
      · split <;> rfl
      · omega
    · rw [if_neg hc, if_neg]
      · split <;> rfl
      · omega

theorem gen_chainedVote_eq_model (s : Store) (bLock block : Block) (v : Int) (agg : Option Nat) :
    genChainedVote s (some bLock) v (some block) agg = (some bLock, chainedVote s bLock block, true) := by
  -- `ext` by `unfold`: `simp` would rewrite `ext … = true` under an `if` and leave its `Decidable`
  -- instance behind
  unfold genChainedVote ChainedHotStuff_VoteRule chainedVote ext
  cases h1 : bcGet s block.qcHash with
  | none => simp [h1]
  | some qb =>
    simp [h1]
    by_cases hz : qb.qcHash = 0 <;> cases bcGet s qb.qcHash <;> simp [hz]

def genFastQcRef (s : Store) (q : QCv) :=
  FastHotStuff_qcRef (none : Ptr) (none : Option Nat) (0 : Nat) bView bParent bHash bQC qcHash qcView aggView (get s) (ext s) q
def genFastCommit (s : Store) (block : Ptr) :=
  FastHotStuff_CommitRule (none : Ptr) (none : Option Nat) (0 : Nat) bView bParent bHash bQC qcHash qcView aggView (get s) (ext s) block
def genFastVote (s : Store) (v : Int) (block : Ptr) (agg : Option Nat) :=
  FastHotStuff_VoteRule (none : Ptr) (none : Option Nat) (0 : Nat) bView bParent bHash bQC qcHash qcView aggView (get s) (ext s) v block agg

@[local simp] theorem gen_fastQcRef_eq_model (s : Store) (q : QCv) :
    FastHotStuff_qcRef (none : Ptr) (none : Option Nat) (0 : Nat) bView bParent bHash bQC qcHash qcView aggView (get s) (ext s) q
      = ((), (qcRef s q.1, (qcRef s q.1).isSome), true) := by
  unfold FastHotStuff_qcRef qcRef
  by_cases h : q.1 = 0
  · simp [h]
  · simp [h, Ne.symm h]

theorem gen_fastCommit_eq_model (s : Store) (block : Block) :
    genFastCommit s (some block) = ((), fastCommit s block, true) := by
  unfold genFastCommit FastHotStuff_CommitRule fastCommit
  cases h1 : qcRef s block.qcHash with
  | none => simp [h1]
  | some b1 =>
  cases h2 : qcRef s b1.qcHash with
  | none => simp [h1, h2]
  | some b2 =>
    simp [h1, h2]
    by_cases hc : block.parent = b1.hash ∧ block.view = b1.view + 1 ∧ b1.parent = b2.hash ∧ b1.view = b2.view + 1
    · rw [if_pos hc]; exact if_pos (by omega)
    · rw [if_neg hc]; exact if_neg (by omega)

theorem gen_fastVote_plain_eq_model (s : Store) (view : Nat) (block : Block) :
    genFastVote s (view : Int) (some block) none = ((), fastVote s view block false, true) := by
  simp [genFastVote, FastHotStuff_VoteRule, fastVote]
  by_cases h2 : block.view = block.qcView + 1 <;> simp [h2] <;> omega

theorem gen_fastVote_agg_eq_model (s : Store) (view : Nat) (block : Block) (a : Nat) (fresh : ¬ (a + 1 < block.view)) :
    genFastVote s (view : Int) (some block) (some a) = ((), fastVote s view block true, true) := by
  unfold genFastVote FastHotStuff_VoteRule fastVote ext
  have hf : ¬ ((a : Int) + 1 < (block.view : Int)) := by omega
  cases h1 : bcGet s block.qcHash <;> simp [h1, hf]

theorem gen_fastVote_agg_stale (s : Store) (view : Nat) (block : Block) (a : Nat) (stale : a + 1 < block.view) :
    genFastVote s (view : Int) (some block) (some a) = ((), false, true) := by
  unfold genFastVote FastHotStuff_VoteRule
  have hf : (a : Int) + 1 < (block.view : Int) := by omega
  simp [hf]

def genSimpleCommit (s : Store) (lock block : Ptr) :=
  SimpleHotStuff_CommitRule (none : Ptr) (none : Option Nat) (0 : Nat) bView bParent bHash bQC qcHash qcView aggView (get s) (ext s) lock block
def genSimpleVote (s : Store) (lock : Ptr) (v : Int) (block : Ptr) (agg : Option Nat) :=
  SimpleHotStuff_VoteRule (none : Ptr) (none : Option Nat) (0 : Nat) bView bParent bHash bQC qcHash qcView aggView (get s) (ext s) lock v block agg

theorem gen_simpleCommit_eq_model (s : Store) (locked block : Block) :
    genSimpleCommit s (some locked) (some block) =
      (some (simpleCommit s locked block).2, (simpleCommit s locked block).1, true) := by
  unfold genSimpleCommit SimpleHotStuff_CommitRule simpleCommit
  cases h1 : bcGet s block.qcHash with
  | none => simp [h1]
  | some p =>
  cases h2 : bcGet s p.qcHash with
  | none => simp [h1, h2]
  | some gp =>
  by_cases hl : gp.view > locked.view <;> cases h3 : bcGet s gp.qcHash with
  | none => simp [h1, h2, h3, hl]
  | some ggp =>
    simp [h1, h2, h3, hl]
    by_cases hc : ggp.view + 1 = gp.view ∧ ggp.view + 2 = p.view
    · rw [if_pos hc]; exact if_pos (by omega)
    · rw [if_neg hc]; exact if_neg (by omega)

theorem gen_simpleVote_eq_model (s : Store) (locked block : Block) (view : Nat) (agg : Option Nat) :
    genSimpleVote s (some locked) (view : Int) (some block) agg = (some locked, simpleVote s locked view block, true) := by
  unfold genSimpleVote SimpleHotStuff_VoteRule simpleVote
  by_cases hv : block.view < view
  · simp [hv]
  cases h1 : bcGet s block.qcHash with
  | none => simp [hv, h1]
  | some p =>
    simp [hv, h1]
    by_cases hz : p.qcHash = 0 <;> by_cases hp : p.view < locked.view <;>
      cases bcGet s p.qcHash <;> simp [hz, hp]

/-! ## Non-vacuity: the instantiated functions compute on a concrete chain, and the nil flag is live -/

/-- genesis (1) ← 2 ← 3 ← 4 ← 5, views 0,1,2,3,4, each certifying its parent -/
def chain : Store := fun h =>
  if h = 1 then some genesis
  else if 2 ≤ h ∧ h ≤ 5 then some { hash := h, view := h - 1, parent := h - 1, qcHash := h - 1, qcView := h - 2 }
  else none

def blk (h : Nat) : Block := { hash := h, view := h - 1, parent := h - 1, qcHash := h - 1, qcView := h - 2 }

/-- chained: block 5 commits block 2 and moves the lock to block 3 -/
example : genChainedCommit chain (some genesis) (some (blk 5)) = (some (blk 3), some (blk 2), true) := by decide
/-- fast: block 5 commits block 3 -/
example : genFastCommit chain (some (blk 5)) = ((), some (blk 3), true) := by decide
/-- simple: block 5 commits block 2 -/
example : genSimpleCommit chain (some genesis) (some (blk 5)) = (some (blk 3), some (blk 2), true) := by decide
/-- nothing to commit from block 3 (its chain reaches genesis, whose certificate names the zero hash) -/
example : genChainedCommit chain (some genesis) (some (blk 3)) = (some genesis, none, true) := by decide
/-- votes: yes for block 5 when locked on 2; no when the certified block is below the lock and off its branch -/
example : (genChainedVote chain (some (blk 2)) 0 (some (blk 5)) none).2.1 = true := by decide
example : (genSimpleVote chain (some (blk 5)) 0 (some (blk 3)) none).2.1 = false := by decide
example : (genFastVote chain 4 (some (blk 5)) none).2.1 = true := by decide
/-- the flag: a nil lock is dereferenced by `block2.View() > hs.bLock.View()` … -/
example : (genChainedCommit chain none (some (blk 5))).2.2 = false := by decide
/-- … but not on a path that returns before reaching it -/
example : (genChainedCommit chain none (some (blk 2))).2.2 = true := by decide
/-- a nil proposal block is dereferenced at once -/
example : (genSimpleVote chain (some genesis) 0 none none).2.2 = false := by decide

/-- ON THE REGENERATED CODE: whatever chained HotStuff's `CommitRule` (as translated from the Go source of this run)
returns is the tail of a chain of three blocks, each certified by its successor's certificate, directly linked by
parent pointers and proposed in consecutive views, headed by the block certified in `b`. -/
theorem gen_chained_commit_is_chain_tail (s : Store) (bLock b c : Block) (hz : s 0 = none)
    (h : (genChainedCommit s (some bLock) (some b)).2.1 = some c) :
    ∃ x y, Chain s true [x, y, c] ∧ justified s b = some x := by
  rw [gen_chainedCommit_eq_model] at h
  exact commit_is_chain_tail ⟨.chained, s, bLock⟩ b c hz h

theorem gen_fast_commit_is_chain_tail (s : Store) (b c : Block) (hz : s 0 = none)
    (h : (genFastCommit s (some b)).2.1 = some c) :
    ∃ y, Chain s true [b, y, c] := by
  rw [gen_fastCommit_eq_model] at h
  obtain ⟨_, y, hc, rfl⟩ := commit_is_chain_tail ⟨.fast, s, b⟩ b c hz h
  exact ⟨y, hc⟩

theorem gen_simple_commit_is_chain_tail (s : Store) (locked b c : Block) (hz : s 0 = none)
    (h : (genSimpleCommit s (some locked) (some b)).2.1 = some c) :
    ∃ x y, Chain s false [x, y, c] ∧ justified s b = some x := by
  rw [gen_simpleCommit_eq_model] at h
  exact commit_is_chain_tail ⟨.simple, s, locked⟩ b c hz h

end HsVerif.Props.C04Gen
