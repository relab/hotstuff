import HsVerif.Proofs.FastSafety
import HsVerif.Proofs.FastCex
/-! C01 for Fast-HotStuff, abstract layer: IS FAST-HOTSTUFF, AS THIS CODE BASE IMPLEMENTS IT AFTER THE
REPAIRS 4f3d40f / 7d9bd97 / 02b12f6 (AND BEFORE a77ccac), SAFE?  **No** -- not as a consequence of what the honest replicas
check.  Definitions and helpers are in Proofs/FastSafety.lean (the timed abstract system `TSys`, `Discipline`,
`AggJ`, `TwoChain`) and Proofs/FastCex.lean (schedules as finite tables, the checker, the instances; the schedule
is its header comment).

There is a seven replica instance (f = 2, quorum 5, the implementation's `numFaulty` / `quorumSize`) of the WHOLE
discipline with two committed blocks that are not on one branch.  The cause: `findHighestValidQC` SKIPS a reported
QC whose block the voter neither stores nor can fetch, different voters of one block may be shown different
aggregate QCs, and an aggregate QC of a LATER view is accepted (`aggQC.View() + 1 ≥ block.View()`).
The classical two-chain argument goes through if a voter abstains whenever the QC reported by an honest signer of
the aggregate QC cannot be validated (`StrictJust`), or if all honest voters of a block check the same aggregate QC
(`UniformJust`).  The counterexample violates both extra hypotheses; the honest branch of the same schedule
satisfies the discipline and both of them (the theorems are not vacuous), with an aggregate-justified block between
two commits.
Nothing here connects `TSys` to the system of replica models (Model/Sys.lean); the rule as repaired by a77ccac is
treated in Props/C01FastLock.lean and Props/C01FastSys.lean. -/
namespace HsVerif.Props.C01Fast
open HsVerif.Safety HsVerif.FastSafety HsVerif.FastCex HsVerif.Model HsVerif.QuorumCount

/-- **Fast-HotStuff as implemented is not safe by its discipline**: there is a system that satisfies every
clause of `Discipline` and has two two-chain commits on different branches. -/
theorem fast_unsafe_as_implemented :
    ∃ (S : TSys) (b0 b1 c0 c1 : S.Blk), Discipline S ∧ TwoChain S b0 b1 ∧ TwoChain S c0 c1 ∧
      ¬ (TExt S b0 c0 ∨ TExt S c0 b0) :=
  ⟨cex, (1 : B), (2 : B), (7 : B), (8 : B), cex_discipline, chain_b, chain_w, cex_conflict⟩

theorem cex_keeps_discipline : Discipline cex := cex_discipline

/-- `b0` (block 1, view 1) is committed by the two-chain `b0 ← b1` -/
theorem cex_commit_b : TwoChain cex (1 : B) (2 : B) := chain_b

/-- `w1` (block 7, view 7) is committed by the two-chain `w1 ← w2` -/
theorem cex_commit_w : TwoChain cex (7 : B) (8 : B) := chain_w

theorem cex_commits_conflict : ¬ (TExt cex (1 : B) (7 : B) ∨ TExt cex (7 : B) (1 : B)) := cex_conflict

/-- every clause of the discipline is a decidable statement about the finite tables of the schedule -/
theorem cex_checked : full.OK := full_ok

/-- n = 7 replicas, `numFaulty 7 = 2` of them Byzantine, `quorumSize 7 = 5` -/
theorem cex_quorum_system : numFaulty 7 = 2 ∧ quorumSize 7 = 5 ∧ count byz 7 = 2 := cex_sizes

/-- the step of the classical argument that fails: s1 accepts `w` (view 3, parent genesis) against the aggregate
QC A5 although A5 contains the timeout of h1 -- an honest voter of b1 -- reporting the QC of X (view 4 ≥ view b0):
s1 does not have X at that time, so the report is skipped -/
theorem cex_skipped_report :
    (2, 6, 31) ∈ full.votes ∧ full.aggOf 2 6 = some A5 ∧ (0, 2, 7) ∈ full.votes ∧ (0, 5, 28, 4) ∈ full.tmos ∧
    view (1 : B) ≤ view (4 : B) ∧ full.hasB 2 4 31 = false ∧ par (6 : B) = 0 := by
  decide +kernel

/-- the three honest voters of `w` checked two different aggregate QCs, one of them of view 5 for a view 3 block -/
theorem cex_two_aggregates :
    full.aggOf 3 6 = some A2 ∧ full.aggOf 4 6 = some A2 ∧ full.aggOf 2 6 = some A5 ∧ view (6 : B) = 3 ∧ A5.2.1 = 5 :=
  ⟨rfl, rfl, rfl, rfl, rfl⟩

/-- realism beyond the discipline: distinct event times; every reported high QC is of a view below the view
that timed out; every vote in a view above 1 follows a quorum of timeouts of the preceding view -/
theorem cex_realism :
    ((full.votes.map (fun e => e.2.2)) ++ (full.tmos.map (fun e => e.2.2.1))).Nodup ∧
    (∀ e ∈ full.tmos, view e.2.2.2 < e.2.1) ∧
    (∀ e ∈ full.votes, view e.2.1 = 1 ∨
      quorumSize 7 ≤ count (fun i => byz i || full.tmos.any (fun x => x.1.val == i && x.2.1 + 1 == view e.2.1 &&
        decide (x.2.2.1 < e.2.2))) 7) :=
  ⟨by decide +kernel, by decide +kernel, by decide +kernel⟩


/-- **Safety, if unverifiable reports make the voter abstain**: under the discipline and `StrictJust`, two blocks
that satisfy the two-chain commit condition are on one branch. -/
theorem fast_safe_if_strict (S : TSys) (D : Discipline S) (hs : StrictJust S) {b0 b1 c0 c1 : S.Blk}
    (Cb : TwoChain S b0 b1) (Cc : TwoChain S c0 c1) : TExt S b0 c0 ∨ TExt S c0 b0 :=
  one_branch_of_key D (key_strict D hs) Cb Cc

/-- **Safety, if all voters of a block check the same aggregate QC.** -/
theorem fast_safe_if_uniform (S : TSys) (D : Discipline S) (hu : UniformJust S) {b0 b1 c0 c1 : S.Blk}
    (Cb : TwoChain S b0 b1) (Cc : TwoChain S c0 c1) : TExt S b0 c0 ∨ TExt S c0 b0 :=
  one_branch_of_key D (key_uniform D hu) Cb Cc

/-- the invariant behind both: every certified block at or above a committed block's view extends it -/
theorem fast_certified_extends (S : TSys) (D : Discipline S) (h : StrictJust S ∨ UniformJust S) {b0 b1 : S.Blk}
    (C : TwoChain S b0 b1) (w : S.Blk) (hw : Certified S w) (hge : S.view b0 ≤ S.view w) : TExt S w b0 :=
  extends_of_key D C (h.elim (key_strict D · C) (key_uniform D · C)) w (Or.inr hw) hge

/-- what any accepted aggregate QC does guarantee (no extra hypothesis): it contains the timeout of an honest
voter of `b1`, signed after that vote, reporting a QC at least as high as `b0` -/
theorem fast_agg_contains_report (S : TSys) (D : Discipline S) {b0 b1 : S.Blk} (C : TwoChain S b0 b1)
    {r : S.Rep} {w : S.Blk} {t : Nat} {T : S.Rep → Prop} {u : Nat} {rep : S.Rep → S.Blk}
    (A : AggJ S r w t T u rep) (hw : S.view b0 + 2 ≤ S.view w) :
    ∃ m t', T m ∧ S.honest m ∧ t' < t ∧ S.timedOutAt m u t' (rep m) ∧ S.view b0 ≤ S.view (rep m) :=
  agg_report D C A hw

/-! ### The extra hypotheses separate the two schedules -/

theorem cex_violates_strict : ¬ StrictJust cex := cex_not_strict
theorem cex_violates_uniform : ¬ UniformJust cex := cex_not_uniform

/-- non-vacuity: the honest branch of the schedule keeps the discipline and both extra hypotheses and commits
`b0` (view 1) and `X` (view 4, voted for under the aggregate rule) -/
theorem good_instance :
    Discipline good.sys ∧ StrictJust good.sys ∧ UniformJust good.sys ∧
    TwoChain good.sys (1 : B) (2 : B) ∧ TwoChain good.sys (4 : B) (5 : B) :=
  ⟨good_discipline, good_strict, good_uniform, good_chain_b, good_chain_x⟩

theorem good_one_branch : TExt good.sys (1 : B) (4 : B) ∨ TExt good.sys (4 : B) (1 : B) :=
  one_branch_of_key good_discipline (key_strict good_discipline good_strict) good_chain_b good_chain_x

/-- `Discipline.inter` for replicas `0..n-1` with at most `numFaulty n` Byzantine ones and quorums of
`quorumSize n` ids, from `QuorumCount.quorums_share_honest` -/
theorem quorum_inter_of_count (n : Nat) (hn : 1 ≤ n) (byz : Nat → Bool) (hf : count byz n ≤ numFaulty n)
    (Q1 Q2 : Fin n → Prop)
    (h1 : ∃ A : Nat → Bool, quorumSize n ≤ count A n ∧ ∀ r : Fin n, A r.val = true → Q1 r)
    (h2 : ∃ A : Nat → Bool, quorumSize n ≤ count A n ∧ ∀ r : Fin n, A r.val = true → Q2 r) :
    ∃ r : Fin n, Q1 r ∧ Q2 r ∧ byz r.val = false :=
  countQuorum_inter n byz hf Q1 Q2 h1 h2

end HsVerif.Props.C01Fast
