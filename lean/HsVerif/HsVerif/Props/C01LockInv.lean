import HsVerif.Proofs.ReplicaLockInv
import HsVerif.Props.C03
/-! C01, layer B (replica level) — what a vote obliges the lock to cover, and where the lock comes from.
Replica, events, `runEvents` as in Props/C03.lean; vocabulary (`sget`,
`LockCovers`, `LockFrom`) from Proofs/StoreWalk.lean; chained and simplified HotStuff
(`c.rules ≠ .fast`: Fast-HotStuff keeps no lock).

What is provable, and what is not:

* `voterVerify … = ok` guarantees that BOTH certificate links from the block are stored
  (`voted_links_stored`): the vote rule obtains the block `p` certified by `x.qc` and, unless
  `p.qc.hash = ""`, the block certified by `p.qc`.  The `none` branch of the chained rule (`extendsM`
  with the QC block missing) can answer `true`, but then `x.qc.hash` is neither stored nor fetchable,
  stays so through `verifyAnyM`, and `verifyQCM x.qc` fails (a non-genesis QC only verifies if its
  block is stored; genesis is always stored).
* `commitRule` walks the same two links — except that CHAINED HotStuff goes through `qcRef`, which
  follows no certificate whose hash is the empty string, on BOTH links, while the vote rule and the
  verifier treat `""` on the FIRST link as an ordinary hash; and SIMPLIFIED HotStuff uses plain `Get`
  on both links, so it can lock on a block stored under `""`.  Hashes are a field of the modelled
  block, so a (Byzantine) proposal with hash `""` is accepted and stored like any other.  Hence
  - `LockCovers` fails for a chained vote whose QC names hash `""`
    (`votes_lock_grandparent_counterexample`); it holds whenever `x.qc.hash ≠ ""`, in particular for
    simplified HotStuff unconditionally and for both whenever no block is stored under `""`;
  - `LockFrom` holds for chained HotStuff as stated; for simplified HotStuff its side condition
    `p.qc.hash ≠ ""` fails when the lock is a block stored under `""`
    (`lock_from_votes_counterexample`); it holds whenever no block is stored under `""`.
  The invariant that IS preserved by every handler is `LInv` (Proofs/ReplicaLockInv.lean), which has
  the empty-hash side conditions exactly where `commitRule` has them (`LockCoversW`, `LockFromW`). -/
namespace HsVerif.Props.C01LockInv
open HsVerif.Model HsVerif.Props.C03

theorem linv_init (c : RCfg) : LInv c {} :=
  ⟨fun _ _ h => h, fun _ _ hm => (by cases hm), Or.inl rfl⟩

/-- **One-step preservation**: from ANY state satisfying the lock invariant (genesis is stored; both
certificate links of every block voted for are stored and its certificate-grandparent is not above
the lock; the lock is genesis or the stored certificate-grandparent of a block voted for), the state
after delivering ANY event satisfies it again. -/
theorem step_linv (k : Keys) (c : RCfg) (hc : c.rules ≠ .fast) (s : RState) (e : Ev) (h : LInv c s) :
    LInv c (step k c s e).1 :=
  (linv_accept k c hc).step s e h

theorem start_linv (k : Keys) (c : RCfg) (hc : c.rules ≠ .fast) (s : RState) (h : LInv c s) :
    LInv c (start k c s).1 :=
  (linv_accept k c hc).start s h

/-- **Changes from outside** (the harness writes fetchable blocks and other replicas' signatures into
the state between events): any change that leaves ghost history and lock alone and preserves every
lookup of the block store preserves the invariant. -/
theorem external_extension_linv (c : RCfg) (s s' : RState) (hg : s'.ghost = s.ghost) (hl : s'.lock = s.lock)
    (hS : ∀ h b, sget s h = some b → sget s' h = some b) (h : LInv c s) : LInv c s' :=
  linv_same ⟨hS, hl, hg⟩ c h

theorem reachable_linv (k : Keys) (c : RCfg) (hc : c.rules ≠ .fast) (es : List Ev) :
    LInv c (runEvents k c (start k c {}).1 es) :=
  runEvents_keeps (step_linv k c hc) es _ (start_linv k c hc {} (linv_init c))

/-! ### 1. what a vote obliges the lock to cover -/

theorem linv_vote_covered (c : RCfg) (s : RState) (h : LInv c s) (x : Block) (id : Nat)
    (hm : GRec.vote x id ∈ s.ghost) :
    (∃ p, sget s x.qc.hash = some p ∧ (p.qc.hash = "" ∨ ∃ g, sget s p.qc.hash = some g)) ∧
    ((c.rules = .chained ∧ x.qc.hash = "") ∨ LockCovers s x) :=
  h.2.1 x id hm

theorem voted_links_stored (k : Keys) (c : RCfg) (hc : c.rules ≠ .fast) (es : List Ev) (x : Block) (id : Nat)
    (h : GRec.vote x id ∈ (runEvents k c (start k c {}).1 es).ghost) :
    ∃ p, sget (runEvents k c (start k c {}).1 es) x.qc.hash = some p ∧
      (p.qc.hash = "" ∨ ∃ g, sget (runEvents k c (start k c {}).1 es) p.qc.hash = some g) :=
  (linv_vote_covered c _ (reachable_linv k c hc es) x id h).1

theorem linv_lockCovers (c : RCfg) (s : RState) (h : LInv c s) (x : Block) (id : Nat)
    (hm : GRec.vote x id ∈ s.ghost) (hx : c.rules = .chained → x.qc.hash ≠ "") : LockCovers s x := by
  rcases (linv_vote_covered c s h x id hm).2 with ⟨h1, h2⟩ | h
  · exact absurd h2 (hx h1)
  · exact h

/- FULL STATEMENT of clause 1 (false of the model for chained HotStuff, see
`votes_lock_grandparent_counterexample`):
   c.rules ≠ .fast → GRec.vote x id ∈ (runEvents k c (start k c {}).1 es).ghost →
   LockCovers (runEvents k c (start k c {}).1 es) x -/

/-- **A vote obliges the lock to cover the certificate-grandparent** (chained and simplified
HotStuff): in every reachable state, for every vote `GRec.vote x id` whose certificate does not name
the empty hash — a condition needed for chained HotStuff only — the block `p` certified by `x.qc` is
stored, and `p.qc.hash = ""` or the block `g` certified by `p.qc` is stored and `g.view ≤ lock.view`. -/
theorem votes_lock_grandparent_partial (k : Keys) (c : RCfg) (hc : c.rules ≠ .fast) (es : List Ev)
    (x : Block) (id : Nat) (h : GRec.vote x id ∈ (runEvents k c (start k c {}).1 es).ghost)
    (hx : c.rules = .chained → x.qc.hash ≠ "") :
    LockCovers (runEvents k c (start k c {}).1 es) x :=
  linv_lockCovers c _ (reachable_linv k c hc es) x id h hx

/-- Clause 1 in full for simplified HotStuff. -/
theorem votes_lock_grandparent_simple (k : Keys) (c : RCfg) (hc : c.rules = .simple) (es : List Ev)
    (x : Block) (id : Nat) (h : GRec.vote x id ∈ (runEvents k c (start k c {}).1 es).ghost) :
    LockCovers (runEvents k c (start k c {}).1 es) x :=
  votes_lock_grandparent_partial k c (by rw [hc]; decide) es x id h (by rw [hc]; intro h; cases h)

/-- Clause 1 in full for both rule sets wherever no block is stored under the empty hash (lookups are
stable, so then none ever was). -/
theorem votes_lock_grandparent_noempty (k : Keys) (c : RCfg) (hc : c.rules ≠ .fast) (es : List Ev)
    (x : Block) (id : Nat) (h : GRec.vote x id ∈ (runEvents k c (start k c {}).1 es).ghost)
    (hne : sget (runEvents k c (start k c {}).1 es) "" = none) :
    LockCovers (runEvents k c (start k c {}).1 es) x := by
  refine votes_lock_grandparent_partial k c hc es x id h (fun _ hx => ?_)
  obtain ⟨p, hp, _⟩ := voted_links_stored k c hc es x id h
  rw [hx, hne] at hp; cases hp

/-- the unconditional form: `LockCovers`, or the rule set is chained and the vote's certificate names
the empty hash -/
theorem votes_lock_grandparent_weak (k : Keys) (c : RCfg) (hc : c.rules ≠ .fast) (es : List Ev)
    (x : Block) (id : Nat) (h : GRec.vote x id ∈ (runEvents k c (start k c {}).1 es).ghost) :
    (c.rules = .chained ∧ x.qc.hash = "") ∨ LockCovers (runEvents k c (start k c {}).1 es) x :=
  (linv_vote_covered c _ (reachable_linv k c hc es) x id h).2

/-- **One-step preservation of clause 1**, from any state satisfying the invariant: after delivering
any event, every vote (old or new) whose certificate does not name the empty hash is covered. -/
theorem step_votes_lock_grandparent_partial (k : Keys) (c : RCfg) (hc : c.rules ≠ .fast) (s : RState) (e : Ev)
    (h : LInv c s) (x : Block) (id : Nat) (hm : GRec.vote x id ∈ (step k c s e).1.ghost)
    (hx : c.rules = .chained → x.qc.hash ≠ "") : LockCovers (step k c s e).1 x :=
  linv_lockCovers c _ (step_linv k c hc s e h) x id hm hx

section Counterexamples
deriving instance DecidableEq for GRec

def cxKeys : Keys := ⟨tmoMsgKey⟩
/-- a BLS quorum certificate by replicas 1, 2, 3 (checkable without truth-table entries) -/
def cxQC (h : Hash) (v : Nat) : QC :=
  ⟨some (.bls [⟨1, blkMsg h⟩, ⟨2, blkMsg h⟩, ⟨3, blkMsg h⟩] [] (((Bitfield.empty.add 1).add 2).add 3)), v, h⟩

def cxChained : RCfg := { n := 4, id := 1, rules := .chained, agg := false, scheme := .bls12 }
def cxA : Block := { hash := "A", parent := "G", view := 1, proposer := 2, qc := genesisQC }
def cxE : Block := { hash := "", parent := "A", view := 2, proposer := 3, qc := cxQC "A" 1 }
def cxC : Block := { hash := "C", parent := "", view := 3, proposer := 4, qc := cxQC "" 2 }
def cxEvents : List Ev := [.propose 2 cxA none, .propose 3 cxE none, .propose 4 cxC none]

/-- Chained HotStuff, three proposals by the leaders of views 1–3: `A`, then a block of hash `""`
certifying `A`, then `C` certifying the block of hash `""`.  All three are voted for; when `C` is
committed-checked, `qcRef` follows no certificate with the empty hash, so the lock stays at genesis
(view 0) although `C`'s certificate-grandparent `A` (view 1) is stored. -/
theorem votes_lock_grandparent_counterexample :
    ∃ (k : Keys) (c : RCfg) (es : List Ev) (x : Block) (id : Nat), c.rules ≠ .fast ∧
      GRec.vote x id ∈ (runEvents k c (start k c {}).1 es).ghost ∧
      ¬ LockCovers (runEvents k c (start k c {}).1 es) x := by
  refine ⟨cxKeys, cxChained, cxEvents, cxC, 4, by decide, by decide +kernel, ?_⟩
  rintro ⟨p, hp, h2⟩
  have h1 : sget (runEvents cxKeys cxChained (start cxKeys cxChained {}).1 cxEvents) "" = some cxE := by decide +kernel
  have h3 : sget (runEvents cxKeys cxChained (start cxKeys cxChained {}).1 cxEvents) "A" = some cxA := by decide +kernel
  have h4 : (runEvents cxKeys cxChained (start cxKeys cxChained {}).1 cxEvents).lock.view = 0 := by decide +kernel
  have hp' : sget (runEvents cxKeys cxChained (start cxKeys cxChained {}).1 cxEvents) "" = some p := hp
  rw [h1] at hp'
  cases hp'
  rcases h2 with h2 | ⟨g, hg, hv⟩
  · exact absurd h2 (by decide)
  · have hg' : sget (runEvents cxKeys cxChained (start cxKeys cxChained {}).1 cxEvents) "A" = some g := hg
    rw [h3] at hg'
    cases hg'
    rw [h4] at hv
    exact absurd hv (by decide)

def cxSimple : RCfg := { n := 4, id := 1, rules := .simple, agg := false, scheme := .bls12 }
def cxS : Block := { hash := "", parent := "G", view := 1, proposer := 2, qc := genesisQC }

/-- Simplified HotStuff, one proposal by the leader of view 1 whose hash is `""`: it certifies genesis,
genesis's own certificate names the hash `""`, `commitRule` looks that up with plain `Get`, finds the
block just stored, and locks on it: the lock is reached over a link `p.qc.hash = ""`. -/
theorem lock_from_votes_counterexample :
    ∃ (k : Keys) (c : RCfg) (es : List Ev), c.rules ≠ .fast ∧ ¬ LockFrom (runEvents k c (start k c {}).1 es) := by
  refine ⟨cxKeys, cxSimple, [.propose 2 cxS none], by decide, ?_⟩
  have hl : (runEvents cxKeys cxSimple (start cxKeys cxSimple {}).1 [.propose 2 cxS none]).lock = cxS := by decide +kernel
  have hb : (runEvents cxKeys cxSimple (start cxKeys cxSimple {}).1 [.propose 2 cxS none]).chain.blocks
      = [("", cxS), (genesisHash, genesisBlock)] := by decide +kernel
  rintro (h | ⟨x, id, p, _, _, hne, hp⟩)
  · rw [hl] at h; exact absurd h (by decide)
  · unfold sget at hp
    rw [hb, hl] at hp
    simp only [List.lookup] at hp
    split at hp
    · rename_i heq
      exact hne (by simpa using heq)
    · split at hp
      · exact absurd (Option.some.inj hp) (by decide)
      · cases hp

/-- non-vacuity: with ordinary hashes the lock does move — after proposals `A`, `B` (certifying `A`),
`C` (certifying `B`) the chained replica has voted for `C` and is locked on `A` -/
def nvB : Block := { hash := "B", parent := "A", view := 2, proposer := 3, qc := cxQC "A" 1 }
def nvC : Block := { hash := "C", parent := "B", view := 3, proposer := 4, qc := cxQC "B" 2 }
example : GRec.vote nvC 4 ∈ (runEvents cxKeys cxChained (start cxKeys cxChained {}).1
    [.propose 2 cxA none, .propose 3 nvB none, .propose 4 nvC none]).ghost := by decide +kernel
example : (runEvents cxKeys cxChained (start cxKeys cxChained {}).1
    [.propose 2 cxA none, .propose 3 nvB none, .propose 4 nvC none]).lock = cxA := by decide +kernel
end Counterexamples

/-! ### 2. where the lock comes from -/

theorem linv_lock_from (c : RCfg) (s : RState) (h : LInv c s) :
    s.lock = genesisBlock ∨
    ∃ x id p, GRec.vote x id ∈ s.ghost ∧ sget s x.qc.hash = some p ∧
      (c.rules = .chained → x.qc.hash ≠ "" ∧ p.qc.hash ≠ "") ∧ sget s p.qc.hash = some s.lock := by
  rcases h.2.2 with h | ⟨x, id, hm, p, hp, hh, hl⟩
  · exact Or.inl h
  · exact Or.inr ⟨x, id, p, hm, hp, hh, hl⟩

theorem linv_lockFrom (c : RCfg) (s : RState) (h : LInv c s) (hs : c.rules ≠ .chained → sget s "" = none) :
    LockFrom s := by
  rcases linv_lock_from c s h with h | ⟨x, id, p, hm, hp, hh, hl⟩
  · exact Or.inl h
  · refine Or.inr ⟨x, id, p, hm, hp, ?_, hl⟩
    by_cases hch : c.rules = .chained
    · exact (hh hch).2
    · intro he
      rw [he, hs hch] at hl; cases hl

/- FULL STATEMENT of clause 2 (false of the model for simplified HotStuff, see
`lock_from_votes_counterexample`):
   c.rules ≠ .fast → LockFrom (runEvents k c (start k c {}).1 es) -/

/-- **The lock comes from a vote**, clause 2 in full for chained HotStuff: in every reachable state the
lock is `genesisBlock` or the stored certificate-grandparent of a block voted for. -/
theorem lock_from_votes_chained (k : Keys) (c : RCfg) (hc : c.rules = .chained) (es : List Ev) :
    LockFrom (runEvents k c (start k c {}).1 es) :=
  linv_lockFrom c _ (reachable_linv k c (by rw [hc]; decide) es) (fun h => absurd hc h)

/-- Clause 2 for both rule sets; for simplified HotStuff wherever no block is stored under the empty
hash. -/
theorem lock_from_votes_partial (k : Keys) (c : RCfg) (hc : c.rules ≠ .fast) (es : List Ev)
    (hne : c.rules = .simple → sget (runEvents k c (start k c {}).1 es) "" = none) :
    LockFrom (runEvents k c (start k c {}).1 es) :=
  linv_lockFrom c _ (reachable_linv k c hc es) (fun h => hne (by cases hr : c.rules <;> simp_all))

/-- the unconditional form, with the empty-hash side conditions exactly where `commitRule` has them -/
theorem lock_from_votes_weak (k : Keys) (c : RCfg) (hc : c.rules ≠ .fast) (es : List Ev) :
    (runEvents k c (start k c {}).1 es).lock = genesisBlock ∨
    ∃ x id p, GRec.vote x id ∈ (runEvents k c (start k c {}).1 es).ghost ∧
      sget (runEvents k c (start k c {}).1 es) x.qc.hash = some p ∧
      (c.rules = .chained → x.qc.hash ≠ "" ∧ p.qc.hash ≠ "") ∧
      sget (runEvents k c (start k c {}).1 es) p.qc.hash = some (runEvents k c (start k c {}).1 es).lock :=
  linv_lock_from c _ (reachable_linv k c hc es)

/-- **One-step preservation of clause 2**, from any state satisfying the invariant. -/
theorem step_lock_from_votes_partial (k : Keys) (c : RCfg) (hc : c.rules ≠ .fast) (s : RState) (e : Ev)
    (h : LInv c s) (hne : c.rules = .simple → sget (step k c s e).1 "" = none) : LockFrom (step k c s e).1 :=
  linv_lockFrom c _ (step_linv k c hc s e h) (fun h => hne (by cases hr : c.rules <;> simp_all))

/-- The locked block is in the block store (under the hash its voted grandchild's certificate chain
names, or as genesis). -/
theorem lock_stored (k : Keys) (c : RCfg) (hc : c.rules ≠ .fast) (es : List Ev) :
    ∃ h, sget (runEvents k c (start k c {}).1 es) h = some (runEvents k c (start k c {}).1 es).lock := by
  have hi := reachable_linv k c hc es
  rcases linv_lock_from c _ hi with h | ⟨x, id, p, _, _, _, hl⟩
  · exact ⟨genesisHash, by rw [h]; exact hi.1 genesisHash genesisBlock (by simp [G0])⟩
  · exact ⟨_, hl⟩

theorem genesis_stored (k : Keys) (c : RCfg) (hc : c.rules ≠ .fast) (es : List Ev) :
    sget (runEvents k c (start k c {}).1 es) genesisHash = some genesisBlock :=
  (reachable_linv k c hc es).1 genesisHash genesisBlock (by simp [G0])

end HsVerif.Props.C01LockInv
