import HsVerif.Props.C14
/-! C06 — committed commands and the bounded event queue (repair 3b7dc98).

The committer hands every committed block's commands to the application by ADDING an `ExecuteEvent` to the
replica's event loop, whose queue is bounded and drops its oldest entries when full (C14).  Over the event-loop
model of C14, for every consistent state, every capacity and every queue content:

* `in_add_handler_sees_every_added_event` — a handler registered with `UnsafeRunInAddEvent` is called for every
  event of its type that is added, exactly once, at the time it is added — what `ClientIO` relies on since the
  repair; so over a sequence of AddEvent calls it sees the events in the order in which they were added (chain
  order, for the committer's ExecuteEvents);
* `ordinary_handler_misses_dropped_event` — the same handler registered WITHOUT the option misses an event that
  the full queue drops (the registration before the repair): capacity 1, two events added, one handled. -/
namespace HsVerif.Props.C06Queue
open HsVerif.Model HsVerif.Model.EL HsVerif.Model.Obs HsVerif.Props.C14

theorem in_add_handler_sees_every_added_event (c : Nat) (s : EL) (hwf : WF c s) (e : LEv) (r : Nat)
    (hr : Registered s r e.ty true) :
    (r, e) ∈ invsOf true (addEvent s e).2 ∧ (invsOf true (addEvent s e).2).count (r, e) = 1 := by
  obtain ⟨ps, os, h1, hnd, h3, _⟩ := add_dispatch_once_in_order c s hwf e
  have hin : (r, e) ∈ invsOf true (addEvent s e).2 := h1 ▸ List.mem_map.mpr ⟨r, (h3 r).mpr hr, rfl⟩
  have hnd' : (invsOf true (addEvent s e).2).Nodup :=
    h1 ▸ List.Pairwise.map _ (fun _ _ hab h => hab (Prod.mk.inj h).1) hnd
  exact ⟨hin, by rw [hnd'.count, if_pos hin]⟩

/-- Without the option the handler depends on the queued copy: capacity 1, a handler for type 0, two events
added before the loop runs — the first is dropped (and reported), only the second reaches the handler. -/
theorem ordinary_handler_misses_dropped_event :
    let s0 := (EL.new 1 []).register 0 ⟨false, false⟩ [] false
    let r := EL.run s0 [.add ⟨0, 1⟩, .add ⟨0, 2⟩, .tick, .tick]
    invsOf false r.2 = [(0, ⟨0, 2⟩)] ∧ droppedOf r.2 = [⟨0, 1⟩] := by decide

/-- … and with the option both are handled, in the order added, although the queue drops the first. -/
theorem in_add_handler_example :
    let s0 := (EL.new 1 []).register 0 ⟨true, false⟩ [] false
    let r := EL.run s0 [.add ⟨0, 1⟩, .add ⟨0, 2⟩, .tick, .tick]
    invsOf true r.2 = [(0, ⟨0, 1⟩), (0, ⟨0, 2⟩)] ∧ droppedOf r.2 = [⟨0, 1⟩] := by decide

end HsVerif.Props.C06Queue
