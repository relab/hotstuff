import HsVerif.Proofs.ReplicaBounds
import HsVerif.Props.C05Chain
/-! C05 — the "bookkeeping" hypotheses of the recovery / commit theorems (Props/C05Cover.lean, Props/C05Chain.lean),
derived from reachability.

From the view bounds of one replica (`VB`, Proofs/ReplicaBounds.lean: `committed.view < view`, `lastVoted ≤ view`, genesis
stored; every handler, any rule set, timeout rule and scheme) follow `SyncPre.committed`, `lastVoted ≤ v` of `RecPre.init`
and the clause `(D.hq i).view = (D.hb i).view` of `KnowsAll.qc`; the view bound of `SyncPre.par` (the block under a
certified block is older) needs the system-level safety context.  `RecPre'`, `KnowsAll'`, `SyncPre'` are the hypotheses
without those clauses.

`highQC.view < view ∧ highTC.view < view` is an invariant under the plain timeout rule (`c.agg = false`;
Proofs/ReplicaBounds.lean): `advanceView` enters the view AFTER the certificate (`ViewStates.EnterViewAfter`), so a replica
that lags behind and adopts a certificate of a later view jumps past it.  For a replica in view `D.v` the last clauses of
`KnowsAll.qc` / `KnowsAll.tc` (`… < D.v`, kept as hypotheses of the theorems here) therefore hold of its own certificates.
The run `wF` of the last section shows the jump: replica 4, in view 3, adopts a QC and a TC of view 4 and ends in view 5;
the three witnesses there state what the kernel evaluates (their names date from the code as found, where the replica
moved on by one view only — repair a284fef).  Under the aggregate timeout rule a plain QC refreshes the high QC without
moving the view (`fix:` 4f3d40f), so `highQC.view < view` is not an invariant for `c.agg = true`. -/
namespace HsVerif.Model

/-- **in every reachable state of the system (any rule set, any timeout rule, any scheme, any number of Byzantine
replicas), every replica satisfies the view bounds** -/
theorem reach_vb (k : Keys) (C : SysCfg) (σ : SysState) (h : Reach k C σ) : ∀ i s, σ.reps.lookup i = some s → VB s :=
  reach_rep k C (fun _ s => VB s) (fun _ => vb_init) (fun _ _ _ _ h => ⟨h.1, h.2, h.3, h.4⟩) (fun _ _ _ h => ⟨h.1, h.2, h.3, h.4⟩)
    (fun _ => start_vb k _) (fun _ => step_vb k _) σ h

open HsVerif.Props.C01Sys in
/-- **in every reachable state of the system of replica models** whose replicas use the plain timeout rule — any rule
set, any scheme, any number of Byzantine replicas, whatever the adversary delivers -/
theorem reach_cb (k : Keys) (C : SysCfg) (hagg : ∀ i, (C.rcfg i).agg = false) (σ : SysState) (hr : Reach k C σ) :
    ∀ i s, σ.reps.lookup i = some s → CB s :=
  reach_rep k C (fun _ s => CB s) (fun _ => cb_init) (fun _ _ _ _ h => h) (fun _ _ _ h => h)
    (fun i => start_cb k _ (hagg i)) (fun i => step_cb k _ (hagg i)) σ hr

end HsVerif.Model

namespace HsVerif.Props.C05Pre
open HsVerif.Model HsVerif.Props.C01Sys HsVerif.Props.C01SysWF HsVerif.Props.C03
open HsVerif.Props.C05Live HsVerif.Props.C05Cover HsVerif.Props.C05Chain

theorem view_bounds_init : VB {} := vb_init
theorem view_bounds_start (k : Keys) (c : RCfg) (s : RState) (h : VB s) : VB (start k c s).1 := start_vb k c s h
theorem view_bounds_step (k : Keys) (c : RCfg) (s : RState) (e : Ev) (h : VB s) : VB (step k c s e).1 := step_vb k c s e h

/-- **along every run of one replica** (any rule set, any timeout rule, any scheme): the committed block is older than
the current view, and the replica has not voted or timed out beyond its view -/
theorem view_bounds (k : Keys) (c : RCfg) (es : List Ev) :
    (runEvents k c (start k c {}).1 es).committed.view < (runEvents k c (start k c {}).1 es).view ∧
    (runEvents k c (start k c {}).1 es).lastVoted ≤ (runEvents k c (start k c {}).1 es).view := by
  have h := runEvents_keeps (step_vb k c) es _ (start_vb k c {} vb_init)
  exact ⟨h.committed, h.voted⟩

/-- **in every reachable state of the system of replica models** — any rule set, timeout rule, scheme, any number of
Byzantine replicas -/
theorem sys_view_bounds (k : Keys) (C : SysCfg) (σ : SysState) (hr : Reach k C σ) (i : Nat) (s : RState)
    (hl : σ.reps.lookup i = some s) :
    s.committed.view < s.view ∧ s.lastVoted ≤ s.view ∧ s.chain.blocks.lookup genesisHash = some genesisBlock := by
  have h := reach_vb k C σ hr i s hl
  exact ⟨h.committed, h.voted, h.gen genesisHash genesisBlock (by simp [G0])⟩

theorem syncPre_committed_of_reach (k : Keys) (C : SysCfg) (D : RecData) (σ : SysState) (hr : Reach k C σ)
    (j : Nat) (s : RState) (hl : σ.reps.lookup j = some s) (hv : s.view = D.v) : s.committed.view ≤ D.v := by
  have := (sys_view_bounds k C σ hr j s hl).1
  omega

theorem recPre_lastVoted_of_reach (k : Keys) (C : SysCfg) (D : RecData) (σ : SysState) (hr : Reach k C σ)
    (j : Nat) (s : RState) (hl : σ.reps.lookup j = some s) (hv : s.view = D.v) : s.lastVoted ≤ D.v := by
  have := (sys_view_bounds k C σ hr j s hl).2.1
  omega

/-- the clause `(D.hq i).view = (D.hb i).view` of `KnowsAll.qc`: a certificate that replica `j` accepts and whose block it
stores claims the view of that block (for the genesis certificate: genesis is stored) -/
theorem knowsAll_qc_blockview_of_reach (k : Keys) (C : SysCfg) (σ : SysState) (hr : Reach k C σ)
    (j : Nat) (s : RState) (hl : σ.reps.lookup j = some s) (T : List (Nat × Atom)) (q : QC) (b : Block)
    (hv : verifyQC (env k (C.rcfg j) { s with truth := T }) q = true) (hb : s.chain.blocks.lookup q.hash = some b) :
    q.view = b.view := by
  rcases verifyQC_blockView k (C.rcfg j) { s with truth := T } q hv with ⟨h1, h2⟩ | ⟨p, hp, hpv⟩
  · have hg := (sys_view_bounds k C σ hr j s hl).2.2
    rw [h1, hg] at hb
    cases hb
    rw [h2]; rfl
  · have : some p = some b := by rw [← hp, ← hb]
    cases this
    exact hpv.symm

/-- **the high certificates are below the view** — along every run of one replica under the plain timeout rule (any rule
set, any scheme, any events): a view is entered only AFTER the view of the certificate that opens it. -/
theorem high_certificates_below_view (k : Keys) (c : RCfg) (hagg : c.agg = false) (es : List Ev) :
    let s := runEvents k c (start k c {}).1 es
    s.highQC.view < s.view ∧ s.highTC.view < s.view :=
  runEvents_cb k c hagg es _ (start_cb k c hagg {} cb_init)

/-- **… in every reachable state of the system of replica models** (all replicas use the plain timeout rule; any number
of Byzantine replicas, whatever the adversary delivers) -/
theorem sys_high_certificates_below_view (k : Keys) (C : SysCfg) (hagg : ∀ i, (C.rcfg i).agg = false)
    (σ : SysState) (hr : Reach k C σ) (i : Nat) (s : RState) (hl : σ.reps.lookup i = some s) :
    s.highQC.view < s.view ∧ s.highTC.view < s.view :=
  reach_cb k C hagg σ hr i s hl

/-- `KnowsAll.qc`, last clause, from reachability (plain timeout rule) -/
theorem knowsAll_qc_view_of_reach (k : Keys) (C : SysCfg) (hagg : ∀ i, (C.rcfg i).agg = false) (D : RecData)
    (σ : SysState) (hr : Reach k C σ)
    (j : Nat) (s : RState) (hl : σ.reps.lookup j = some s) (hv : s.view = D.v) (hq : s.highQC = D.hq j) :
    (D.hq j).view < D.v := by
  rw [← hq, ← hv]; exact (sys_high_certificates_below_view k C hagg σ hr j s hl).1

/-- `KnowsAll.tc`, last clause, from reachability (plain timeout rule) -/
theorem knowsAll_tc_view_of_reach (k : Keys) (C : SysCfg) (hagg : ∀ i, (C.rcfg i).agg = false) (D : RecData)
    (σ : SysState) (hr : Reach k C σ)
    (j : Nat) (s : RState) (hl : σ.reps.lookup j = some s) (hv : s.view = D.v) (ht : (D.htc j).view ≤ s.highTC.view) :
    (D.htc j).view < D.v := by
  have := (sys_high_certificates_below_view k C hagg σ hr j s hl).2
  omega

/-- `KnowsAll` without the clause `(D.hq i).view = (D.hb i).view` -/
structure KnowsAll' (k : Keys) (C : SysCfg) (D : RecData) (j : Nat) (s : RState) : Prop where
  qc : ∀ i ∈ C.honest, verifyQC (env k (C.rcfg j) s) (D.hq i) = true ∧
    s.chain.blocks.lookup (D.hq i).hash = some (D.hb i) ∧ (D.hq i).view < D.v
  tc : ∀ i ∈ C.honest, verifyTC (env k (C.rcfg j) s) (D.htc i) = true ∧ (D.htc i).view < D.v
  acc : ∀ i ∈ C.honest, HsVerif.Props.C08.Accepted (fun b => s.truth.lookup b) (C.rcfg j).cfg (D.tmsg C i)

/-- `RecPre` without `lastVoted ≤ v` and with `KnowsAll'` -/
structure RecPre' (k : Keys) (C : SysCfg) (D : RecData) (s0 : Nat → RState) (ℓ : Nat) (T0 : List (Nat × Atom)) : Prop where
  agg : C.agg = false
  scheme : C.scheme ≠ .bls12
  rules : C.rules ≠ .fast
  v0 : D.v ≠ 0
  nodup : C.honest.Nodup
  range : ∀ i ∈ C.honest, 1 ≤ i ∧ i ≤ C.n
  all : C.honest.length = C.n
  two : 2 ≤ C.n
  leader : ∀ j ∈ C.honest, (C.rcfg j).leader (D.v + 1) = ℓ
  lmem : ℓ ∈ C.honest
  init : ∀ j ∈ C.honest, RColl C D (s0 j) j [] (s0 j) ∧ (s0 j).waitingVC = [] ∧
    KnowsAll' k C D j { s0 j with truth := T0 }
  mark : ∀ i ∈ C.honest, markWalk ((s0 ℓ).chain.fuel + 1) (s0 ℓ).chain.blocks (s0 ℓ).lastProposed (D.hb i) = true
  parents : ∀ j ∈ C.honest, ∀ i ∈ C.honest, Top C D i →
    ((D.hb i).qc.hash = "" ∨ ∃ gb, (s0 j).chain.blocks.lookup (D.hb i).qc.hash = some gb)

/-- `SyncPre` without `committed` and without the view bound in `par` -/
structure SyncPre' (C : SysCfg) (D : RecData) (s0 : Nat → RState) (N : Nat) : Prop where
  fetch : ∀ j ∈ C.honest, (s0 j).chain.fetchable = []
  wprop : ∀ j ∈ C.honest, (s0 j).waitingProp = []
  names : ∀ j ∈ C.honest, ∀ u, D.v < u →
    (s0 j).chain.blocks.lookup (pname u) = none ∧ (s0 j).votes.lookup (pname u) = none
  par : ∀ j ∈ C.honest, ∀ i ∈ C.honest, Top C D i → ∃ P, (s0 j).chain.blocks.lookup (D.hb i).qc.hash = some P
  small : ∀ j ∈ C.honest, 2 * (s0 j).chain.blocks.length + (D.v + 1) ≤ N
  walk : ∀ j ∈ C.honest, ∀ i ∈ C.honest, Top C D i →
    cmWalk ((s0 j).chain.blocks.length + 2) (s0 j).chain.blocks (s0 j).committed.view (D.hb i) = true
  bound : N + 20 ≤ 99999

theorem knowsAll_weaken {k : Keys} {C : SysCfg} {D : RecData} {j : Nat} {s : RState} (h : KnowsAll k C D j s) :
    KnowsAll' k C D j s :=
  ⟨fun i hi => ⟨(h.qc i hi).1, (h.qc i hi).2.1, (h.qc i hi).2.2.2⟩, h.tc, h.acc⟩

theorem recPre_weaken {k : Keys} {C : SysCfg} {D : RecData} {s0 : Nat → RState} {ℓ : Nat} {T0 : List (Nat × Atom)}
    (h : RecPre k C D s0 ℓ T0) : RecPre' k C D s0 ℓ T0 :=
  ⟨h.agg, h.scheme, h.rules, h.v0, h.nodup, h.range, h.all, h.two, h.leader, h.lmem,
    fun j hj => ⟨(h.init j hj).1, (h.init j hj).2.1, knowsAll_weaken (h.init j hj).2.2.2⟩, h.mark, h.parents⟩

theorem syncPre_weaken {C : SysCfg} {D : RecData} {s0 : Nat → RState} {N : Nat} (h : SyncPre C D s0 N) :
    SyncPre' C D s0 N :=
  ⟨h.fetch, h.wprop, h.names, fun j hj i hi ht => (h.par j hj i hi ht).imp fun _ hP => hP.1, h.small, h.walk, h.bound⟩

theorem knowsAll_of_reach (k : Keys) (C : SysCfg) (D : RecData) (σ : SysState) (hr : Reach k C σ)
    (j : Nat) (s : RState) (hl : σ.reps.lookup j = some s) (T : List (Nat × Atom))
    (h : KnowsAll' k C D j { s with truth := T }) : KnowsAll k C D j { s with truth := T } :=
  ⟨fun i hi => ⟨(h.qc i hi).1, (h.qc i hi).2.1,
      knowsAll_qc_blockview_of_reach k C σ hr j s hl T (D.hq i) (D.hb i) (h.qc i hi).1 (h.qc i hi).2.1, (h.qc i hi).2.2⟩,
    h.tc, h.acc⟩

theorem recPre_of_reach (k : Keys) (C : SysCfg) (D : RecData) (s0 : Nat → RState) (ℓ : Nat) (σ : SysState)
    (T0 : List (Nat × Atom)) (hr : Reach k C σ) (hreps : ∀ j ∈ C.honest, σ.reps.lookup j = some (s0 j))
    (h : RecPre' k C D s0 ℓ T0) : RecPre k C D s0 ℓ T0 :=
  ⟨h.agg, h.scheme, h.rules, h.v0, h.nodup, h.range, h.all, h.two, h.leader, h.lmem,
    fun j hj => ⟨(h.init j hj).1, (h.init j hj).2.1,
      recPre_lastVoted_of_reach k C D σ hr j (s0 j) (hreps j hj) (h.init j hj).1.view,
      knowsAll_of_reach k C D σ hr j (s0 j) (hreps j hj) T0 (h.init j hj).2.2⟩, h.mark, h.parents⟩

/-- **the view bound of `SyncPre.par`**: the block `P` stored under the certificate hash of a `Top` block `D.hb i` is older
than `D.hb i`, hence older than the view.  `D.hb i` is certified (its certificate `D.hq i` is accepted against the global
table), so a quorum voted for it, each after checking its certificate; with content addressing `P` is the
block they saw.  (`D.hb i` is not genesis: nothing is stored under the empty hash.) -/
theorem syncPre_par_view_of_reach_live (k : Keys) (C : SysCfg) (D : RecData) (s0 : Nat → RState) (ℓ : Nat) (σ : SysState)
    (blk : Hash → Block) (hk : KeysOK k) (hr : Reach k C σ) (hca : CA' σ blk)
    (hP : RecPreLive k C D s0 ℓ σ.truth) (hreps : ∀ j ∈ C.honest, σ.reps.lookup j = some (s0 j))
    (j : Nat) (hj : j ∈ C.honest) (i : Nat) (hi : i ∈ C.honest) (P : Block)
    (hl : (s0 j).chain.blocks.lookup (D.hb i).qc.hash = some P) : P.view < (D.hb i).view ∧ P.view < D.v := by
  have X := hP.ctx hk hr hca
  obtain ⟨hv, hb, he, hlt⟩ := (hP.init j hj).2.2.2.qc i hi
  have hs := hreps j hj
  have hgc := X.accepted_gc hs hv (show sget (s0 j) (D.hq i).hash = some (D.hb i) from hb)
  obtain ⟨hc, hPp⟩ := X.link_gc hs hgc (show sget (s0 j) (D.hb i).qc.hash = some P from hl)
  have h1 : P.view < (D.hb i).view := by rw [hPp]; exact (X.base.cert hc).lt
  exact ⟨h1, by omega⟩

/-- `syncPre_par_view_of_reach_live` when all `n` ids take part -/
theorem syncPre_par_view_of_reach (k : Keys) (C : SysCfg) (D : RecData) (s0 : Nat → RState) (ℓ : Nat) (σ : SysState)
    (blk : Hash → Block) (hk : KeysOK k) (hr : Reach k C σ) (hca : CA' σ blk)
    (hP : RecPre k C D s0 ℓ σ.truth) (hreps : ∀ j ∈ C.honest, σ.reps.lookup j = some (s0 j))
    (j : Nat) (hj : j ∈ C.honest) (i : Nat) (hi : i ∈ C.honest) (P : Block)
    (hl : (s0 j).chain.blocks.lookup (D.hb i).qc.hash = some P) : P.view < (D.hb i).view ∧ P.view < D.v :=
  syncPre_par_view_of_reach_live k C D s0 ℓ σ blk hk hr hca hP.toLive hreps j hj i hi P hl

theorem syncPre_of_reach (k : Keys) (C : SysCfg) (D : RecData) (s0 : Nat → RState) (ℓ : Nat) (σ : SysState)
    (blk : Hash → Block) (hk : KeysOK k) (hr : Reach k C σ) (hca : CA' σ blk)
    (hP : RecPreLive k C D s0 ℓ σ.truth) (hreps : ∀ j ∈ C.honest, σ.reps.lookup j = some (s0 j))
    (N : Nat) (h : SyncPre' C D s0 N) : SyncPre C D s0 N :=
  ⟨h.fetch, h.wprop, h.names,
    fun j hj i hi ht => by
      obtain ⟨P, hl⟩ := h.par j hj i hi ht
      exact ⟨P, hl, Nat.le_of_lt (syncPre_par_view_of_reach_live k C D s0 ℓ σ blk hk hr hca hP hreps j hj i hi P hl).2⟩,
    fun j hj => syncPre_committed_of_reach k C D σ hr j (s0 j) (hreps j hj) (hP.init j hj).1.view,
    h.small, h.walk, h.bound⟩

/-- **Recovery from any reachable state**, hypotheses `RecPre'` -/
theorem recovery_from_reachable' (k : Keys) (C : SysCfg) (D : RecData) (s0 : Nat → RState) (ℓ : Nat)
    (σ0 : SysState) (blk : Hash → Block) (hk : KeysOK k) (hr : Reach k C σ0) (hca : CA' σ0 blk)
    (hP : RecPre' k C D s0 ℓ σ0.truth) (h0 : RecStart C s0 σ0.truth σ0)
    (msgs : List (Nat × Nat)) (hm : FullOrder C msgs) :
    ∃ (i : Nat) (b' : Block),
      i ∈ C.honest ∧ Top C D i ∧
      b'.view = D.v + 1 ∧ b'.qc = D.hq i ∧ b'.parent = (D.hq i).hash ∧ b'.proposer = ℓ ∧
      (∀ j ∈ C.honest, j ≠ ℓ → (j, Ev.propose ℓ b' none) ∈ (recoveryRound k C D σ0 msgs).2) ∧
      (∀ j ∈ C.honest, ∃ s, (recoveryRound k C D σ0 msgs).1.reps.lookup j = some s ∧ D.v + 1 ≤ s.view) := by
  obtain ⟨i, b', h1, h2, h3, h4, h5, h6, h7, h8, _⟩ := recovery_from_reachable k C D s0 ℓ σ0 blk hk hr hca
    (recPre_of_reach k C D s0 ℓ σ0 σ0.truth hr h0.reps hP) h0 msgs hm
  exact ⟨i, b', h1, h2, h3, h4, h5, h6, h7, h8⟩

/-- **Commit after recovery**, hypotheses `RecPre'` and `SyncPre'`: the clauses `SyncPre.committed`, the view bound of
`SyncPre.par`, `lastVoted ≤ v` of `RecPre.init` and `(D.hq i).view = (D.hb i).view` of `KnowsAll.qc` are not assumed -/
theorem commit_after_recovery' (k : Keys) (C : SysCfg) (L : Nat) (hC : HappyCfg C L) (D : RecData) (s0 : Nat → RState)
    (σ0 : SysState) (blk : Hash → Block) (hk : KeysOK k) (hr : Reach k C σ0) (hca : CA' σ0 blk)
    (hP : RecPre' k C D s0 L σ0.truth) (h0 : RecStart C s0 σ0.truth σ0)
    (msgs : List (Nat × Nat)) (hm : FullOrder C msgs) (N : Nat) (hY : SyncPre' C D s0 N)
    (ordP v1 p1 v2 p2 v3 p3 : List Nat) (hordP : OthersOrder C L ordP)
    (hv1 : OthersOrder C L v1) (hp1 : OthersOrder C L p1) (hv2 : OthersOrder C L v2)
    (hp2 : OthersOrder C L p2) (hv3 : OthersOrder C L v3) (hp3 : OthersOrder C L p3) :
    ∃ (i : Nat) (b' : Block), i ∈ C.honest ∧ Top C D i ∧ b'.view = D.v + 1 ∧ b'.qc = D.hq i ∧ b'.proposer = L ∧
      ∀ j ∈ C.honest, ∃ s,
        (chainView k C v3 p3 (chainView k C v2 p2 (chainView k C v1 p1
          (proposalRound k C ordP (recoveryRound k C D σ0 msgs))))).1.reps.lookup j = some s ∧
        s.committed = b' ∧ s.committed.view = D.v + 1 ∧ (s0 j).committed.view < s.committed.view := by
  have hP' := recPre_of_reach k C D s0 L σ0 σ0.truth hr h0.reps hP
  exact commit_after_recovery k C L hC D s0 σ0 blk hk hr hca hP' h0 msgs hm N
    (syncPre_of_reach k C D s0 L σ0 blk hk hr hca hP'.toLive h0.reps N hY)
    ordP v1 p1 v2 p2 v3 p3 hordP hv1 hp1 hv2 hp2 hv3 hp3


section NonVacuity

/-- **the weakened hypotheses hold of the kernel-evaluated run `cvRun`** (four replicas, four views of the fault-free run,
the votes for `P4` lost, all four time out in view 4) -/
theorem commit_after_recovery'_nonvacuous :
    KeysOK exKeys ∧ Reach exKeys recCfg cvRun.1 ∧ CA' cvRun.1 cvBlk ∧
    RecPre' exKeys recCfg cvData cvS0 1 cvRun.1.truth ∧ RecStart recCfg cvS0 cvRun.1.truth cvRun.1 ∧
    SyncPre' recCfg cvData cvS0 1000 := by
  obtain ⟨hk, hr, hca, hP, h0, _, _⟩ := recovery_from_reachable_nonvacuous
  exact ⟨hk, hr, hca, recPre_weaken hP, h0, syncPre_weaken cv_syncPre⟩

/-- … and the derived clauses are what the kernel evaluates there: every replica of `cvRun` is in view 4, has committed a
block of view 1 and has voted in view 4 last -/
theorem derived_clauses_evaluated :
    ∀ j ∈ recCfg.honest, (cvS0 j).view = 4 ∧ (cvS0 j).committed.view = 1 ∧ (cvS0 j).lastVoted = 4 :=
  fun j hj => ⟨(recovery_from_reachable_nonvacuous.2.2.2.1.init j hj).1.view, (cvOK_parts.2 j hj).2⟩

end NonVacuity


/-! ## the lagging replica: certificates of a later view -/
section Witness

/-- six rounds of the fault-free synchronous run of `recCfg` (four honest replicas, fixed leader 1, chained HotStuff):
the leader is in view 4 and has proposed `P4`; `P4` reaches replicas 2 and 3, which enter view 4 and vote — replica 4
hears nothing and stays in view 3 -/
def wB : SysState × Msgs :=
  deliverAll exKeys recCfg ((syncRun exKeys recCfg 6).1, []) ((syncRun exKeys recCfg 6).2.filter (fun m => m.1 != 4))
/-- replicas 1, 2, 3 time out in view 4 -/
def wC : SysState × Msgs :=
  deliverAll exKeys recCfg (wB.1, []) [(1, .localTimeout 4), (2, .localTimeout 4), (3, .localTimeout 4)]
def wP4 : Block := ((((syncRun exKeys recCfg 6).1.reps.lookup 1).getD {}).chain.blocks.lookup "P4").getD genesisBlock
/-- the certificate of `P4`, from the votes of replicas 1, 2, 3 (byte ids of the global table) -/
def wQC : QC := ⟨some (.multi .ecdsa [⟨1, 13⟩, ⟨2, 14⟩, ⟨3, 15⟩]), 4, "P4"⟩
/-- the timeout certificate of view 4, from the timeout signatures of replicas 1, 2, 3 -/
def wTC : TC := ⟨some (.multi .ecdsa [⟨1, 16⟩, ⟨2, 17⟩, ⟨3, 18⟩]), 4⟩
/-- the network hands both certificates to replica 4 (still in view 3), which can fetch `P4`: it verifies them, adopts them
as high QC and high TC — and enters the view AFTER them, view 5 -/
def wF : SysState :=
  sysStep exKeys recCfg
    (deliverAll exKeys recCfg (sysStep exKeys recCfg wC.1 (.fetchable 4 [("P4", wP4)]), [])
      [(4, .newview 1 { qc := some wQC, tc := some wTC })]).1
    (.fetchable 4 [])
/-- … and then the (stale) local timeout of view 4 fires at replica 4 -/
def wG : SysState × Msgs := deliverAll exKeys recCfg (wF, []) [(4, .localTimeout 4)]

theorem wF_reach : Reach exKeys recCfg wF :=
  .step _ _ (deliverAll_reach exKeys recCfg _ _ _ (.step _ _ (deliverAll_reach exKeys recCfg _ _ _
    (deliverAll_reach exKeys recCfg _ _ _ (syncRun_reach exKeys recCfg 6)))))

/-- what the three theorems below state of `wF` and `wG`, in their order, decided as one proposition: `wG` starts with `wF`,
and the kernel then evaluates `wF` once -/
theorem w_evaluated :
    (recCfg.honest.map (fun j => (wF.reps.lookup j).map (fun s => (s.view, s.queue.length))) =
        [some (4, 0), some (4, 0), some (4, 0), some (5, 0)] ∧
      (wF.reps.lookup 4).map (fun s => (s.highQC.view, s.highTC.view, s.highQC, s.highTC)) = some (4, 4, wQC, wTC) ∧
      (wF.reps.lookup 4).map (fun s => (s.ghost.filter GRec.isAdv).map (fun r => (r.advFrom, r.advTo))) =
        some [(1, 2), (2, 3), (3, 5)]) ∧
    (recCfg.honest.map (fun j => (wF.reps.lookup j).map (·.view)) = [some 4, some 4, some 4, some 5] ∧
      (wF.reps.lookup 4).map (fun s => (s.highTC.view, s.view)) = some (4, 5)) ∧
    (wG.1.reps.lookup 4).map (fun s => (s.view, s.timeouts.map (fun t => (t.id, t.view)), s.highQC.view, s.highTC.view)) =
      some (5, [], 4, 4) := by
  decide +kernel

/-- The name dates from the code as found: before repair a284fef this run had all four replicas in view 4 and replica 4
holding a QC and a TC of view 4, refuting `highQC.view < view`.  On the repaired model the same reachable run — every
replica honest, nothing queued anywhere — ends with replicas 1, 2, 3 in view 4 and the lagging replica 4, which adopted
the QC and the TC of view 4 while in view 3, in view 5 = certified view + 1: its high QC and high TC (view 4) are BELOW
its view; its advancement records are 1 → 2, 2 → 3, 3 → 5. -/
theorem highqc_not_below_view :
    Reach exKeys recCfg wF ∧ recCfg.honest.length = recCfg.n ∧
    recCfg.honest.map (fun j => (wF.reps.lookup j).map (fun s => (s.view, s.queue.length))) =
      [some (4, 0), some (4, 0), some (4, 0), some (5, 0)] ∧
    (wF.reps.lookup 4).map (fun s => (s.highQC.view, s.highTC.view, s.highQC, s.highTC)) = some (4, 4, wQC, wTC) ∧
    (wF.reps.lookup 4).map (fun s => (s.ghost.filter GRec.isAdv).map (fun r => (r.advFrom, r.advTo))) =
      some [(1, 2), (2, 3), (3, 5)] :=
  ⟨wF_reach, rfl, w_evaluated.1⟩

/-- replica 4 holds a TC of view 4 and is in view 5 (the name: as for `highqc_not_below_view`) -/
theorem hightc_not_below_view :
    Reach exKeys recCfg wF ∧ recCfg.honest.map (fun j => (wF.reps.lookup j).map (·.view)) = [some 4, some 4, some 4, some 5] ∧
    (wF.reps.lookup 4).map (fun s => (s.highTC.view, s.view)) = some (4, 5) :=
  ⟨wF_reach, w_evaluated.2.1⟩

/-- Before repair a284fef replica 4 was still in view 4, timed out there, and its own timeout message carrying the
certificates of view 4 moved it to view 5.  On the repaired model replica 4 is already in view 5 when the local timeout
of view 4 fires: the event is stale and changes nothing — view 5, no timeout message collected, certificates of view 4. -/
theorem timeout_with_current_certificate_leaves_view :
    Reach exKeys recCfg wG.1 ∧
    (wG.1.reps.lookup 4).map (fun s => (s.view, s.timeouts.map (fun t => (t.id, t.view)), s.highQC.view, s.highTC.view)) =
      some (5, [], 4, 4) :=
  ⟨deliverAll_reach exKeys recCfg _ _ _ wF_reach, w_evaluated.2.2⟩

end Witness
end HsVerif.Props.C05Pre
