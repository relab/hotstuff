import HsVerif.Proofs.Rules
/-! C04 — vote, lock and commit decisions equal the published protocol rules.
`Model.Rules` mirrors /repo/protocol/rules/*.go (with fixes/C04-simple-consecutive.diff) and
`Blockchain.Extends`; `Spec.Rules` is written from the papers.

Standing convention (DESIGN.md §2): hashes are names, name 0 is the all-zero hash and names no
block (`s 0 = none`); the rules of chained and Fast-HotStuff never look the zero hash up (`qcRef`),
which is the only place where that hypothesis is used. -/
namespace HsVerif.Props.C04
open HsVerif.Model.Rules HsVerif.Spec.Rules HsVerif.Proofs.Rules

theorem chained_commit_spec (s : Store) (lock b : Block) (hz : s 0 = none) :
    chainedCommit s lock b = (chainedDecide s b, chainedLock s lock b) := by
  unfold chainedCommit chainedDecide chainedLock justified DirectNext
  simp only [qcRef_eq s hz]
  cases s b.qcHash with
  | none => rfl
  | some b1 =>
  dsimp only [Option.bind_some]
  cases s b1.qcHash with
  | none => rfl
  | some b2 =>
  dsimp only [Option.bind_some]
  cases s b2.qcHash with
  | none => rfl
  | some b3 =>
    simp only [Option.bind_some, and_assoc]
    exact (apply_ite (fun o => (o, _)) _ _ _).symm

theorem chained_commit_eq_spec (s : Store) (lock b : Block) (hz : s 0 = none) :
    (chainedCommit s lock b).1 = chainedDecide s b := congrArg Prod.fst (chained_commit_spec s lock b hz)

theorem chained_lock_eq_spec (s : Store) (lock b : Block) (hz : s 0 = none) :
    (chainedCommit s lock b).2 = chainedLock s lock b := congrArg Prod.snd (chained_commit_spec s lock b hz)

theorem chained_decide_iff (s : Store) (b c : Block) :
    chainedDecide s b = some c ↔ ChainedCommits s b c := by
  simp only [chainedDecide, Option.bind_eq_some_iff, Option.ite_none_right_eq_some, Option.some.injEq]
  constructor
  · rintro ⟨b2, h2, b1, h1, b0, h0, ⟨l21, l10⟩, rfl⟩
    exact ⟨b2, b1, h2, h1, h0, l21, l10⟩
  · rintro ⟨b2, b1, h2, h1, h0, l21, l10⟩
    exact ⟨b2, h2, b1, h1, c, h0, ⟨l21, l10⟩, rfl⟩

theorem chained_commit_iff (s : Store) (lock b c : Block) (hz : s 0 = none) :
    (chainedCommit s lock b).1 = some c ↔ ChainedCommits s b c := by
  rw [chained_commit_eq_spec s lock b hz, chained_decide_iff]

/-- `chainedVote` and `simpleVote` refuse when the block to lock on is missing, and only then. -/
theorem lockTargetKnown_iff {s : Store} {b q : Block} (hq : justified s b = some q) :
    LockTargetKnown s b ↔ ¬(q.qcHash ≠ 0 ∧ (bcGet s q.qcHash).isNone = true) := by
  rw [Option.isNone_iff_eq_none, ← Option.not_isSome_iff_eq_none, ← not_or, Decidable.not_not]
  exact ⟨fun h => h q hq, fun h j hj => Option.some.inj (hq.symm.trans hj) ▸ h⟩

/-- The vote rule as coded: `safeNode` with the walk of `Blockchain.Extends` for "extends the
lock", guarded by the lock target being known. -/
theorem chained_vote_iff (s : Store) (lock b : Block) :
    chainedVote s lock b = true ↔ LockTargetKnown s b ∧
      (extends_ s b lock = true ∨ ∃ j, justified s b = some j ∧ j.view > lock.view) := by
  unfold chainedVote
  cases hq : justified s b with
  | none =>
    have hl : LockTargetKnown s b := fun j hj => by rw [hq] at hj; cases hj
    rw [show bcGet s b.qcHash = none from hq]
    simp [hl]
  | some q =>
    rw [show bcGet s b.qcHash = some q from hq]
    simp only [Option.some.injEq, exists_eq_left', lockTargetKnown_iff hq]
    by_cases hk : q.qcHash ≠ 0 ∧ (bcGet s q.qcHash).isNone = true
    · simp [hk]
    · simp only [if_neg hk, eq_true hk, true_and]
      by_cases hv : q.view > lock.view <;> simp [hv]

theorem chained_vote_sound (s : Store) (lock b : Block) (h : chainedVote s lock b = true) :
    ChainedVotes s lock b :=
  ((chained_vote_iff s lock b).1 h).2.imp_left (extends_sound s b lock)

/-- A vote is only cast when the block to lock on is known (repaired code): the replica that votes
can and does update its lock in `CommitRule`. -/
theorem chained_vote_lock_known (s : Store) (lock b : Block) (h : chainedVote s lock b = true) :
    LockTargetKnown s b := ((chained_vote_iff s lock b).1 h).1

/- FULL STATEMENT (false of the code, see `chained_vote_eq_spec_counterexample`):
     ∀ s lock b, chainedVote s lock b = true ↔ ChainedVotes s lock b
   `Blockchain.Extends` stops walking at the first block whose view is not above the target's, so
   an ancestor behind a parent link that does not increase the view is not found. -/
/-- Vote decision = `safeNode` on every forest whose parent links increase the view (names in
creation order, names identify blocks). -/
theorem chained_vote_eq_spec_partial (s : Store) (lock b : Block)
    (hac : Acyclic s) (hg : ViewsGrow s b) (hn : Names s b lock) (hk : LockTargetKnown s b) :
    chainedVote s lock b = true ↔ ChainedVotes s lock b :=
  ⟨chained_vote_sound s lock b, fun h =>
    (chained_vote_iff s lock b).2 ⟨hk, h.imp_left (extends_complete s b lock hac hg hn)⟩⟩

/-- Witness that the hypothesis `ViewsGrow` cannot be dropped: lock `T` (view 3), `X` (view 1) a
child of `T`, proposal `Y` (view 5) a child of `X` justified by genesis.  `Y` extends the lock, the
code answers no. -/
theorem chained_vote_eq_spec_counterexample :
    ∃ (s : Store) (lock b : Block), Acyclic s ∧ Names s b lock ∧
      ChainedVotes s lock b ∧ chainedVote s lock b = false := by
  let T : Block := ⟨2, 3, 1, 1, 0⟩
  let X : Block := ⟨3, 1, 2, 1, 0⟩
  let Y : Block := ⟨4, 5, 3, 1, 0⟩
  refine ⟨ofList [genesis, T, X], T, Y, acyclic_ofList _ (by decide), names_ofList _ _ _ (by decide), ?_, by decide⟩
  exact Or.inl (OnBranch.up (p := X) (by decide) (OnBranch.up (p := T) (by decide) (OnBranch.self T)))

theorem fast_commit_eq_spec (s : Store) (b : Block) (hz : s 0 = none) :
    fastCommit s b = fastDecide s b := by
  unfold fastCommit fastDecide justified DirectNext
  simp only [qcRef_eq s hz]
  cases s b.qcHash with
  | none => rfl
  | some p =>
  dsimp only [Option.bind_some]
  cases s p.qcHash with
  | none => rfl
  | some g => simp only [Option.bind_some, and_assoc]

theorem fast_decide_iff (s : Store) (b c : Block) : fastDecide s b = some c ↔ FastCommits s b c := by
  simp only [fastDecide, Option.bind_eq_some_iff, Option.ite_none_right_eq_some, Option.some.injEq]
  constructor
  · rintro ⟨b1, h1, b0, h0, ⟨l1, l0⟩, rfl⟩
    exact ⟨b1, h1, h0, l1, l0⟩
  · rintro ⟨b1, h1, h0, l1, l0⟩
    exact ⟨b1, h1, c, h0, ⟨l1, l0⟩, rfl⟩

theorem fast_commit_iff (s : Store) (b c : Block) (hz : s 0 = none) :
    fastCommit s b = some c ↔ FastCommits s b c := by
  rw [fast_commit_eq_spec s b hz, fast_decide_iff]

/-- Happy-path vote decision, for every store, view and proposal. -/
theorem fast_vote_plain_eq_spec (s : Store) (cur : Nat) (b : Block) :
    fastVote s cur b false = true ↔ FastVotesPlain cur b := by
  simp [fastVote, FastVotesPlain, and_comm]

/-- The aggregated-QC path as coded: the walk of `Blockchain.Extends` towards the certified block. -/
theorem fast_vote_agg_iff (s : Store) (cur : Nat) (b : Block) :
    fastVote s cur b true = true ↔ ∃ hb, justified s b = some hb ∧ extends_ s b hb = true := by
  unfold fastVote justified bcGet
  cases s b.qcHash <;> simp

theorem fast_vote_agg_sound (s : Store) (cur : Nat) (b : Block) (h : fastVote s cur b true = true) :
    FastVotesAgg s b :=
  let ⟨hb, hj, he⟩ := (fast_vote_agg_iff s cur b).1 h
  ⟨hb, hj, extends_sound s b hb he⟩

/- FULL STATEMENT (false of the code for the same reason as for chained HotStuff):
     ∀ s cur b, fastVote s cur b true = true ↔ FastVotesAgg s b -/
theorem fast_vote_agg_eq_spec_partial (s : Store) (cur : Nat) (b : Block)
    (hac : Acyclic s) (hg : ViewsGrow s b) (hn : ∀ hb, s b.qcHash = some hb → Names s b hb) :
    fastVote s cur b true = true ↔ FastVotesAgg s b :=
  ⟨fast_vote_agg_sound s cur b, fun ⟨hb, hj, he⟩ =>
    (fast_vote_agg_iff s cur b).2 ⟨hb, hj, extends_complete s b hb hac hg (hn hb hj) he⟩⟩

theorem fast_vote_agg_eq_spec_counterexample :
    ∃ (s : Store) (b : Block), Acyclic s ∧ (∀ hb, s b.qcHash = some hb → Names s b hb) ∧
      FastVotesAgg s b ∧ fastVote s 0 b true = false := by
  let T : Block := ⟨2, 3, 1, 1, 0⟩
  let X : Block := ⟨3, 1, 2, 1, 0⟩
  let Y : Block := ⟨4, 5, 3, 2, 3⟩
  refine ⟨ofList [genesis, T, X], Y, acyclic_ofList _ (by decide), ?_, ?_, by decide⟩
  · intro hb hs
    cases (show some T = some hb from hs)
    exact names_ofList _ _ _ (by decide)
  · exact ⟨T, by decide, OnBranch.up (p := X) (by decide) (OnBranch.up (p := T) (by decide) (OnBranch.self T))⟩

theorem simple_commit_spec (s : Store) (locked b : Block) :
    simpleCommit s locked b = (simpleDecide s b, simpleLock s locked b) := by
  unfold simpleCommit simpleDecide simpleLock justified bcGet
  cases s b.qcHash with
  | none => rfl
  | some p =>
  dsimp only [Option.bind_some]
  cases s p.qcHash with
  | none => rfl
  | some gp =>
  dsimp only [Option.bind_some]
  cases s gp.qcHash with
  | none => rfl
  | some ggp =>
    have hc : ggp.view + 1 = gp.view ∧ ggp.view + 2 = p.view ↔
        p.view = gp.view + 1 ∧ gp.view = ggp.view + 1 := by omega
    simp only [Option.bind_some, hc]
    exact (apply_ite (fun o => (o, _)) _ _ _).symm

theorem simple_commit_eq_spec (s : Store) (locked b : Block) :
    (simpleCommit s locked b).1 = simpleDecide s b := congrArg Prod.fst (simple_commit_spec s locked b)

theorem simple_lock_eq_spec (s : Store) (locked b : Block) :
    (simpleCommit s locked b).2 = simpleLock s locked b := congrArg Prod.snd (simple_commit_spec s locked b)

theorem simple_decide_iff (s : Store) (b c : Block) : simpleDecide s b = some c ↔ SimpleCommits s b c := by
  simp only [simpleDecide, Option.bind_eq_some_iff, Option.ite_none_right_eq_some, Option.some.injEq]
  constructor
  · rintro ⟨p, hp, gp, hgp, ggp, hggp, ⟨v1, v0⟩, rfl⟩
    exact ⟨p, gp, hp, ⟨hgp, v1⟩, ⟨hggp, v0⟩⟩
  · rintro ⟨p, gp, hp, ⟨hgp, v1⟩, ⟨hggp, v0⟩⟩
    exact ⟨p, hp, gp, hgp, c, hggp, ⟨v1, v0⟩, rfl⟩

/-- Commit decision = Jehl's rule: great-grandparent, grandparent, parent in consecutive rounds. -/
theorem simple_commit_iff (s : Store) (locked b c : Block) :
    (simpleCommit s locked b).1 = some c ↔ SimpleCommits s b c := by
  rw [simple_commit_eq_spec, simple_decide_iff]

theorem simple_vote_eq_spec (s : Store) (locked : Block) (cur : Nat) (b : Block) :
    simpleVote s locked cur b = true ↔ SimpleVotes s locked cur b ∧ LockTargetKnown s b := by
  unfold simpleVote SimpleVotes
  cases hq : justified s b with
  | none => rw [show bcGet s b.qcHash = none from hq]; simp
  | some p =>
    rw [show bcGet s b.qcHash = some p from hq]
    simp only [Option.some.injEq, exists_eq_left', lockTargetKnown_iff hq]
    by_cases hk : p.qcHash ≠ 0 ∧ (bcGet s p.qcHash).isNone = true
    · simp [hk]
    · simp only [if_neg hk, eq_true hk, and_true]
      simp

/-- The condition as it stood before fixes/C04-simple-consecutive.diff
(`ok && ggp.View()+2 == p.View()`). -/
def simpleCommitUnrepaired (s : Store) (b : Block) : Option Block :=
  match s b.qcHash with
  | none => none
  | some p =>
    match s p.qcHash with
    | none => none
    | some gp =>
      match s gp.qcHash with
      | some ggp => if ggp.view + 2 = p.view then some ggp else none
      | none => none

/-- The defect the repair removes: certificates through views 1 ← 5 ← 3 made the unrepaired rule
commit the view-1 block, which heads no chain of consecutive rounds; the repaired rule refuses. -/
theorem simple_unrepaired_counterexample :
    ∃ (s : Store) (b c : Block), simpleCommitUnrepaired s b = some c ∧ ¬ SimpleCommits s b c ∧
      (simpleCommit s genesis b).1 = none := by
  let A : Block := ⟨2, 1, 1, 1, 0⟩
  let B : Block := ⟨3, 5, 2, 2, 1⟩
  let C : Block := ⟨4, 3, 3, 3, 5⟩
  let D : Block := ⟨5, 6, 4, 4, 3⟩
  refine ⟨ofList [genesis, A, B, C], D, A, by decide, ?_, by decide⟩
  rw [← simple_decide_iff]
  decide

/-- Whatever any of the three commit rules returns is the tail of a chain of blocks, each
certified by its successor's certificate and proposed in consecutive views — linked by direct
parent pointers for chained and Fast-HotStuff, by the certificate (= parent in Jehl's model) for
simplified HotStuff.  The chain is headed by the block certified in `b` (three-chain rules) or by
`b` itself (Fast-HotStuff's two-chain). -/
theorem commit_is_chain_tail (st : RState) (b c : Block) (hz : st.store 0 = none)
    (h : (commitRule st b).1 = some c) :
    ∃ x y, Chain st.store (st.kind != .simple) [x, y, c] ∧
      (if st.kind = .fast then x = b else justified st.store b = some x) := by
  obtain ⟨k, s, lock⟩ := st
  cases k with
  | chained =>
    obtain ⟨b2, b1, hc⟩ := (chained_commit_iff s lock b c hz).1 h
    exact ⟨b2, b1, ⟨hc.cert1, hc.link21.2, fun _ => hc.link21.1, hc.cert0, hc.link10.2, fun _ => hc.link10.1, trivial⟩, hc.cert2⟩
  | fast =>
    obtain ⟨b1, hc⟩ := (fast_commit_iff s b c hz).1 h
    exact ⟨b, b1, ⟨hc.cert1, hc.link1.2, fun _ => hc.link1.1, hc.cert0, hc.link0.2, fun _ => hc.link0.1, trivial⟩, rfl⟩
  | simple =>
    obtain ⟨p, gp, hc⟩ := (simple_commit_iff s lock b c).1 h
    exact ⟨p, gp, ⟨hc.nextGP.1, hc.nextGP.2, nofun, hc.nextGGP.1, hc.nextGGP.2, nofun, trivial⟩, hc.certP⟩

/-- The chain has as many certificates as `ChainLength()` announces. -/
theorem chain_length_certificates : Kind.chainLength .chained = 3 ∧ Kind.chainLength .fast = 2 ∧
    Kind.chainLength .simple = 3 := ⟨rfl, rfl, rfl⟩

/-- Vote exactness holds without further conditions for Fast-HotStuff's happy path; where
`Blockchain.Extends` is consulted it needs parent links that increase the view; chained and simplified
HotStuff abstain unless the block a vote obliges them to lock on is known (`LockTargetKnown`: for
simplified HotStuff the only condition, `simple_vote_eq_spec`). -/
def Regular (k : Kind) (s : Store) (lock b : Block) (agg : Bool) : Prop :=
  match k, agg with
  | .simple, _ => LockTargetKnown s b
  | .fast, false => True
  | .chained, _ => (Acyclic s ∧ ViewsGrow s b ∧ Names s b lock) ∧ LockTargetKnown s b
  | .fast, true => Acyclic s ∧ ViewsGrow s b ∧ ∀ hb, s b.qcHash = some hb → Names s b hb

/-- the model's answer to one operation is the one the published rules prescribe in state `st` -/
def AnsOK (k : Kind) (st : SState) : Op → Ans → Prop
  | .store _, .stored => True
  | .vote cur b agg, .vote r =>
    (r = true → Votes k st.store st.lock cur b agg) ∧
    (Regular k st.store st.lock b agg → Votes k st.store st.lock cur b agg → r = true)
  | .commit b, .commit c => c = decideRule k st.store b
  | _, _ => False

/-- answers conform along the whole presentation, the specification's own state being threaded -/
def Conforms (k : Kind) : SState → List Op → List Ans → Prop
  | _, [], [] => True
  | st, op :: ops, a :: as => AnsOK k st op a ∧ Conforms k (next k st op) ops as
  | _, _, _ => False

def toS (st : RState) : SState := { store := st.store, lock := st.lock }

theorem vote_rule_sound (st : RState) (cur : Nat) (b : Block) (agg : Bool)
    (h : voteRule st cur b agg = true) : Votes st.kind st.store st.lock cur b agg := by
  obtain ⟨k, s, lock⟩ := st
  cases k with
  | chained => exact chained_vote_sound s lock b h
  | fast =>
    cases agg with
    | true => exact fast_vote_agg_sound s cur b h
    | false => exact (fast_vote_plain_eq_spec s cur b).1 h
  | simple => exact ((simple_vote_eq_spec s lock cur b).1 h).1

theorem vote_rule_complete_partial (st : RState) (cur : Nat) (b : Block) (agg : Bool)
    (hr : Regular st.kind st.store st.lock b agg)
    (h : Votes st.kind st.store st.lock cur b agg) : voteRule st cur b agg = true := by
  obtain ⟨k, s, lock⟩ := st
  cases k with
  | chained =>
    obtain ⟨⟨h1, h2, h3⟩, h4⟩ : (Acyclic s ∧ ViewsGrow s b ∧ Names s b lock) ∧ LockTargetKnown s b := by
      cases agg <;> exact hr
    exact (chained_vote_eq_spec_partial s lock b h1 h2 h3 h4).2 h
  | fast =>
    cases agg with
    | true => exact (fast_vote_agg_eq_spec_partial s cur b hr.1 hr.2.1 hr.2.2).2 h
    | false => exact (fast_vote_plain_eq_spec s cur b).2 h
  | simple =>
    have hl : LockTargetKnown s b := by cases agg <;> exact hr
    exact (simple_vote_eq_spec s lock cur b).2 ⟨h, hl⟩

theorem commit_rule_eq_spec (st : RState) (b : Block) (hz : st.store 0 = none) :
    (commitRule st b).1 = decideRule st.kind st.store b ∧
    (commitRule st b).2 = lockRule st.kind st.store st.lock b := by
  obtain ⟨k, s, lock⟩ := st
  cases k with
  | chained => exact ⟨chained_commit_eq_spec s lock b hz, chained_lock_eq_spec s lock b hz⟩
  | fast => exact ⟨fast_commit_eq_spec s b hz, rfl⟩
  | simple => exact ⟨simple_commit_eq_spec s lock b, simple_lock_eq_spec s lock b⟩

/- FULL STATEMENT: as below with `r = true ↔ Votes …` for every vote, without `Regular`
   (false of the code: `chained_vote_eq_spec_counterexample`). -/
/-- Present any list of store / vote / commit operations on any blocks in any order to the model
of a ruleset, starting from any state whose store has nothing under the zero hash: the stores
and locks it goes through are those of the specification's replica, every commit answer is the
specification's decision, every positive vote is allowed by the published vote condition, and
(on regular forests) every allowed vote is given. -/
theorem presentation_conforms_partial (ops : List Op) :
    ∀ (st : RState), st.store 0 = none → (∀ b, Op.store b ∈ ops → b.hash ≠ 0) →
      Conforms st.kind (toS st) ops (run st ops).2 ∧
      toS (run st ops).1 = ops.foldl (next st.kind) (toS st) ∧ (run st ops).1.kind = st.kind := by
  induction ops with
  | nil => intro st _ _; exact ⟨trivial, rfl, rfl⟩
  | cons op ops ih =>
    intro st hz hops
    have hops' : ∀ b, Op.store b ∈ ops → b.hash ≠ 0 := fun b hb => hops b (List.mem_cons_of_mem _ hb)
    cases op with
    | store b =>
      obtain ⟨h1, h2, h3⟩ := ih { st with store := st.store.store b }
        (store_zero _ _ hz (hops b (List.mem_cons_self ..))) hops'
      exact ⟨⟨trivial, h1⟩, h2, h3⟩
    | vote cur b agg =>
      obtain ⟨h1, h2, h3⟩ := ih st hz hops'
      exact ⟨⟨⟨vote_rule_sound st cur b agg, vote_rule_complete_partial st cur b agg⟩, h1⟩, h2, h3⟩
    | commit b =>
      obtain ⟨hc, hl⟩ := commit_rule_eq_spec st b hz
      obtain ⟨h1, h2, h3⟩ := ih { st with lock := (commitRule st b).2 } hz hops'
      refine ⟨⟨hc, ?_⟩, ?_, h3⟩
      · show Conforms st.kind ⟨st.store, lockRule st.kind st.store st.lock b⟩ ops _
        rw [← hl]; exact h1
      · show _ = ops.foldl (next st.kind) ⟨st.store, lockRule st.kind st.store st.lock b⟩
        rw [← hl]; exact h2

/-- … in particular from the initial state of a replica (genesis stored, locked on genesis). -/
theorem presentation_from_genesis_partial (k : Kind) (ops : List Op)
    (hops : ∀ b, Op.store b ∈ ops → b.hash ≠ 0) :
    Conforms k SState.init ops (run (RState.init k) ops).2 ∧
    toS (run (RState.init k) ops).1 = ops.foldl (next k) SState.init :=
  let h := presentation_conforms_partial ops (RState.init k) rfl hops
  ⟨h.1, h.2.1⟩

/-! ## The oracle's executable vote conditions decide the published ones -/

theorem votesB_iff (k : Kind) (s : Store) (lock : Block) (cur : Nat) (b : Block) (agg : Bool)
    (hac : Acyclic s) : votesB k s lock cur b agg = true ↔ Votes k s lock cur b agg := by
  cases k with
  | chained =>
    cases hj : justified s b <;> simp [votesB, Votes, chainedVotesB, ChainedVotes, extendsB_iff s hac, hj]
  | fast =>
    cases agg with
    | true =>
      cases hj : justified s b <;> simp [votesB, Votes, fastVotesAggB, FastVotesAgg, extendsB_iff s hac, hj]
    | false => simp [votesB, Votes, fastVotesPlainB, FastVotesPlain]
  | simple => cases hj : justified s b <;> simp [votesB, Votes, simpleVotesB, SimpleVotes, hj]

/-! ## Non-vacuity -/

section Examples
def b1 : Block := ⟨2, 1, 1, 1, 0⟩
def b2 : Block := ⟨3, 2, 2, 2, 1⟩
def b3 : Block := ⟨4, 3, 3, 3, 2⟩
def b4 : Block := ⟨5, 4, 4, 4, 3⟩
def chainStore : Store := ofList [genesis, b1, b2, b3]

/-- a straight chain in views 1,2,3: the proposal of view 4 commits the view-1 block and locks
the view-2 block under chained HotStuff … -/
example : chainedCommit chainStore genesis b4 = (some b1, b2) := by decide
/-- … Fast-HotStuff commits the view-2 block … -/
example : fastCommit chainStore b4 = some b2 := by decide
/-- … and simplified HotStuff commits the view-1 block and locks the view-2 block. -/
example : simpleCommit chainStore genesis b4 = (some b1, b2) := by decide

/-- a view gap (1,2,4) next to the chain: nothing is committed, the lock still moves -/
example : chainedCommit (ofList [genesis, b1, b2, ⟨4, 4, 3, 3, 2⟩]) genesis ⟨5, 5, 4, 4, 4⟩ = (none, b2) := by decide
/-- certificate not on the parent (fork): nothing is committed -/
example : chainedCommit (ofList [genesis, b1, b2, ⟨4, 3, 2, 3, 2⟩]) genesis ⟨5, 4, 4, 4, 3⟩ = (none, b2) := by decide
/-- a missing block in the chain: nothing is committed, lock unchanged -/
example : chainedCommit (ofList [genesis, b1, b3]) genesis b4 = (none, genesis) := by decide

/-- votes: locked on b2; a fork from b1 justified by b1 is refused, justified by b3 it is accepted
(liveness rule), a child of b3 is accepted (safety rule) -/
example : chainedVote chainStore b2 ⟨9, 7, 2, 2, 1⟩ = false := by decide
example : chainedVote chainStore b2 ⟨9, 7, 2, 4, 3⟩ = true := by decide
example : chainedVote chainStore b2 ⟨9, 7, 4, 2, 1⟩ = true := by decide
example : simpleVote chainStore b2 5 ⟨9, 7, 2, 2, 1⟩ = false := by decide
example : simpleVote chainStore b2 5 ⟨9, 7, 3, 3, 2⟩ = true := by decide
example : simpleVote chainStore b2 8 ⟨9, 7, 3, 3, 2⟩ = false := by decide
example : fastVote chainStore 4 b4 false = true ∧ fastVote chainStore 5 b4 false = false ∧
    fastVote chainStore 4 ⟨5, 5, 4, 4, 3⟩ false = false := by decide
example : fastVote chainStore 4 b4 true = true ∧ fastVote chainStore 4 ⟨5, 4, 3, 4, 3⟩ true = false := by decide

/-- a whole presentation: blocks stored out of order, commit asked before and after the chain is complete -/
example : (run (RState.init .chained)
      [.store b3, .commit b4, .store b1, .commit b4, .store b2, .vote 4 b4 false, .commit b4]).2 =
    [.stored, .commit none, .stored, .commit none, .stored, .vote true, .commit (some b1)] := by decide
end Examples

end HsVerif.Props.C04
