import HsVerif.Proofs.Cache
/-! C11 — the signature cache never changes a verification verdict. -/
namespace HsVerif.Props.C11
open HsVerif.Model

/-- operations whose signature values are well formed (bit-field sizes consistent, C19) and whose
`sign` entries are genuine outputs of the own `Sign` (they verify under the base) -/
def OpOK (T : Truth) (c : Cfg) : COp → Prop
  | .sign s m => s.WF ∧ verify T c s m = true
  | .verify (some s) _ => s.WF
  | .batchVerify (some s) _ => s.WF
  | _ => True

def KeyValid (T : Truth) (c : Cfg) (k : CKey) : Prop :=
  (∃ s m, s.WF ∧ k = keyVerify s m ∧ verify T c s m = true) ∨
  (∃ s b, s.WF ∧ k = keyBatch s b ∧ batchVerify T c s b = true)

def Good (T : Truth) (c : Cfg) (st : Lru) : Prop := ∀ k ∈ st.order, KeyValid T c k

/-- A hit is right because the key was validated for some pair with the same key (key injectivity). -/
theorem step_transparent (T : Truth) (c : Cfg) (st : Lru) (op : COp) (hg : Good T c st) (ho : OpOK T c op) :
    (cachedStep T c st op).2 = baseOut T c op ∧ Good T c (cachedStep T c st op).1 := by
  match op, ho with
  | .sign s m, ho =>
    exact ⟨rfl, fun k hk => (Lru.mem_insert _ _ _ hk).elim (fun e => e ▸ Or.inl ⟨s, m, ho.1, rfl, ho.2⟩) (hg k)⟩
  | .combine l, _ => exact ⟨rfl, hg⟩
  | .verify none m, _ => exact ⟨rfl, hg⟩
  | .batchVerify none b, _ => exact ⟨rfl, hg⟩
  | .verify (some s) m, ho =>
    rw [cachedStep_verify]
    refine st.lookupOr_spec _ _ (KeyValid T c) hg (fun hk _ => ?_)
      fun hv => Or.inl ⟨s, m, ho, rfl, hv⟩
    rcases hk with ⟨s0, m0, hw0, hk0, hv0⟩ | ⟨s0, b0, _, hk0, _⟩
    · rw [key_inj_verify T c s s0 m m0 ho hw0 hk0, hv0]
    · exact absurd hk0 (key_kinds_differ _ _ _ _)
  | .batchVerify (some s) b, ho =>
    rw [cachedStep_batchVerify]
    refine st.lookupOr_spec _ _ (KeyValid T c) hg (fun hk _ => ?_)
      fun hv => Or.inr ⟨s, b, ho, rfl, hv⟩
    rcases hk with ⟨s0, m0, _, hk0, _⟩ | ⟨s0, b0, hw0, hk0, hv0⟩
    · exact absurd hk0.symm (key_kinds_differ _ _ _ _)
    · rw [key_inj_batch T c s s0 b b0 ho hw0 hk0, hv0]

/-- **Transparency**: for every capacity, every configuration/scheme, every ground truth and every
sequence of sign / verify / batch-verify / combine operations (including replays with altered
message, batch, view or signer labels — the operations are arbitrary values), the cached
authority returns exactly the verdicts of the uncached one. -/
theorem cache_transparent (T : Truth) (c : Cfg) (cap : Nat) (ops : List COp) (ho : ∀ op ∈ ops, OpOK T c op) :
    cachedRun T c ⟨cap, []⟩ ops = ops.map (baseOut T c) := by
  have gen : ∀ (ops : List COp) (st : Lru), Good T c st → (∀ op ∈ ops, OpOK T c op) →
      cachedRun T c st ops = ops.map (baseOut T c) := by
    intro ops
    induction ops with
    | nil => intro _ _ _; rfl
    | cons op ops ih =>
      intro st hg ho
      obtain ⟨h1, h2⟩ := step_transparent T c st op hg (ho op (by simp))
      simp only [cachedRun, List.map_cons]
      rw [h1, ih _ h2 (fun o h => ho o (by simp [h]))]
  exact gen ops ⟨cap, []⟩ (fun k hk => by simp at hk) ho

/-- A signature remembered as valid for one message is not accepted for another message, batch or
claimed signer set unless the base accepts that too (instances of key injectivity). -/
theorem remembered_only_for_same_verdict (T : Truth) (c : Cfg) (s s' : Sig) (m m' : Msg)
    (hw : s.WF) (hw' : s'.WF) (hk : keyVerify s m = keyVerify s' m') :
    verify T c s m = verify T c s' m' := key_inj_verify T c s s' m m' hw hw' hk

theorem remembered_batch_only_for_same_verdict (T : Truth) (c : Cfg) (s s' : Sig) (b b' : List (Nat × Msg))
    (hw : s.WF) (hw' : s'.WF) (hk : keyBatch s b = keyBatch s' b') :
    batchVerify T c s b = batchVerify T c s' b' := key_inj_batch T c s s' b b' hw hw' hk

/-- LRU bookkeeping: never more than `capacity` keys, no key twice; eviction only forgets. -/
theorem lru_inv (T : Truth) (c : Cfg) (st : Lru) (op : COp) (h : st.Inv) (hc : 1 ≤ st.cap) :
    (cachedStep T c st op).1.Inv ∧ (cachedStep T c st op).1.cap = st.cap := by
  match op with
  | .sign s m => exact ⟨Lru.inv_insert _ _ h hc, Lru.insert_cap _ _⟩
  | .combine l => exact ⟨h, rfl⟩
  | .verify none m => exact ⟨h, rfl⟩
  | .batchVerify none b => exact ⟨h, rfl⟩
  | .verify (some s) m => rw [cachedStep_verify]; exact st.lookupOr_inv _ _ h hc
  | .batchVerify (some s) b => rw [cachedStep_batchVerify]; exact st.lookupOr_inv _ _ h hc

/-- Non-vacuity, and the attack of the unrepaired key: replica 1's own vote signature, remembered
by the cache, relabelled as participants {1,2,3}: rejected by the cached authority as by the base. -/
example :
    let T : Truth := fun _ => none
    let c : Cfg := ⟨4, .bls12⟩
    let own := blsSign 1 "blk:B1"
    let forged := Sig.bls [⟨1, "blk:B1"⟩] [] (Bitfield.fromBytes [7])
    cachedRun T c ⟨10, []⟩ [.sign own "blk:B1", .verify (some own) "blk:B1", .verify (some forged) "blk:B1"]
      = [true, true, false] := by decide

end HsVerif.Props.C11
