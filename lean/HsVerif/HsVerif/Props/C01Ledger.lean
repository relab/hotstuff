import HsVerif.Props.C01Safety
import HsVerif.Proofs.SysLedger
/-! C01, ledger layer — THE COMMIT LOGS OF HONEST REPLICAS ARE HASH CHAINS FROM GENESIS AND
PREFIX-RELATED.  Helpers in Proofs/ReplicaLog.lean (replica level) and Proofs/SysLedger.lean (system level).

Setting: the system of replica models (Model/Sys.lean) and the standing hypotheses H of
`C01Safety.sys_safety`: `KeysOK k`, `1 ≤ C.n`, `FewFaulty C`, ECDSA / EdDSA, chained or simplified
HotStuff, `blk : Hash → Block` with content addressing `CA'` — assumed of the FINAL state of a run only
(`ca'_downward`: `CA'` of the state after an action gives `CA'` of the state before it, because block maps
and ghost histories only grow; `pruneToHeight` prunes the height index, not the block map).
The run with ledgers `sysRunL` appends the blocks of the `Out.commit` outputs of replica `i`'s steps to `L i`.

THE HYPOTHESIS `noCommit`: `SysAct.deliver i e` delivers ANY event, including the
replica-internal event `Ev.commit b`, which `tick` turns into the output `Out.commit b` for an arbitrary
block `b`.  With such a delivery the ledger is arbitrary (`ledger_counterexample`, evaluated by the
kernel), so `ledger_is_chain`, `ledgers_prefix_related` and `ledger_nodup` carry the hypothesis
`∀ a ∈ acts, a.noCommit = true`: no action of the run delivers an `Ev.commit` event (the committer's
events are internal to the replica: committer → event loop → executor; no message handler produces
them).  All other events, including `.exec`, `.abort`, `.viewChange`, remain arbitrary. -/
namespace HsVerif.Props.C01Ledger
open HsVerif.Model HsVerif.Props.C01Sys HsVerif.Props.C01SysWF HsVerif.Props.C01Safety HsVerif.SysSafety HsVerif.SysLedger HsVerif.Safety

inductive HashChain : Hash → Nat → List Block → Prop
  | nil (h : Hash) (v : Nat) : HashChain h v []
  | cons (h : Hash) (v : Nat) (b : Block) (rest : List Block) :
      b.parent = h → v < b.view → HashChain b.hash b.view rest → HashChain h v (b :: rest)

theorem hashChain_of_lchain (blk : Hash → Block) (prev : Block) (l : List Block) (h : LChain blk prev l) :
    HashChain prev.hash prev.view l := by
  induction l generalizing prev with
  | nil => exact .nil _ _
  | cons b rest ih => exact .cons _ _ b rest h.1 h.2.1 (ih b h.2.2.2)

theorem chainLog_of_lchain (C : SysCfg) (σ : SysState) (blk : Hash → Block) (prev : Block) (l : List Block)
    (hp : prev = blk prev.hash) (h : LChain blk prev l) : ChainLog (SysAbs C σ blk) prev l := by
  induction l generalizing prev with
  | nil => trivial
  | cons b rest ih =>
    obtain ⟨h1, h2, h3, h4⟩ := h
    refine ⟨?_, h2, ih b h3 h4⟩
    have hne : b ≠ genesisBlock := by
      intro e; rw [e] at h2; exact Nat.not_lt_zero _ h2
    rw [sysAbs_par, if_neg hne, h1]; exact hp.symm

theorem logHead_eq_lastOr (C : SysCfg) (σ : SysState) (blk : Hash → Block) (prev : Block) (l : List Block) :
    logHead (S := SysAbs C σ blk) prev l = lastOr prev l := by
  induction l generalizing prev with
  | nil => rfl
  | cons b rest ih => exact ih b

theorem hashChain_nodup (h : Hash) (v : Nat) (l : List Block) (hc : HashChain h v l) :
    l.Pairwise (fun x y => x.view < y.view) ∧ l.Nodup := by
  have key : (∀ b ∈ l, v < b.view) ∧ l.Pairwise (fun x y => x.view < y.view) := by
    induction hc with
    | nil h v => exact ⟨(fun _ hb => by cases hb), List.Pairwise.nil⟩
    | cons h v b rest _ h2 _ ih =>
      exact ⟨fun x hx => (List.mem_cons.mp hx).elim (fun e => e ▸ h2) (fun hx => Nat.lt_trans h2 (ih.1 x hx)),
        List.Pairwise.cons ih.1 ih.2⟩
  refine ⟨key.2, key.2.imp ?_⟩
  intro x y hxy e
  rw [e] at hxy; exact Nat.lt_irrefl _ hxy

/-! What the ledger invariant of one replica (`RepLedger`), resp. of two replicas whose committed blocks are on one
branch, says of the ledgers themselves — for any ruleset. -/

theorem repLedger_chain (C : SysCfg) (σ : SysState) (blk : Hash → Block) (hg : blk genesisHash = genesisBlock)
    {l : List Block} {s : RState} (h : RepLedger blk l s) :
    HashChain genesisHash 0 l ∧ ChainLog (SysAbs C σ blk) genesisBlock l :=
  have h1 := ((lchain_append blk _ _ _).mp h.chain).1
  ⟨hashChain_of_lchain blk genesisBlock _ h1, chainLog_of_lchain C σ blk genesisBlock _ hg.symm h1⟩

theorem repLedgers_prefix (C : SysCfg) (σ : SysState) (blk : Hash → Block) (hg : blk genesisHash = genesisBlock)
    {li lj : List Block} {si sj : RState} (hi : RepLedger blk li si) (hj : RepLedger blk lj sj)
    (h : Ext (SysAbs C σ blk) si.committed sj.committed ∨ Ext (SysAbs C σ blk) sj.committed si.committed) :
    li <+: lj ∨ lj <+: li := by
  -- ledger ++ pending log of the replica whose committed block is extended is a prefix of the other's
  have key : ∀ {li lj : List Block} {si sj : RState}, RepLedger blk li si → RepLedger blk lj sj →
      Ext (SysAbs C σ blk) si.committed sj.committed → li <+: lj ∨ lj <+: li := by
    intro li lj si sj hi hj h
    have := logs_prefix (S := SysAbs C σ blk) (sys_gen C σ blk).2 _ _
      (chainLog_of_lchain C σ blk genesisBlock _ hg.symm hi.chain) (chainLog_of_lchain C σ blk genesisBlock _ hg.symm hj.chain)
      (by rw [logHead_eq_lastOr, logHead_eq_lastOr, hi.last, hj.last]; exact h)
    exact List.prefix_or_prefix_of_prefix (List.prefix_append _ _) ((List.prefix_append _ _).trans this)
  exact h.elim (key hi hj) (fun h => (key hj hi h).symm)

/-! The ledger theorems for any ruleset: `T σ` is its commit condition in state `σ`, and the hypotheses `LCtx` of the
ledger argument hold of every state the run goes through. -/
section
variable {k : Keys} {C : SysCfg} {blk : Hash → Block} {T : SysState → Block → Prop} {acts : List SysAct}
  (hacts : ∀ a ∈ acts, a.noCommit = true)
  (H : ∀ l, l <+: acts → LCtx k C (sysRun k C l) blk (T (sysRun k C l)))
include hacts H

theorem ledger_inv {i : Nat} (hi : i ∈ C.honest) :
    ∃ s, (sysRun k C acts).reps.lookup i = some s ∧ RepLedger blk ((sysRunL k C acts).2 i) s := by
  have X := (H acts (List.prefix_refl _)).base
  obtain ⟨s, hs⟩ := (reach_inv k C _ X.hr).dom i hi
  exact ⟨s, hs, sysRunL_inv T acts hacts H i s hs⟩

theorem ledger_chain {i : Nat} (hi : i ∈ C.honest) :
    HashChain genesisHash 0 ((sysRunL k C acts).2 i) ∧
    ChainLog (SysAbs C (sysRun k C acts) blk) genesisBlock ((sysRunL k C acts).2 i) :=
  have ⟨_, _, hl⟩ := ledger_inv hacts H hi
  repLedger_chain C _ blk (H acts (List.prefix_refl _)).base.hca.1 hl

theorem ledgers_prefix {i j : Nat} (hi : i ∈ C.honest) (hj : j ∈ C.honest) :
    (sysRunL k C acts).2 i <+: (sysRunL k C acts).2 j ∨ (sysRunL k C acts).2 j <+: (sysRunL k C acts).2 i := by
  obtain ⟨si, hsi, hli⟩ := ledger_inv hacts H hi
  obtain ⟨sj, hsj, hlj⟩ := ledger_inv hacts H hj
  have X := H acts (List.prefix_refl _)
  exact repLedgers_prefix C _ blk X.base.hca.1 hli hlj (X.commits_agree hsi hsj)

end

/-- **The log invariant of one delivered event** (ANY state `s` in whose deferred lists no commit event
waits, ANY event `e`): the commit outputs of the step followed by the commit events still queued are the commit
events queued before, then `e` if it is a commit event, then a list `l` of SEGMENTS (`Segs`, Proofs/ReplicaLog.lean),
each ending in a block the commit rule returned for a block voted for in this step, the last at `s'.committed`. -/
theorem step_log (k : Keys) (c : RCfg) (s : RState) (e : Ev) (hw : waitCommits s = []) :
    ∃ new l, (step k c s e).1.ghost = s.ghost ++ new ∧ waitCommits (step k c s e).1 = [] ∧
      commitsOf (step k c s e).2 ++ queuedCommits (step k c s e).1 = (queuedCommits s ++ evCommits [e]) ++ l ∧
      Segs c (step k c s e).1 new s.committed l (step k c s e).1.committed :=
  HsVerif.Model.step_log k c s e hw

theorem start_log (k : Keys) (c : RCfg) (s : RState) (hw : waitCommits s = []) :
    ∃ new l, (start k c s).1.ghost = s.ghost ++ new ∧ waitCommits (start k c s).1 = [] ∧
      commitsOf (start k c s).2 ++ queuedCommits (start k c s).1 = queuedCommits s ++ l ∧
      Segs c (start k c s).1 new s.committed l (start k c s).1.committed :=
  HsVerif.Model.start_log k c s hw

/-- `Segs`, unfolded one segment -/
example (c : RCfg) (s : RState) (vs : List GRec) (c0 c1 a t : Block) (l seg : List Block)
    (h : Segs c s vs c0 l c1) (hne : seg ≠ []) (hp : Path s a seg t) (hav : a.view ≤ c1.view)
    (hsv : ∀ x ∈ seg, c1.view < x.view) (hcc : ∃ x id, GRec.vote x id ∈ vs ∧ CommitChain c s x t) :
    Segs c s vs c0 (l ++ seg) t := .snoc l c1 a seg t h hne hp hav hsv hcc

/-- **Every anchor is the previously committed block.**  In a reachable state under H: a path of stored
parent links of an honest replica, down from a block `t` that is the tail of a three-chain (or genesis)
through blocks whose views are all above that of `c1` — also the tail of a three-chain, or genesis — to
an anchor `a` of view at most `c1`'s, ends exactly at `c1`; and the path is a hash-linked chain with
strictly increasing views whose blocks are the blocks of their hashes. -/
theorem anchor_is_previous_commit (k : Keys) (C : SysCfg) (hk : KeysOK k) (σ : SysState) (hr : Reach k C σ)
    (hn : 1 ≤ C.n) (hf : FewFaulty C) (hsch : C.scheme ≠ .bls12) (hrl : C.rules ≠ .fast)
    (blk : Hash → Block) (hca : CA' σ blk) (i : Nat) (s : RState) (hs : σ.reps.lookup i = some s)
    (a t c1 : Block) (seg : List Block) (hp : Path s a seg t) (hne : seg ≠ [])
    (ht : Tip C σ blk t) (hc1 : Tip C σ blk c1) (hsv : ∀ x ∈ seg, c1.view < x.view) (hav : a.view ≤ c1.view) :
    a = c1 ∧ LChain blk c1 seg ∧ lastOr c1 seg = t := by
  have X := Ctx.commit (⟨hk, hr, hn, hf, hsch, hrl, hca⟩ : Ctx k C σ blk)
  have htgc := (X.final ht).1
  have hext := (X.final hc1).2 t htgc (Nat.le_of_lt (hsv t (hp.top_mem hne)))
  obtain rfl := X.base.path_anchor hs (X.final hc1).1 hp htgc hext hsv hav
  exact ⟨rfl, X.base.path_chain hs hp htgc (fun x hx => Nat.lt_of_le_of_lt (Nat.zero_le _) (hsv x hx))⟩

/-- **The segments of a step continue the log**: under H for the state `σ` AFTER the step, the blocks `l`
appended by the successive commits of a step of honest replica `i` (`Segs`, over votes that are in its
ghost history) after a committed block `c0` (genesis or the tail of a three-chain) form a hash-linked
chain after `c0` with strictly increasing views, ending in the new committed block, again the tail of a
three-chain (or genesis). -/
theorem segments_continue_log (k : Keys) (C : SysCfg) (hk : KeysOK k) (σ : SysState) (hr : Reach k C σ)
    (hn : 1 ≤ C.n) (hf : FewFaulty C) (hsch : C.scheme ≠ .bls12) (hrl : C.rules ≠ .fast)
    (blk : Hash → Block) (hca : CA' σ blk) (i : Nat) (s : RState) (hs : σ.reps.lookup i = some s)
    (vs : List GRec) (hsub : ∀ r, r ∈ vs → r ∈ s.ghost) (c0 t : Block) (l : List Block) (hc0 : Tip C σ blk c0)
    (h : Segs (C.rcfg i) s vs c0 l t) : LChain blk c0 l ∧ lastOr c0 l = t ∧ Tip C σ blk t :=
  (Ctx.commit ⟨hk, hr, hn, hf, hsch, hrl, hca⟩).segs_chain hs hsub hc0 h

theorem ca'_downward (k : Keys) (C : SysCfg) (σ : SysState) (a : SysAct) (blk : Hash → Block)
    (h : CA' (sysStep k C σ a) blk) : CA' σ blk := by
  refine ⟨ca_back k C σ a blk h.1, fun i s x b hs hb => ?_⟩
  obtain ⟨s', hs', hg, _⟩ := sysStep_rep_grows k C σ a i s hs
  exact h.2 i s' x b hs' (hg x b hb)

theorem ca'_downward_run (k : Keys) (C : SysCfg) (blk : Hash → Block) (acts more : List SysAct)
    (h : CA' (sysRun k C (acts ++ more)) blk) : CA' (sysRun k C acts) blk :=
  back_run k C (CA' · blk) (fun σ a => ca'_downward k C σ a blk) acts more h

theorem sysStepL_is_sysStep (k : Keys) (C : SysCfg) (σ : SysState) (L : Nat → List Block) (a : SysAct) :
    (sysStepL k C (σ, L) a).1 = sysStep k C σ a := rfl

theorem sysRunL_is_sysRun (k : Keys) (C : SysCfg) (acts : List SysAct) : (sysRunL k C acts).1 = sysRun k C acts :=
  sysRunL_fst k C acts

theorem lctx_run (k : Keys) (C : SysCfg) (hk : KeysOK k) (hn : 1 ≤ C.n) (hf : FewFaulty C)
    (hsch : C.scheme ≠ .bls12) (hrl : C.rules ≠ .fast) (blk : Hash → Block) (acts : List SysAct)
    (hca : CA' (sysRun k C acts) blk) :
    ∀ l, l <+: acts → LCtx k C (sysRun k C l) blk (Tip C (sysRun k C l) blk) :=
  fun l ⟨more, e⟩ =>
    Ctx.commit ⟨hk, reach_run k C l, hn, hf, hsch, hrl, ca'_downward_run k C blk l more (e ▸ hca)⟩

/-- **Each honest replica's committed sequence is a single hash-linked chain growing from genesis**: the
first block's parent hash is the genesis hash, every block's parent hash is the hash of the block
committed immediately before it, views strictly increase (`HashChain genesisHash 0`); and it is a commit
log of the abstract system (`Safety.ChainLog`). -/
theorem ledger_is_chain (k : Keys) (C : SysCfg) (hk : KeysOK k) (hn : 1 ≤ C.n) (hf : FewFaulty C)
    (hsch : C.scheme ≠ .bls12) (hrl : C.rules ≠ .fast) (blk : Hash → Block) (acts : List SysAct)
    (hacts : ∀ a ∈ acts, a.noCommit = true) (hca : CA' (sysRunL k C acts).1 blk) (i : Nat) (hi : i ∈ C.honest) :
    HashChain genesisHash 0 ((sysRunL k C acts).2 i) ∧
    ChainLog (SysAbs C (sysRunL k C acts).1 blk) genesisBlock ((sysRunL k C acts).2 i) := by
  rw [sysRunL_fst] at hca ⊢
  exact ledger_chain (T := fun σ => Tip C σ blk) hacts (lctx_run k C hk hn hf hsch hrl blk acts hca) hi

/-- **The committed sequences of any two honest replicas are prefix-related.** -/
theorem ledgers_prefix_related (k : Keys) (C : SysCfg) (hk : KeysOK k) (hn : 1 ≤ C.n) (hf : FewFaulty C)
    (hsch : C.scheme ≠ .bls12) (hrl : C.rules ≠ .fast) (blk : Hash → Block) (acts : List SysAct)
    (hacts : ∀ a ∈ acts, a.noCommit = true) (hca : CA' (sysRunL k C acts).1 blk)
    (i j : Nat) (hi : i ∈ C.honest) (hj : j ∈ C.honest) :
    (sysRunL k C acts).2 i <+: (sysRunL k C acts).2 j ∨ (sysRunL k C acts).2 j <+: (sysRunL k C acts).2 i :=
  ledgers_prefix (T := fun σ => Tip C σ blk) hacts (lctx_run k C hk hn hf hsch hrl blk acts (sysRunL_fst k C acts ▸ hca)) hi hj

/-- **No block is committed twice**: views strictly increase along a ledger. -/
theorem ledger_nodup (k : Keys) (C : SysCfg) (hk : KeysOK k) (hn : 1 ≤ C.n) (hf : FewFaulty C)
    (hsch : C.scheme ≠ .bls12) (hrl : C.rules ≠ .fast) (blk : Hash → Block) (acts : List SysAct)
    (hacts : ∀ a ∈ acts, a.noCommit = true) (hca : CA' (sysRunL k C acts).1 blk) (i : Nat) (hi : i ∈ C.honest) :
    ((sysRunL k C acts).2 i).Pairwise (fun x y => x.view < y.view) ∧ ((sysRunL k C acts).2 i).Nodup :=
  hashChain_nodup _ _ _ (ledger_is_chain k C hk hn hf hsch hrl blk acts hacts hca i hi).1

/-! Non-vacuity, and the counterexample.

The run `sfActs` of Props/C01Safety.lean (replicas 1 and 2 commit `P1`, replica 3 nothing): the ledgers
are `[P1]`, `[P1]`, `[]`; no action delivers a commit event; H holds of the final state
(`sys_safety_nonvacuous`), so the theorems apply.  Runs evaluated by the kernel (`decide +kernel`). -/
section NonVacuity

theorem sf_ledgers : (sysRunL exKeys exCfg sfActs).2 1 = [exBlock] ∧ (sysRunL exKeys exCfg sfActs).2 2 = [exBlock] ∧
    (sysRunL exKeys exCfg sfActs).2 3 = [] ∧ (∀ a ∈ sfActs, a.noCommit = true) :=
  have ⟨_, _, h, ha⟩ := runOK_spec sf_ok
  ⟨(h _ (.head _)).2, (h _ (.tail _ (.head _))).2, (h _ (.tail _ (.tail _ (.head _)))).2, ha⟩

theorem sf_ca' : CA' (sysRunL exKeys exCfg sfActs).1 sfBlk := by
  rw [sysRunL_fst]; exact (runOK_spec sf_ok).1

/-- the property theorems applied to the run: the ledger of replica 1 (`[P1]`) is a hash chain from
genesis without repetition, and the ledgers of replicas 3 (`[]`) and 1 are prefix-related -/
theorem sf_ledger_theorems_apply :
    HashChain genesisHash 0 ((sysRunL exKeys exCfg sfActs).2 1) ∧
    ((sysRunL exKeys exCfg sfActs).2 3 <+: (sysRunL exKeys exCfg sfActs).2 1 ∨
      (sysRunL exKeys exCfg sfActs).2 1 <+: (sysRunL exKeys exCfg sfActs).2 3) ∧
    ((sysRunL exKeys exCfg sfActs).2 1).Nodup := by
  obtain ⟨hk, _, hn, hf, hs, hrl, _, _⟩ := sys_safety_nonvacuous
  have ha := sf_ledgers.2.2.2
  have h1 : 1 ∈ exCfg.honest := by decide
  have h3 : 3 ∈ exCfg.honest := by decide
  exact ⟨(ledger_is_chain exKeys exCfg hk hn hf hs hrl sfBlk sfActs ha sf_ca' 1 h1).1,
    ledgers_prefix_related exKeys exCfg hk hn hf hs hrl sfBlk sfActs ha sf_ca' 3 1 h3 h1,
    (ledger_nodup exKeys exCfg hk hn hf hs hrl sfBlk sfActs ha sf_ca' 1 h1).2⟩

theorem sf_ledgers_simple : (sysRunL exKeys sfCfgS sfActs).2 1 = [exBlock] ∧ (sysRunL exKeys sfCfgS sfActs).2 2 = [exBlock] ∧
    (sysRunL exKeys sfCfgS sfActs).2 3 = [] :=
  have h := (runOK_spec sfS_ok).2.2.1
  ⟨(h _ (.head _)).2, (h _ (.tail _ (.head _))).2, (h _ (.tail _ (.tail _ (.head _)))).2⟩

/-- **Counterexample to the statements without `noCommit`**: the adversary delivers `Ev.commit badBlock`
to replica 1 in the initial state.  All of H holds of the final state (with `blk := fun _ => genesisBlock`:
only genesis is stored, nothing voted), replica 1 is honest, its ledger is `[badBlock]`, and that is not a
hash chain from genesis (the parent hash of `badBlock` is `"Y"`). -/
def badBlock : Block := { hash := "X", parent := "Y", view := 7, proposer := 4, qc := genesisQC, cmds := [] }

theorem ledger_counterexample : KeysOK exKeys ∧ 1 ≤ exCfg.n ∧ FewFaulty exCfg ∧ exCfg.scheme ≠ .bls12 ∧ exCfg.rules ≠ .fast ∧
    CA' (sysRunL exKeys exCfg [.deliver 1 (.commit badBlock)]).1 (fun _ => genesisBlock) ∧ 1 ∈ exCfg.honest ∧
    (sysRunL exKeys exCfg [.deliver 1 (.commit badBlock)]).2 1 = [badBlock] ∧
    ¬ HashChain genesisHash 0 ((sysRunL exKeys exCfg [.deliver 1 (.commit badBlock)]).2 1) := by
  have h : (ca'Check (sysRunL exKeys exCfg [.deliver 1 (.commit badBlock)]).1 (fun _ => genesisBlock) &&
      decide ((sysRunL exKeys exCfg [.deliver 1 (.commit badBlock)]).2 1 = [badBlock])) = true := by decide +kernel
  rw [Bool.and_eq_true, decide_eq_true_eq] at h
  refine ⟨tmoMsgKey_ne_blkMsg, by decide, by unfold FewFaulty; decide, by decide, by decide,
    ca'_of_ca'Check _ _ h.1, by decide, h.2, ?_⟩
  rw [h.2]
  intro hc
  cases hc with
  | cons _ _ _ _ h1 _ _ => exact absurd h1 (by decide)

end NonVacuity
end HsVerif.Props.C01Ledger
