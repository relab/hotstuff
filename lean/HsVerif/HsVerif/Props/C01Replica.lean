import HsVerif.Proofs.ReplicaView
import HsVerif.Proofs.ReplicaFrames
import HsVerif.Props.C03
/-! C01, layer B — what the replica model is proved to do, towards the voting discipline that the
abstract safety theorem (Props/C01.lean) assumes.  One vote per view and well-formed parents are
C03's `votes_increasing` / `vote_wellformed`; here: the lock only moves up.  The rest of the lock rule
(a vote obliges the replica to lock on the grandparent; a vote is cast only if the vote rule holds
against the lock of that moment) is in Props/C01LockInv.lean, C01Rule.lean and C01Pair.lean. -/
namespace HsVerif.Props.C01Replica
open HsVerif.Model

/-- **The lock never moves to a lower view**, whatever is delivered. -/
theorem lock_never_lowers (k : Keys) (c : RCfg) (s : RState) (e : Ev) :
    s.lock.view ≤ (step k c s e).1.lock.view :=
  (runLoop_steps k c 100000 { s with out := [], queue := s.queue ++ [e] }).lock_le

theorem lock_never_lowers_run (k : Keys) (c : RCfg) (es : List Ev) (s : RState) :
    s.lock.view ≤ (es.foldl (fun s e => (step k c s e).1) s).lock.view :=
  HsVerif.Props.C03.runEvents_keeps (I := fun s' => s.lock.view ≤ s'.lock.view)
    (fun s' e h => Nat.le_trans h (lock_never_lowers k c s' e)) es s (Nat.le_refl _)

end HsVerif.Props.C01Replica
