import HsVerif.Gen.Voter
/-! C03 — the voter's statements ON THE REGENERATED CODE of `protocol/consensus/voter.go`.
`Gen/Voter.lean` is regenerated from the Go source on every run (tools/gofacts/methods.go): `Verify`, `Vote`,
`StopVoting` of `Voter` as pure functions of the fields `lastVotedView`, `lastVotedQCView`.  Proposals
(`*hotstuff.ProposeMsg`), blocks and aggregate QCs are opaque pointer values, certificates and hashes opaque values;
the accessors and the calls into the other components (`ruler.VoteRule`, `auth.VerifyAnyQC`,
`leaderRotation.GetLeader`, `auth.CreatePartialCert`) are ARBITRARY functions, collected in `Env`.  An `error` is
its presence (`true` = an error).  The theorems are about the code as regenerated, not about a hand-written model:
what `Verify` accepts, what `Vote` and `StopVoting` record, and — over every sequence of calls in the order the
proposal handler and the timeout path make them — one vote per view, never in or before a view for which voting
was stopped. -/
namespace HsVerif.Props.C03Gen
open HsVerif.Gen.Methods

section generic
variable {Msg Blk QC AggQC Hash PC : Type} [DecidableEq Msg] [DecidableEq Blk] [DecidableEq AggQC] [DecidableEq Hash]

/-- The environment of a `Voter`: nil / zero values, accessors of the opaque values, the other components. -/
structure Env (Msg Blk QC AggQC Hash PC : Type) where
  msgNil : Msg
  blkNil : Blk
  aggNil : AggQC
  pcZero : PC
  msgBlock : Msg → Blk
  msgAgg : Msg → AggQC
  msgID : Msg → Int
  blkView : Blk → Int
  blkParent : Blk → Hash
  blkQC : Blk → QC
  qcHash : QC → Hash
  qcView : QC → Int
  voteRule : Int → Msg → Bool
  verifyAnyQC : Msg → Bool
  getLeader : Int → Int
  createPC : Blk → PC × Bool

def verify (E : Env Msg Blk QC AggQC Hash PC) (lv lq : Int) (p : Msg) : (Int × Int) × Bool × Bool :=
  Voter_Verify E.msgNil E.blkNil E.aggNil E.pcZero E.msgBlock E.msgAgg E.msgID E.blkView E.blkParent E.blkQC E.qcHash
    E.qcView E.voteRule E.verifyAnyQC E.getLeader E.createPC lv lq p

def vote (E : Env Msg Blk QC AggQC Hash PC) (lv lq : Int) (b : Blk) : (Int × Int) × (PC × Bool) × Bool :=
  Voter_Vote E.msgNil E.blkNil E.aggNil E.pcZero E.msgBlock E.msgAgg E.msgID E.blkView E.blkParent E.blkQC E.qcHash
    E.qcView E.voteRule E.verifyAnyQC E.getLeader E.createPC lv lq b

def stopVoting (E : Env Msg Blk QC AggQC Hash PC) (lv lq : Int) (view : Int) : (Int × Int) × Bool × Bool :=
  Voter_StopVoting E.msgNil E.blkNil E.aggNil E.pcZero E.msgBlock E.msgAgg E.msgID E.blkView E.blkParent E.blkQC
    E.qcHash E.qcView E.voteRule E.verifyAnyQC E.getLeader E.createPC lv lq view

def pView (E : Env Msg Blk QC AggQC Hash PC) (p : Msg) : Int := E.blkView (E.msgBlock p)
def pQCView (E : Env Msg Blk QC AggQC Hash PC) (p : Msg) : Int := E.qcView (E.blkQC (E.msgBlock p))

/-- `Verify` changes no field, and returns no error ONLY IF the block is newer than the last vote, the vote rule
said yes, the certificates verified, the block's parent is the block its QC certifies, the QC is older than the
block, the sender is the leader of the block's view, and (with an aggregate QC) the QC is not below the QC of a
block already voted for. -/
theorem verify_accepts_only_wellformed (E : Env Msg Blk QC AggQC Hash PC) (lv lq : Int) (p : Msg) :
    (verify E lv lq p).1 = (lv, lq) ∧
    ((verify E lv lq p).2.1 = false →
      lv < pView E p ∧
      E.voteRule (pView E p) p = true ∧
      E.verifyAnyQC p = false ∧
      E.blkParent (E.msgBlock p) = E.qcHash (E.blkQC (E.msgBlock p)) ∧
      pQCView E p < pView E p ∧
      E.msgID p = E.getLeader (pView E p) ∧
      (E.msgAgg p ≠ E.aggNil → lq ≤ pQCView E p)) := by
  -- the projections pushed through the early returns leave one nested `if` over `Bool` for the error, in which
  -- `simp` reads every `return err` as a conjunct; `VerifyAnyQC`'s error is returned as it is, hence the `cases`
  simp only [verify, Voter_Verify, pView, pQCView, apply_ite Prod.fst, apply_ite Prod.snd, ite_self, true_and]
  cases hq : E.verifyAnyQC p <;> simp +contextual

/-- `Vote`: if signing succeeds, `lastVotedView` becomes the block's view, `lastVotedQCView` the maximum of its old
value and the view of the block's QC, and the certificate is returned without error; if signing fails nothing
changes and the error is returned. -/
theorem vote_records_view (E : Env Msg Blk QC AggQC Hash PC) (lv lq : Int) (b : Blk) :
    ((E.createPC b).2 = false →
      (vote E lv lq b).1 = (E.blkView b, max lq (E.qcView (E.blkQC b))) ∧
      (vote E lv lq b).2.1 = ((E.createPC b).1, false)) ∧
    ((E.createPC b).2 = true →
      (vote E lv lq b).1 = (lv, lq) ∧ (vote E lv lq b).2.1 = ((E.createPC b).1, true)) := by
  simp only [vote, Voter_Vote]
  cases (E.createPC b).2 <;> simp
  omega

/-- `StopVoting(view)`: `lastVotedView` becomes the maximum of its old value and `view`; the result says whether
it was raised. -/
theorem stopVoting_monotone (E : Env Msg Blk QC AggQC Hash PC) (lv lq view : Int) :
    stopVoting E lv lq view = ((max lv view, lq), decide (lv < view), true) := by
  simp only [stopVoting, Voter_StopVoting]
  split <;> simp [*] <;> omega

/-- What the replica does with its voter: the timeout path calls `StopVoting(view)`; the proposal handler calls
`Verify(p)` and, only if it accepted, `Vote(p.Block)` (`OnValidPropose`). -/
inductive Step (Msg : Type) where
  | stop (view : Int)
  | propose (p : Msg)

/-- One step through the regenerated functions: the new fields and the views signed in this step (the block's view
if `Vote` returned no error, i.e. `CreatePartialCert` succeeded). -/
def step (E : Env Msg Blk QC AggQC Hash PC) (s : Int × Int) : Step Msg → (Int × Int) × List Int
  | .stop view => ((stopVoting E s.1 s.2 view).1, [])
  | .propose p =>
    let r := verify E s.1 s.2 p
    if r.2.1 = false then
      let w := vote E r.1.1 r.1.2 (E.msgBlock p)
      (w.1, if w.2.1.2 = false then [pView E p] else [])
    else (r.1, [])

/-- A sequence of steps: the final fields and the views signed, in order. -/
def run (E : Env Msg Blk QC AggQC Hash PC) (s : Int × Int) : List (Step Msg) → (Int × Int) × List Int
  | [] => (s, [])
  | op :: ops => ((run E (step E s op).1 ops).1, (step E s op).2 ++ (run E (step E s op).1 ops).2)

theorem step_spec (E : Env Msg Blk QC AggQC Hash PC) (s : Int × Int) (op : Step Msg) :
    ((step E s op).2 = [] ∧ s.1 ≤ (step E s op).1.1) ∨
    (∃ v, (step E s op).2 = [v] ∧ s.1 < v ∧ (step E s op).1.1 = v) := by
  cases op with
  | stop view => exact .inl ⟨rfl, by simp only [step, stopVoting_monotone]; omega⟩
  | propose p =>
    obtain ⟨hf, hacc⟩ := verify_accepts_only_wellformed E s.1 s.2 p
    obtain ⟨hok, hfail⟩ := vote_records_view E s.1 s.2 (E.msgBlock p)
    simp only [step, hf]
    split
    · cases hc : (E.createPC (E.msgBlock p)).2
      · exact .inr ⟨pView E p, by simp [(hok hc).2], (hacc ‹_›).1, by rw [(hok hc).1]; rfl⟩
      · exact .inl ⟨by simp [(hfail hc).2], by rw [(hfail hc).1]; exact Int.le_refl _⟩
    · exact .inl ⟨rfl, Int.le_refl _⟩

/-- Over ANY sequence of `StopVoting` / `Verify`-then-`Vote` steps from any fields: the signed views are strictly
increasing (one vote per view), each is above the `lastVotedView` at the start (never in or before a view for which
voting was stopped, i.e. a timeout was signed), and `lastVotedView` never decreases. -/
theorem votes_strictly_increasing (E : Env Msg Blk QC AggQC Hash PC) (ops : List (Step Msg)) (s : Int × Int) :
    List.Pairwise (· < ·) (run E s ops).2 ∧
    (∀ v ∈ (run E s ops).2, s.1 < v) ∧
    s.1 ≤ (run E s ops).1.1 := by
  induction ops generalizing s with
  | nil =>
    simp only [run]
    refine ⟨List.Pairwise.nil, ?_, Int.le_refl _⟩
    intro v hv; cases hv
  | cons op ops ih =>
    have ⟨ih1, ih2, ih3⟩ := ih (step E s op).1
    simp only [run]
    rcases step_spec E s op with ⟨h1, h2⟩ | ⟨v, h1, h2, h3⟩
    · rw [h1, List.nil_append]
      exact ⟨ih1, fun v hv => by have := ih2 v hv; omega, by omega⟩
    · rw [h1]
      refine ⟨?_, ?_, by omega⟩
      · simp only [List.singleton_append, List.pairwise_cons]
        exact ⟨fun w hw => by have := ih2 w hw; omega, ih1⟩
      · intro w hw
        simp only [List.singleton_append, List.mem_cons] at hw
        rcases hw with rfl | hw
        · exact h2
        · have := ih2 w hw; omega

theorem no_view_signed_twice (E : Env Msg Blk QC AggQC Hash PC) (ops : List (Step Msg)) (s : Int × Int) :
    (run E s ops).2.Nodup :=
  (votes_strictly_increasing E ops s).1.imp (fun h => by omega)

end generic

/-! ## Non-vacuity: a small concrete environment

A proposal is (block view, QC view, sender), a block (view, QC view), a QC and a hash are the view of the certified
block, an aggregate QC is present or not; the leader of view v is v % 4; signing fails for the block of view 7. -/
def E0 : Env (Int × Int × Int) (Int × Int) Int Bool Int Int where
  msgNil := (-1, -1, -1)
  blkNil := (-1, -1)
  aggNil := false
  pcZero := 0
  msgBlock := fun m => (m.1, m.2.1)
  msgAgg := fun _ => false
  msgID := fun m => m.2.2
  blkView := fun b => b.1
  blkParent := fun b => b.2
  blkQC := fun b => b.2
  qcHash := fun q => q
  qcView := fun q => q
  voteRule := fun _ _ => true
  verifyAnyQC := fun _ => false
  getLeader := fun v => v % 4
  createPC := fun b => (b.1, decide (b.1 = 7))

/-- `Verify` does accept a well-formed proposal (no error, no nil dereference) … -/
example : verify E0 0 0 (1, 0, 1) = ((0, 0), false, true) := by decide
/-- … rejects one from the wrong sender, and one for the view already voted in … -/
example : (verify E0 0 0 (1, 0, 2)).2.1 = true ∧ (verify E0 1 0 (1, 0, 1)).2.1 = true := by decide
/-- … and a nil proposal clears the no-nil-dereference flag (Go panics). -/
example : (verify E0 0 0 (-1, -1, -1)).2.2 = false := by decide
/-- `Vote` signs and records; a failed signature records nothing. -/
example : vote E0 0 0 (5, 4) = ((5, 4), (5, false), true) ∧ vote E0 5 4 (7, 6) = ((5, 4), (7, true), true) := by decide
/-- A run: vote in 1, the same proposal again (rejected), stop voting for 3, a proposal for 3 (rejected), vote in
5, a proposal for 7 whose signature fails, vote in 6: the views signed are 1, 5, 6 and the fields end at (6, 5). -/
example : run E0 (0, 0) [.propose (1, 0, 1), .propose (1, 0, 1), .stop 3, .propose (3, 1, 3), .propose (5, 4, 1),
    .propose (7, 6, 3), .propose (6, 5, 2)] = ((6, 5), [1, 5, 6]) := by decide

end HsVerif.Props.C03Gen
