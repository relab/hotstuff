import HsVerif.Props.C06
import HsVerif.Props.C01Ledger
import HsVerif.Props.C01FastSys
/-! C06, the cross-replica clause: "for any two honest replicas the executed command sequences are
prefix-related" — composed from C01's ledger theorem for the system of replica models
(Props/C01Ledger.lean: the commit logs of two honest replicas are prefix-related) and C06's
`executed_prefix` (the application's filter turns prefix-related command streams into
prefix-related executions).  `cmdsOf` is how a block's payload is read as client commands; it is a
parameter: all that matters is that it is a function of the block.  Hypotheses as in
`ledgers_prefix_related` (chained / simplified HotStuff, ECDSA / EdDSA, at most f Byzantine,
content addressing `CA'`, no internal commit events injected from outside). -/
namespace HsVerif.Props.C06Sys
open HsVerif.Model HsVerif.Props.C06 HsVerif.Props.C01Sys HsVerif.Props.C01SysWF HsVerif.Props.C01Ledger HsVerif.SysLedger

/-- the command stream a ledger hands to the application, block by block -/
def stream (cmdsOf : Block → List Cmd) (l : List Block) : List Cmd := l.flatMap cmdsOf

theorem stream_prefix (cmdsOf : Block → List Cmd) (a b : List Block) (h : a <+: b) :
    stream cmdsOf a <+: stream cmdsOf b := by
  obtain ⟨t, rfl⟩ := h
  simp only [stream, List.flatMap_append]
  exact List.prefix_append _ _

/-- **The executed command sequences of any two honest replicas are prefix-related** (system of
replica models, any adversary of the model). -/
theorem executed_prefix_related (k : Keys) (C : SysCfg) (hk : KeysOK k) (hn : 1 ≤ C.n) (hf : FewFaulty C)
    (hsch : C.scheme ≠ .bls12) (hrl : C.rules ≠ .fast) (blk : Hash → Block) (acts : List SysAct)
    (hacts : ∀ a ∈ acts, a.noCommit = true) (hca : CA' (sysRunL k C acts).1 blk)
    (cmdsOf : Block → List Cmd) (i j : Nat) (hi : i ∈ C.honest) (hj : j ∈ C.honest) :
    execFilter [] (stream cmdsOf ((sysRunL k C acts).2 i)) <+: execFilter [] (stream cmdsOf ((sysRunL k C acts).2 j)) ∨
    execFilter [] (stream cmdsOf ((sysRunL k C acts).2 j)) <+: execFilter [] (stream cmdsOf ((sysRunL k C acts).2 i)) := by
  rcases ledgers_prefix_related k C hk hn hf hsch hrl blk acts hacts hca i j hi hj with h | h
  · exact Or.inl (executed_prefix _ _ (stream_prefix cmdsOf _ _ h))
  · exact Or.inr (executed_prefix _ _ (stream_prefix cmdsOf _ _ h))

/-- the same for Fast-HotStuff (through `C01FastSys.ledgers_prefix_related_fast`; content addressing `CA`) -/
theorem executed_prefix_related_fast (k : Keys) (C : SysCfg) (hk : KeysOK k) (hn : 1 ≤ C.n) (hf : FewFaulty C)
    (hsch : C.scheme ≠ .bls12) (hrl : C.rules = .fast) (blk : Hash → Block) (acts : List SysAct)
    (hacts : ∀ a ∈ acts, a.noCommit = true) (hca : CA (sysRunL k C acts).1 blk)
    (cmdsOf : Block → List Cmd) (i j : Nat) (hi : i ∈ C.honest) (hj : j ∈ C.honest) :
    execFilter [] (stream cmdsOf ((sysRunL k C acts).2 i)) <+: execFilter [] (stream cmdsOf ((sysRunL k C acts).2 j)) ∨
    execFilter [] (stream cmdsOf ((sysRunL k C acts).2 j)) <+: execFilter [] (stream cmdsOf ((sysRunL k C acts).2 i)) := by
  rcases HsVerif.Props.C01FastSys.ledgers_prefix_related_fast k C hk hn hf hsch hrl blk acts hacts hca i j hi hj with h | h
  · exact Or.inl (executed_prefix _ _ (stream_prefix cmdsOf _ _ h))
  · exact Or.inr (executed_prefix _ _ (stream_prefix cmdsOf _ _ h))

/-- … and no command (client id, sequence number) is executed twice along a ledger, whatever the
blocks contain -/
theorem executed_once (cmdsOf : Block → List Cmd) (l : List Block) :
    ((execFilter [] (stream cmdsOf l)).map (fun c => (c.client, c.seq))).Nodup :=
  executed_nodup_ids _

end HsVerif.Props.C06Sys
