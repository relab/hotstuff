import HsVerif.Model.Replica
import HsVerif.Gen.TimeoutCollector
/-! C08 — the tie by translation for `protocol/synchronizer/timeout_collector.go`.
`Gen/TimeoutCollector.lean` is regenerated from the Go source on every run (tools/gofacts/methods.go, "slice
forms"): `timeoutCollector.add` and `deleteOldViews` as pure functions of the field `timeouts` (a `List T` of an
opaque message type with the accessors `T_View`, `T_ID` for the struct fields `.View`, `.ID`), the parameters and
`s.config.QuorumSize()` (a parameter).  The theorems here instantiate `T` with the model's `TimeoutMsg` and say
that the regenerated functions ARE `collectorAdd` and the filter at the end of `onRemoteTimeout` of
`Model/Replica.lean`, for every list, message, quorum size and view; the Go result `([]T, bool)` is the model's
`Option`: `(list, true)` ↔ `some list`, `(nil, false)` ↔ `none`.  The last component of the regenerated
functions is the "no panic" flag (`make` with a negative capacity panics): true for every quorum size ≥ 0. -/
namespace HsVerif.Props.C08Gen
open HsVerif.Model
open HsVerif.Gen.Methods (timeoutCollector_add timeoutCollector_deleteOldViews)

/-- Go's `([]T, bool)` result read as the model's `Option`. -/
def resultOpt {T : Type} (r : List T × Bool) : Option (List T) := if r.2 then some r.1 else none

/-- the accessor `.View` of the Go message, read on the model's message -/
abbrev tView (x : TimeoutMsg) : Int := (x.view : Int)
/-- the accessor `.ID` of the Go message, read on the model's message -/
abbrev tID (x : TimeoutMsg) : Int := (x.id : Int)

/-- `add` without its bookkeeping: the first `if` (`make` on an empty field) leaves the list as it is, and the
capacity of the second `make` is a length. -/
theorem add_eq {T : Type} (V I : T → Int) (q : Int) (ts : List T) (t : T) :
    timeoutCollector_add V I q ts t =
      let inb := !ts.isEmpty || decide (0 ≤ 2 * q)
      if ts.any (fun x => decide (V x = V t ∧ I x = I t)) then (ts, ([], false), inb)
      else
        let same := (ts ++ [t]).filter (fun x => decide (V x = V t))
        if (same.length : Int) < q then (ts ++ [t], ([], false), inb)
        else ((ts ++ [t]).filter (fun x => !decide (V x = V t)), (same, true), inb) := by
  simp only [timeoutCollector_add, Int.natCast_nonneg, decide_true, Bool.and_true, Bool.true_and]
  cases ts <;> rfl

/-- The model compares views and ids (`Nat`) with `==`; the regenerated code compares the accessors' values (`Int`)
with `decide (… = …)`. -/
theorem decide_cast_eq (a b : Nat) : decide ((a : Int) = b) = (a == b) := by
  rw [Bool.eq_iff_iff]; simp [Int.ofNat_inj]

/-- The regenerated `add` equals the model's `collectorAdd`, for every list, message and quorum size: the new field
is the model's first component; the Go result read as an `Option` is the model's second component (and where the
Go `bool` is false the Go list is nil); no `make` panics. -/
theorem gen_collectorAdd_eq_model (q : Nat) (ts : List TimeoutMsg) (t : TimeoutMsg) :
    (timeoutCollector_add tView tID (q : Int) ts t).1 = (collectorAdd q ts t).1 ∧
    resultOpt (timeoutCollector_add tView tID (q : Int) ts t).2.1 = (collectorAdd q ts t).2 ∧
    ((timeoutCollector_add tView tID (q : Int) ts t).2.1.2 = false → (timeoutCollector_add tView tID (q : Int) ts t).2.1.1 = []) ∧
    (timeoutCollector_add tView tID (q : Int) ts t).2.2 = true := by
  have hq : decide ((0 : Int) ≤ 2 * (q : Int)) = true := by simp; omega
  rw [add_eq, hq]
  unfold collectorAdd resultOpt
  simp only [tView, tID, decide_cast_eq, Bool.decide_and, bne, Int.ofNat_lt, Bool.or_true]
  -- both sides are the same two nested `if`s
  split
  · simp
  · split <;> simp

/-- The regenerated `deleteOldViews` is the filter at the end of the model's `onRemoteTimeout`
(`timeouts.filter (fun x => !(x.view < currView))`), whatever the quorum size. -/
theorem gen_deleteOldViews_eq_model (qs : Int) (cur : Nat) (ts : List TimeoutMsg) :
    (timeoutCollector_deleteOldViews tView tID qs ts (cur : Int)).1 = ts.filter (fun x => !(x.view < cur)) ∧
    (timeoutCollector_deleteOldViews tView tID qs ts (cur : Int)).2.2 = true := by
  simp only [timeoutCollector_deleteOldViews, tView, Int.ofNat_lt, and_self]

/-! ## Examples on the regenerated code (messages as pairs (view, id)) -/

/-- a quorum forms: the view's timeouts are handed out and removed, the other view stays -/
example : timeoutCollector_add (T := Int × Int) (·.1) (·.2) 3 [(1, 1), (1, 2), (2, 7)] (1, 3)
    = ([(2, 7)], ([(1, 1), (1, 2), (1, 3)], true), true) := by decide

/-- below the quorum the timeout is only recorded -/
example : timeoutCollector_add (T := Int × Int) (·.1) (·.2) 3 [(1, 1), (2, 7)] (1, 3)
    = ([(1, 1), (2, 7), (1, 3)], ([], false), true) := by decide

/-- a duplicate (same view, same sender) is ignored, even if it would complete the quorum -/
example : timeoutCollector_add (T := Int × Int) (·.1) (·.2) 2 [(1, 1), (2, 7)] (1, 1)
    = ([(1, 1), (2, 7)], ([], false), true) := by decide

/-- the same sender in another view is not a duplicate -/
example : timeoutCollector_add (T := Int × Int) (·.1) (·.2) 3 [(1, 1), (2, 7)] (2, 1)
    = ([(1, 1), (2, 7), (2, 1)], ([], false), true) := by decide

/-- `deleteOldViews` drops the views below the current one and nothing else -/
example : timeoutCollector_deleteOldViews (T := Int × Int) (·.1) (·.2) 3 [(1, 1), (2, 7), (3, 1), (1, 4)] 2
    = ([(2, 7), (3, 1)], (), true) := by decide

/-- the flag is not vacuous: a negative quorum size would make the first `make` panic -/
theorem no_panic_flag_nonvacuous :
    (timeoutCollector_add (T := Int × Int) (·.1) (·.2) (-1) [] (1, 1)).2.2 = false := by decide

end HsVerif.Props.C08Gen
