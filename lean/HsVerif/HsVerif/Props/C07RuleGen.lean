import HsVerif.Gen.TimeoutRuleSimple
import HsVerif.Gen.TimeoutRuleAggregate
/-! C07 (timeout rules) — "the view moves only on verified evidence" ON THE REGENERATED CODE of
`protocol/synchronizer/timeoutrule_simple.go` and `timeoutrule_aggregate.go`.
`Gen/TimeoutRuleSimple.lean` / `Gen/TimeoutRuleAggregate.lean` are regenerated from the Go source on every run
(tools/gofacts/methods.go): `(s *Simple) VerifySyncInfo` and `(s *Aggregate) VerifySyncInfo` as pure functions (no
modelled field: the state tuple is empty).  The sync info, the certificates and the signature are opaque values; the
accessors `TC()` / `QC()` / `AggQC()` (value, present), `View()`, `Sig()`, and the certificate checks of the authority
(`true` = an error; `VerifyAggregateQC` returns the high QC and an error) are ARBITRARY parameters, collected in an
environment.  The result `*hotstuff.QuorumCert` is `Option QC`.  The theorems are about the code as regenerated. -/
namespace HsVerif.Props.C07RuleGen
open HsVerif.Gen.Methods

/-- Both rules return the view `if W then a else if p then t else 0` (`W`: the QC, or aggregate QC, wins over
the TC; `p`: a TC is present); a positive view names its source. -/
theorem view_source {W p : Prop} [Decidable W] [Decidable p] {a t v : Int}
    (hview : v = if W then a else if p then t else 0) (hv : v > 0) : (W ∧ a = v) ∨ (p ∧ t = v) := by
  split at hview
  · exact .inl ⟨‹W›, hview.symm⟩
  · split at hview
    · exact .inr ⟨‹p›, hview.symm⟩
    · omega

/-- Both methods test the TC first and then run the same second half `A` from the view and timeout flag reached:
the TC's view and `true`, or `0` and `false`. -/
theorem tc_first {α} (b : Bool) (c : Prop) [Decidable c] (err : α) (A : Int → Bool → α) (v : Int) :
    (if b = true then if c then err else A v true else A 0 false) =
      if b = true ∧ c then err else A (if b = true then v else 0) b := by
  cases b <;> by_cases hc : c <;> simp [hc]

section simple
variable {SI TC QC : Type}

structure SEnv (SI TC QC : Type) where
  tc : SI → TC × Bool
  qc : SI → QC × Bool
  tcView : TC → Int
  qcView : QC → Int
  verifyTC : TC → Bool
  verifyQC : QC → Bool

/-- `Simple.VerifySyncInfo` as regenerated, on an environment: (qc, view, timeout, err). -/
def sVerify (E : SEnv SI TC QC) (si : SI) : Option QC × Int × Bool × Bool :=
  (Simple_VerifySyncInfo E.tc E.qc E.tcView E.qcView E.verifyTC E.verifyQC si).2.1

def sTCView (E : SEnv SI TC QC) (si : SI) : Int := if (E.tc si).2 = true then E.tcView (E.tc si).1 else 0

abbrev sQCWins (E : SEnv SI TC QC) (si : SI) : Prop := (E.qc si).2 = true ∧ E.qcView (E.qc si).1 ≥ sTCView E si

/-- `Simple.VerifySyncInfo` after its TC part, from the view `v` and the timeout flag `tmo` reached there. -/
def sAfterTC (E : SEnv SI TC QC) (si : SI) (v : Int) (tmo : Bool) : Option QC × Int × Bool × Bool :=
  if (E.qc si).2 = true then
    if E.verifyQC (E.qc si).1 = true then (none, 0, tmo, true)
    else (some (E.qc si).1, (if E.qcView (E.qc si).1 ≥ v then E.qcView (E.qc si).1 else v),
          (if E.qcView (E.qc si).1 ≥ v then false else tmo), false)
  else (none, v, tmo, false)

/-- The regenerated method repeats its second half in both branches of the TC test; read once, it is `sAfterTC`. -/
theorem sVerify_eq (E : SEnv SI TC QC) (si : SI) :
    sVerify E si =
      if (E.tc si).2 = true ∧ E.verifyTC (E.tc si).1 = true then (none, 0, false, true)
      else sAfterTC E si (sTCView E si) (E.tc si).2 := by
  refine Eq.trans ?_ (tc_first _ _ _ (sAfterTC E si) _)
  -- the projections of the tuples the translation builds are pushed into the `if`s: no path is enumerated
  simp only [sVerify, Simple_VerifySyncInfo, sAfterTC, apply_ite Prod.fst, apply_ite Prod.snd]

/-- No nil dereference is possible in the method (the flag stays set). -/
theorem simple_no_panic (E : SEnv SI TC QC) (si : SI) :
    (Simple_VerifySyncInfo E.tc E.qc E.tcView E.qcView E.verifyTC E.verifyQC si).2.2 = true := by
  simp only [Simple_VerifySyncInfo, apply_ite Prod.fst, apply_ite Prod.snd, ite_self]

/-- `Simple.VerifySyncInfo` returns no error IFF every certificate present passed its verifier; and then the returned
QC, view and timeout flag are exactly these. -/
theorem simple_verify_spec (E : SEnv SI TC QC) (si : SI) :
    ((sVerify E si).2.2.2 = false ↔
      ((E.tc si).2 = true → E.verifyTC (E.tc si).1 = false) ∧ ((E.qc si).2 = true → E.verifyQC (E.qc si).1 = false)) ∧
    ((sVerify E si).2.2.2 = false →
      (sVerify E si).1 = (if (E.qc si).2 = true then some (E.qc si).1 else none) ∧
      (sVerify E si).2.1 = (if sQCWins E si then E.qcView (E.qc si).1 else sTCView E si) ∧
      (sVerify E si).2.2.1 = (if sQCWins E si then false else (E.tc si).2)) := by
  rw [sVerify_eq]
  by_cases hT : (E.tc si).2 = true ∧ E.verifyTC (E.tc si).1 = true
  · simp [hT]
  · have hT' : (E.tc si).2 = true → E.verifyTC (E.tc si).1 = false := fun h => by simpa [h] using hT
    rw [if_neg hT, sAfterTC]
    by_cases hq : (E.qc si).2 = true
    · by_cases hv : E.verifyQC (E.qc si).1 = true
      · simp [hq, hv]
      · simpa [hq, hv, sQCWins] using hT'
    · simpa [hq, sQCWins] using hT'

/-- C07: no error and a returned view `v > 0` ⇒ a verified TC of view `v` or a verified QC of view `v` is present. -/
theorem simple_view_needs_evidence (E : SEnv SI TC QC) (si : SI)
    (hok : (sVerify E si).2.2.2 = false) (hv : (sVerify E si).2.1 > 0) :
    ((E.tc si).2 = true ∧ E.verifyTC (E.tc si).1 = false ∧ E.tcView (E.tc si).1 = (sVerify E si).2.1) ∨
    ((E.qc si).2 = true ∧ E.verifyQC (E.qc si).1 = false ∧ E.qcView (E.qc si).1 = (sVerify E si).2.1) := by
  obtain ⟨hiff, hval⟩ := simple_verify_spec E si
  obtain ⟨htc, hqc⟩ := hiff.mp hok
  rcases view_source (hval hok).2.1 hv with ⟨hw, e⟩ | ⟨hp, e⟩
  · exact .inr ⟨hw.1, hqc hw.1, e⟩
  · exact .inl ⟨hp, htc hp, e⟩
end simple

section aggregate
variable {SI TC QC AggQC Sig : Type} [DecidableEq Sig]

structure AEnv (SI TC QC AggQC Sig : Type) where
  sigNil : Sig
  tc : SI → TC × Bool
  qc : SI → QC × Bool
  aggQC : SI → AggQC × Bool
  tcView : TC → Int
  qcView : QC → Int
  aggView : AggQC → Int
  aggSig : AggQC → Sig
  verifyTC : TC → Bool
  verifyQC : QC → Bool
  verifyAgg : AggQC → QC × Bool

/-- `Aggregate.VerifySyncInfo` as regenerated, on an environment: (qc, view, timeout, err). -/
def aVerify (E : AEnv SI TC QC AggQC Sig) (si : SI) : Option QC × Int × Bool × Bool :=
  (Aggregate_VerifySyncInfo E.sigNil E.tc E.qc E.aggQC E.tcView E.qcView E.aggView E.aggSig E.verifyTC E.verifyQC
    E.verifyAgg si).2.1

def aTCView (E : AEnv SI TC QC AggQC Sig) (si : SI) : Int := if (E.tc si).2 = true then E.tcView (E.tc si).1 else 0

abbrev aAggWins (E : AEnv SI TC QC AggQC Sig) (si : SI) : Prop :=
  (E.aggQC si).2 = true ∧ E.aggView (E.aggQC si).1 ≥ aTCView E si

def aAggOK (E : AEnv SI TC QC AggQC Sig) (si : SI) : Prop :=
  E.aggSig (E.aggQC si).1 ≠ E.sigNil ∧ (E.verifyAgg (E.aggQC si).1).2 = false

/-- `Aggregate.VerifySyncInfo` after its TC part, from the view `v` and the timeout flag `tmo` reached there. -/
def aAfterTC (E : AEnv SI TC QC AggQC Sig) (si : SI) (v : Int) (tmo : Bool) : Option QC × Int × Bool × Bool :=
  if (E.aggQC si).2 = true then
    if E.aggSig (E.aggQC si).1 = E.sigNil then (none, 0, tmo, true)
    else if (E.verifyAgg (E.aggQC si).1).2 = true then (none, 0, tmo, true)
    else (some (E.verifyAgg (E.aggQC si).1).1, (if E.aggView (E.aggQC si).1 ≥ v then E.aggView (E.aggQC si).1 else v),
          (if E.aggView (E.aggQC si).1 ≥ v then true else tmo), false)
  else if (E.qc si).2 = true then
    if E.verifyQC (E.qc si).1 = true then (none, 0, tmo, true) else (some (E.qc si).1, v, tmo, false)
  else (none, v, tmo, false)

/-- As for the simple rule: the second half, repeated by the translation, is `aAfterTC`. -/
theorem aVerify_eq (E : AEnv SI TC QC AggQC Sig) (si : SI) :
    aVerify E si =
      if (E.tc si).2 = true ∧ E.verifyTC (E.tc si).1 = true then (none, 0, false, true)
      else aAfterTC E si (aTCView E si) (E.tc si).2 := by
  refine Eq.trans ?_ (tc_first _ _ _ (aAfterTC E si) _)
  simp only [aVerify, Aggregate_VerifySyncInfo, aAfterTC, apply_ite Prod.fst, apply_ite Prod.snd]

/-- No nil dereference is possible in the method (the flag stays set). -/
theorem aggregate_no_panic (E : AEnv SI TC QC AggQC Sig) (si : SI) :
    (Aggregate_VerifySyncInfo E.sigNil E.tc E.qc E.aggQC E.tcView E.qcView E.aggView E.aggSig E.verifyTC E.verifyQC
      E.verifyAgg si).2.2 = true := by
  simp only [Aggregate_VerifySyncInfo, apply_ite Prod.fst, apply_ite Prod.snd, ite_self]

/-- `Aggregate.VerifySyncInfo` returns no error IFF the TC (if present) is verified and: the aggregate QC, if present,
has a signature and passes `VerifyAggregateQC`; otherwise the plain QC (if present) is verified.  And then the returned
QC is the high QC of the aggregate QC / the plain QC / none, the view is the larger of the TC's and the aggregate
QC's — the plain QC does NOT change the view. -/
theorem aggregate_verify_spec (E : AEnv SI TC QC AggQC Sig) (si : SI) :
    ((aVerify E si).2.2.2 = false ↔
      ((E.tc si).2 = true → E.verifyTC (E.tc si).1 = false) ∧
      ((E.aggQC si).2 = true → aAggOK E si) ∧
      ((E.aggQC si).2 = false → (E.qc si).2 = true → E.verifyQC (E.qc si).1 = false)) ∧
    ((aVerify E si).2.2.2 = false →
      (aVerify E si).1 = (if (E.aggQC si).2 = true then some (E.verifyAgg (E.aggQC si).1).1
                          else if (E.qc si).2 = true then some (E.qc si).1 else none) ∧
      (aVerify E si).2.1 = (if aAggWins E si then E.aggView (E.aggQC si).1 else aTCView E si) ∧
      (aVerify E si).2.2.1 = (if aAggWins E si then true else (E.tc si).2)) := by
  rw [aVerify_eq]
  by_cases hT : (E.tc si).2 = true ∧ E.verifyTC (E.tc si).1 = true
  · simp [hT]
  · have hT' : (E.tc si).2 = true → E.verifyTC (E.tc si).1 = false := fun h => by simpa [h] using hT
    rw [if_neg hT, aAfterTC]
    by_cases ha : (E.aggQC si).2 = true
    · by_cases hs : E.aggSig (E.aggQC si).1 = E.sigNil
      · simp [ha, hs, aAggOK]
      · by_cases hv : (E.verifyAgg (E.aggQC si).1).2 = true
        · simp [ha, hs, hv, aAggOK]
        · simpa [ha, hs, hv, aAggOK, aAggWins] using hT'
    · by_cases hq : (E.qc si).2 = true
      · by_cases hv : E.verifyQC (E.qc si).1 = true
        · simp [ha, hq, hv]
        · simpa [ha, hq, hv, aAggWins] using hT'
      · simpa [ha, hq, aAggWins] using hT'

/-- With an aggregate QC of a non-negative view (Go views are unsigned) the returned view is the maximum of the two
views and the timeout flag is set. -/
theorem aggregate_aggqc_view_max (E : AEnv SI TC QC AggQC Sig) (si : SI)
    (hok : (aVerify E si).2.2.2 = false) (ha : (E.aggQC si).2 = true) (hnn : 0 ≤ E.aggView (E.aggQC si).1) :
    (aVerify E si).2.1 = max (aTCView E si) (E.aggView (E.aggQC si).1) ∧ (aVerify E si).2.2.1 = true := by
  obtain ⟨_, hview, ht⟩ := (aggregate_verify_spec E si).2 hok
  rw [hview, ht]; unfold aAggWins aTCView
  by_cases hp : (E.tc si).2 = true <;> simp [ha, hp] <;> omega

/-- C07: no error and a returned view `v > 0` ⇒ a verified TC of view `v` or a verified aggregate QC of view `v`. -/
theorem aggregate_view_needs_evidence (E : AEnv SI TC QC AggQC Sig) (si : SI)
    (hok : (aVerify E si).2.2.2 = false) (hv : (aVerify E si).2.1 > 0) :
    ((E.tc si).2 = true ∧ E.verifyTC (E.tc si).1 = false ∧ E.tcView (E.tc si).1 = (aVerify E si).2.1) ∨
    ((E.aggQC si).2 = true ∧ aAggOK E si ∧ E.aggView (E.aggQC si).1 = (aVerify E si).2.1) := by
  obtain ⟨hiff, hval⟩ := aggregate_verify_spec E si
  obtain ⟨htc, hagg, _⟩ := hiff.mp hok
  rcases view_source (hval hok).2.1 hv with ⟨hw, e⟩ | ⟨hp, e⟩
  · exact .inr ⟨hw.1, hagg hw.1, e⟩
  · exact .inl ⟨hp, htc hp, e⟩

/-- The recorded known finding: with no TC and no aggregate QC the returned view is 0 whatever QC is present (a plain
QC never moves the view under the aggregate rule), error or not. -/
theorem aggregate_plain_qc_never_moves_view (E : AEnv SI TC QC AggQC Sig) (si : SI)
    (hntc : (E.tc si).2 = false) (hnagg : (E.aggQC si).2 = false) :
    (aVerify E si).2.1 = 0 ∧ (aVerify E si).2.2.1 = false := by
  rw [aVerify_eq, aAfterTC, aTCView]
  by_cases h2 : (E.qc si).2 = true <;> by_cases h4 : E.verifyQC (E.qc si).1 = true <;> simp [hntc, hnagg, h2, h4]
end aggregate

/-! Non-vacuity on a small concrete environment: a sync info is (TC?, QC?, AggQC?), certificates are their view
numbers, a certificate of view 99 fails verification, an aggregate QC's signature is its view (0 = nil) and its high QC
is its view minus one. -/
def sEnv : SEnv (Option Nat × Option Nat × Option Nat) Nat Nat :=
  { tc := fun s => (s.1.getD 0, s.1.isSome), qc := fun s => (s.2.1.getD 0, s.2.1.isSome),
    tcView := fun n => n, qcView := fun n => n, verifyTC := fun n => n == 99, verifyQC := fun n => n == 99 }

def aEnv : AEnv (Option Nat × Option Nat × Option Nat) Nat Nat Nat Nat :=
  { sigNil := 0, tc := fun s => (s.1.getD 0, s.1.isSome), qc := fun s => (s.2.1.getD 0, s.2.1.isSome),
    aggQC := fun s => (s.2.2.getD 0, s.2.2.isSome), tcView := fun n => n, qcView := fun n => n, aggView := fun n => n,
    aggSig := fun n => n, verifyTC := fun n => n == 99, verifyQC := fun n => n == 99,
    verifyAgg := fun n => (n - 1, n == 99) }

example : sVerify sEnv (some 5, some 7, none) = (some 7, 7, false, false) := by decide
example : sVerify sEnv (some 5, some 3, none) = (some 3, 5, true, false) := by decide
example : sVerify sEnv (some 5, some 99, none) = (none, 0, true, true) := by decide
example : aVerify aEnv (some 5, some 8, some 7) = (some 6, 7, true, false) := by decide
example : aVerify aEnv (none, some 8, none) = (some 8, 0, false, false) := by decide
example : aVerify aEnv (some 5, none, some 99) = (none, 0, true, true) := by decide

end HsVerif.Props.C07RuleGen
