import HsVerif.Model.Cert
import HsVerif.Gen.ViewStates
/-! C07 — the tie by translation for `protocol/viewstates.go`.
`Gen/ViewStates.lean` is regenerated from the Go source on every run (tools/gofacts/methods.go): the
methods of `ViewStates` as pure functions of the fields `highTC`, `highQC`, `view`, `committedBlock`;
certificates and blocks are opaque values, `qc.View()`, `qc.BlockHash()`, `block.View()`, `tc.View()`
and `s.blockchain.Get` are parameters.  gofacts also extracts WHICH functions of package `protocol`
assign these (unexported) fields; `vlib/prop_C07.py` expects exactly the constructor and the methods
below.  So every history of a `ViewStates` value is a word over `VOp`, and the theorems here — about the
code as regenerated, not about a hand-written model — cover all of them:
the current view, the view of the high TC and (for certificates whose view is their block's view, which is
what `VerifyQuorumCert` guarantees, C02 `relabelled_view_rejected`) the view of the high QC never decrease.
The last section states that the hand-written replica model performs the same updates. -/
namespace HsVerif.Props.C07Gen
open HsVerif.Gen.Methods

section generic
variable {QC TC Blk Hash : Type}

/-- The environment of a `ViewStates`: accessors of the opaque values and the block store's `Get`. -/
structure Env (QC TC Blk Hash : Type) where
  qcView : QC → Int
  qcHash : QC → Hash
  tcView : TC → Int
  blkView : Blk → Int
  get : Hash → Blk × Bool

abbrev VS (QC TC Blk : Type) := TC × QC × Int × Blk

/-- The methods of `ViewStates` (all of them; the readers included). -/
inductive VOp (QC TC Blk : Type) where
  | updateHighQC (qc : QC)
  | updateHighTC (tc : TC)
  | nextView
  | enterViewAfter (certified : Int)
  | view | highQC | highTC
  | updateCommittedBlock (b : Blk)
  | committedBlock

/-- One method call through the regenerated code; only the new field values are kept. -/
def vstep (E : Env QC TC Blk Hash) (s : VS QC TC Blk) : VOp QC TC Blk → VS QC TC Blk
  | .updateHighQC qc => (ViewStates_UpdateHighQC E.get E.qcHash E.blkView E.qcView s.1 s.2.1 s.2.2.1 s.2.2.2 qc).1
  | .updateHighTC tc => (ViewStates_UpdateHighTC E.tcView s.1 s.2.1 s.2.2.1 s.2.2.2 tc).1
  | .nextView => (ViewStates_NextView s.1 s.2.1 s.2.2.1 s.2.2.2).1
  | .enterViewAfter c => (ViewStates_EnterViewAfter s.1 s.2.1 s.2.2.1 s.2.2.2 c).1
  | .view => (ViewStates_View s.1 s.2.1 s.2.2.1 s.2.2.2).1
  | .highQC => (ViewStates_HighQC s.1 s.2.1 s.2.2.1 s.2.2.2).1
  | .highTC => (ViewStates_HighTC s.1 s.2.1 s.2.2.1 s.2.2.2).1
  | .updateCommittedBlock b => (ViewStates_UpdateCommittedBlock s.1 s.2.1 s.2.2.1 s.2.2.2 b).1
  | .committedBlock => (ViewStates_CommittedBlock s.1 s.2.1 s.2.2.1 s.2.2.2).1

def vrun (E : Env QC TC Blk Hash) (s : VS QC TC Blk) (ops : List (VOp QC TC Blk)) : VS QC TC Blk :=
  ops.foldl (vstep E) s

theorem enterViewAfter_spec (tc : TC) (qc : QC) (v : Int) (b : Blk) (certified : Int) :
    ViewStates_EnterViewAfter tc qc v b certified =
      ((tc, qc, (if certified ≥ v then certified + 1 else v), b), (if certified ≥ v then certified + 1 else v), true) := by
  unfold ViewStates_EnterViewAfter; split <;> rfl

theorem enterViewAfter_above (tc : TC) (qc : QC) (v : Int) (b : Blk) (certified : Int) :
    certified < (ViewStates_EnterViewAfter tc qc v b certified).1.2.2.1 ∧
    v ≤ (ViewStates_EnterViewAfter tc qc v b certified).1.2.2.1 := by
  rw [enterViewAfter_spec]; simp only; split <;> omega

theorem nextView_spec (tc : TC) (qc : QC) (v : Int) (b : Blk) :
    ViewStates_NextView tc qc v b = ((tc, qc, v + 1, b), v + 1, true) := rfl

theorem updateHighTC_spec (tv : TC → Int) (h : TC) (qc : QC) (v : Int) (b : Blk) (tc : TC) :
    ViewStates_UpdateHighTC tv h qc v b tc = ((if tv tc > tv h then tc else h, qc, v, b), (), true) := by
  unfold ViewStates_UpdateHighTC; split <;> rfl

/-- `UpdateHighQC`: reports an error and changes nothing when the certified block is unknown; otherwise
the high QC becomes the argument exactly when ITS BLOCK's view is above the high QC's view. -/
theorem updateHighQC_spec (E : Env QC TC Blk Hash) (h : TC) (hq : QC) (v : Int) (b : Blk) (qc : QC) :
    ViewStates_UpdateHighQC E.get E.qcHash E.blkView E.qcView h hq v b qc =
      if (E.get (E.qcHash qc)).2 = false then ((h, hq, v, b), (false, true), true)
      else if E.blkView (E.get (E.qcHash qc)).1 ≤ E.qcView hq then ((h, hq, v, b), (false, false), true)
      else ((h, qc, v, b), (true, false), true) := rfl

theorem readers_spec (tc : TC) (qc : QC) (v : Int) (b : Blk) :
    ViewStates_View tc qc v b = ((tc, qc, v, b), v, true) ∧
    ViewStates_HighQC tc qc v b = ((tc, qc, v, b), qc, true) ∧
    ViewStates_HighTC tc qc v b = ((tc, qc, v, b), tc, true) ∧
    ViewStates_CommittedBlock tc qc v b = ((tc, qc, v, b), b, true) := ⟨rfl, rfl, rfl, rfl⟩

theorem updateHighQC_frame (E : Env QC TC Blk Hash) (h : TC) (hq : QC) (v : Int) (b : Blk) (qc : QC) :
    (ViewStates_UpdateHighQC E.get E.qcHash E.blkView E.qcView h hq v b qc).1.1 = h ∧
    (ViewStates_UpdateHighQC E.get E.qcHash E.blkView E.qcView h hq v b qc).1.2.2 = (v, b) := by
  rw [updateHighQC_spec]; split
  · exact ⟨rfl, rfl⟩
  · split <;> exact ⟨rfl, rfl⟩

theorem step_view_le (E : Env QC TC Blk Hash) (s : VS QC TC Blk) (o : VOp QC TC Blk) :
    s.2.2.1 ≤ (vstep E s o).2.2.1 := by
  cases o with
  | nextView => exact Int.le_add_of_nonneg_right (by decide)
  | enterViewAfter c => exact (enterViewAfter_above ..).2
  | updateHighQC qc => exact Int.le_of_eq (congrArg Prod.fst (updateHighQC_frame ..).2).symm
  | _ => exact Int.le_refl _

theorem step_tc_le (E : Env QC TC Blk Hash) (s : VS QC TC Blk) (o : VOp QC TC Blk) :
    E.tcView s.1 ≤ E.tcView (vstep E s o).1 := by
  cases o with
  | updateHighTC tc => rw [vstep, updateHighTC_spec]; dsimp only; split <;> omega
  | updateHighQC qc => exact Int.le_of_eq (congrArg E.tcView (updateHighQC_frame ..).1).symm
  | _ => exact Int.le_refl _

/-- a QC handed to `UpdateHighQC` names its block's view (what verification guarantees) -/
def Honest (E : Env QC TC Blk Hash) : VOp QC TC Blk → Prop
  | .updateHighQC qc => (E.get (E.qcHash qc)).2 = true → E.qcView qc = E.blkView (E.get (E.qcHash qc)).1
  | _ => True

theorem step_qc_le (E : Env QC TC Blk Hash) (s : VS QC TC Blk) (o : VOp QC TC Blk) (ho : Honest E o) :
    E.qcView s.2.1 ≤ E.qcView (vstep E s o).2.1 := by
  cases o with
  | updateHighQC qc =>
    rw [vstep, updateHighQC_spec]
    split
    · exact Int.le_refl _
    · split
      · exact Int.le_refl _
      · have := ho (by simpa using ‹¬(E.get (E.qcHash qc)).2 = false›)
        dsimp only; omega
  | _ => exact Int.le_refl _

theorem vrun_mono (E : Env QC TC Blk Hash) (m : VS QC TC Blk → Int) (H : VOp QC TC Blk → Prop)
    (hstep : ∀ s o, H o → m s ≤ m (vstep E s o)) (ops : List (VOp QC TC Blk)) (s : VS QC TC Blk)
    (h : ∀ o ∈ ops, H o) : m s ≤ m (vrun E s ops) := by
  induction ops generalizing s with
  | nil => exact Int.le_refl _
  | cons o os ih =>
    exact Int.le_trans (hstep s o (h o (List.mem_cons_self ..)))
      (ih (vstep E s o) fun o' ho' => h o' (List.mem_cons_of_mem _ ho'))

/-- **The current view never decreases**, whatever methods are called in whatever order with whatever
arguments. -/
theorem view_never_decreases (E : Env QC TC Blk Hash) (ops : List (VOp QC TC Blk)) (s : VS QC TC Blk) :
    s.2.2.1 ≤ (vrun E s ops).2.2.1 :=
  vrun_mono E (·.2.2.1) (fun _ => True) (fun s o _ => step_view_le E s o) ops s fun _ _ => trivial

/-- **The view of the high TC never decreases.** -/
theorem hightc_view_never_decreases (E : Env QC TC Blk Hash) (ops : List (VOp QC TC Blk)) (s : VS QC TC Blk) :
    E.tcView s.1 ≤ E.tcView (vrun E s ops).1 :=
  vrun_mono E (E.tcView ·.1) (fun _ => True) (fun s o _ => step_tc_le E s o) ops s fun _ _ => trivial

/-- **The view of the high QC never decreases**, for certificates that name their block's view. -/
theorem highqc_view_never_decreases (E : Env QC TC Blk Hash) (ops : List (VOp QC TC Blk)) (s : VS QC TC Blk)
    (h : ∀ o ∈ ops, Honest E o) : E.qcView s.2.1 ≤ E.qcView (vrun E s ops).2.1 :=
  vrun_mono E (E.qcView ·.2.1) (Honest E) (step_qc_le E) ops s h

/-- Why the side condition: `UpdateHighQC` compares the BLOCK's view with the high QC's view; a
certificate that understates its own view (never accepted by `VerifyQuorumCert`) would lower it. -/
theorem highqc_needs_honest_view :
    let E : Env (Int × Nat) Unit Int Nat := ⟨(·.1), (·.2), fun _ => 0, id, fun h => ((h : Int), true)⟩
    E.qcView (vstep E ((), (5, 5), 1, 0) (.updateHighQC (2, 7))).2.1 = 2 := by decide

theorem committed_changes_only_by_update (E : Env QC TC Blk Hash) (s : VS QC TC Blk) (o : VOp QC TC Blk)
    (h : ∀ b, o ≠ .updateCommittedBlock b) : (vstep E s o).2.2.2 = s.2.2.2 := by
  cases o with
  | updateCommittedBlock b => exact absurd rfl (h b)
  | updateHighQC qc => exact congrArg Prod.snd (updateHighQC_frame ..).2
  | _ => rfl

/-- Non-vacuity: a history that moves all three. -/
example :
    let E : Env (Int × Nat) Int Int Nat := ⟨(·.1), (·.2), id, id, fun h => ((h : Int), true)⟩
    vrun E (0, (0, 0), 1, 0) [.updateHighQC (3, 3), .enterViewAfter 3, .updateHighTC 4, .enterViewAfter 2, .nextView]
      = (4, (3, 3), 5, 0) := by decide

end generic

/-! ## The replica model performs these updates

`Model/Replica.lean: advanceView` inlines the three updates; the right-hand sides below are its
expressions, the left-hand sides the regenerated Go code on the model's certificate and block types. -/
theorem model_updateHighTC (high tc : HsVerif.Model.TC) (q : HsVerif.Model.QC) (v : Int) (b : HsVerif.Model.Block) :
    (ViewStates_UpdateHighTC (fun t : HsVerif.Model.TC => (t.view : Int)) high q v b tc).1.1 = (if tc.view > high.view then tc else high) := by
  rw [updateHighTC_spec]; simp only [gt_iff_lt, Int.ofNat_lt]

theorem model_updateHighQC (get : HsVerif.Model.Hash → HsVerif.Model.Block × Bool) (high q : HsVerif.Model.QC) (t : HsVerif.Model.TC)
    (v : Int) (b nb : HsVerif.Model.Block) (hget : get q.hash = (nb, true)) :
    (ViewStates_UpdateHighQC get (fun x : HsVerif.Model.QC => x.hash) (fun x : HsVerif.Model.Block => (x.view : Int))
        (fun x : HsVerif.Model.QC => (x.view : Int)) t high v b q).1.2.1
      = (if nb.view ≤ high.view then high else q) := by
  have := updateHighQC_spec (⟨fun x : HsVerif.Model.QC => (x.view : Int), (fun x : HsVerif.Model.QC => x.hash),
    fun _ : HsVerif.Model.TC => 0, fun x : HsVerif.Model.Block => (x.view : Int), get⟩) t high v b q
  simp only at this
  rw [this]
  simp only [hget, Int.ofNat_le]
  (repeat' split) <;> simp_all

/-- the model: `if view < s.view then return; newView := view + 1` -/
theorem model_enterViewAfter (t : HsVerif.Model.TC) (q : HsVerif.Model.QC) (b : HsVerif.Model.Block) (cur certified : Nat)
    (h : ¬ certified < cur) :
    (ViewStates_EnterViewAfter t q (cur : Int) b (certified : Int)).2.1 = ((certified + 1 : Nat) : Int) := by
  rw [enterViewAfter_spec]; simp only; split <;> omega

end HsVerif.Props.C07Gen
