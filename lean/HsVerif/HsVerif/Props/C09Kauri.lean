import HsVerif.Proofs.Kauri
/-! C09, tree aggregation — a node of the Kauri aggregation tree forms a quorum certificate only
from a quorum of distinct valid votes for the block, and everything it emits verifies.
(Lemmas: Proofs/Kauri.lean; model: Model/Kauri.lean.)

The theorems hold for EVERY sequence of operations of one node (`begin` = own vote for the block
of a view, `contribution` = a `kauripb.Contribution` from anybody, carrying anything, with any
answer of the block store, `timerExpired` = the wait timer of any view, fired at any moment and any
number of times), for all n, all trees, all three signature schemes.  The only hypothesis is the
one of the property itself: the node's own votes verify (`OwnOK`: what `CreatePartialCert` returns).

The model contains two repairs (the code before them is `kStepOrig`, see the counterexamples):
* `fix: Kauri sends nothing to the parent when it holds no aggregate` — `onWaitTimerExpired` handed
  `k.aggContrib` to `SendContributionToParent` also when it was nil (a second timer event of the
  same view, or a timer after a flush): `orig_nil_aggregate_counterexample`;
* `fix: Kauri checks the quorum also for the first contribution after a reset` —
  `mergeContribution` returned before the quorum test when nothing was held, so a contribution that
  carries a quorum by itself produced no certificate: `orig_missed_qc_counterexample`.

Completeness has limits that are part of Kauri's design and are stated, not hidden:
a contribution for a view the node has not begun yet is dropped (`early_contribution_dropped_counterexample`);
the wait timer flushes the aggregate, own vote included, and later contributions start a new one
(`timer_flush_restarts`); `IsSubSet(tree.SubTree(), senders)` compares ALL replicas below the node
with the ids of the DIRECT senders, so a node with grandchildren never sends early and always
waits for its timer (`subtree_complete_sent_once` needs every sub-tree replica among the senders). -/
namespace HsVerif.Props.C09Kauri
open HsVerif.Model

/-- **Combining two verifying signatures with disjoint signers verifies** (ECDSA, EdDSA, BLS): the
combination exists, verifies for the same message, and its participants are exactly those of the
two parts.  (`WF`: the cached bit-field length equals its cardinality — true of every decoded or
created signature.) -/
theorem combine_disjoint_verifies (T : Truth) (c : Cfg) (m : Msg) (a b : Sig)
    (ha : verify T c a m = true) (hb : verify T c b m = true) (hwa : a.WF) (hwb : b.WF)
    (hd : ∀ i ∈ a.participants, i ∉ b.participants) :
    ∃ s, combine c [a, b] = .ok s ∧ verify T c s m = true ∧ s.WF ∧
      s.participants.Perm (a.participants ++ b.participants) ∧ s.len = a.len + b.len :=
  combine_two_verifies T c m a b ha hb hwa hwb hd

/-- **(a) Invariant.**  After any sequence of operations in which the own votes verify, the held
aggregate verifies for the bytes of the node's block, and its participants are pairwise distinct
(and as many as `Participants().Len()` says). -/
theorem held_aggregate_verifies (T : Truth) (c : KCfg) (ops : List KOp)
    (hown : ∀ op ∈ ops, OwnOK T c op) :
    ∀ sg, (kRun T c {} ops).1.aggContrib = some sg →
      verify T c.cfg sg (blkMsg (kRun T c {} ops).1.blockHash) = true ∧
      sg.participants.Nodup ∧ sg.participants.length = sg.len := by
  intro sg h
  have hk := run_inv T c ops {} (kinv_init T c) hown sg h
  exact ⟨hk.1, sigOK_nodup T c _ sg hk⟩

/-- **(b) Everything emitted verifies.**  Take any sequence of operations and one more operation
(own votes verify).  Whatever that operation sends to the parent is a signature (never nil) that
verifies for the bytes of the node's block, under the node's view, with pairwise distinct
participants. -/
theorem sent_aggregate_verifies (T : Truth) (c : KCfg) (ops : List KOp) (op : KOp)
    (hown : ∀ o ∈ ops ++ [op], OwnOK T c o) :
    let s := (kRun T c {} ops).1
    ∀ v sg, KEffect.sendToParent v sg ∈ (kStep T c s op).2 →
      v = (kStep T c s op).1.currentView ∧
      ∃ a, sg = some a ∧ verify T c.cfg a (blkMsg (kStep T c s op).1.blockHash) = true ∧ a.participants.Nodup := by
  intro s v sg he
  have hinv := run_inv T c ops {} (kinv_init T c) (fun o ho => hown o (by simp [ho]))
  obtain ⟨h1, a, h2, h3⟩ := (step_ok T c s op hinv (hown op (by simp))).2 _ he
  exact ⟨h1, a, h2, h3.1, (sigOK_nodup T c _ a h3).1⟩

/-- **(b) A certificate only from a quorum.**  Every QC the operation emits is for the node's view
and block, verifies for the block's bytes, and has at least `QuorumSize()` participants, pairwise
distinct. -/
theorem qc_verifies_and_has_quorum (T : Truth) (c : KCfg) (ops : List KOp) (op : KOp)
    (hown : ∀ o ∈ ops ++ [op], OwnOK T c o) :
    let s := (kRun T c {} ops).1
    ∀ a v h, KEffect.newViewQC a v h ∈ (kStep T c s op).2 →
      v = (kStep T c s op).1.currentView ∧ h = (kStep T c s op).1.blockHash ∧
      verify T c.cfg a (blkMsg h) = true ∧ a.participants.Nodup ∧ c.cfg.quorum ≤ a.participants.length := by
  intro s a v h he
  have hinv := run_inv T c ops {} (kinv_init T c) (fun o ho => hown o (by simp [ho]))
  obtain ⟨h1, h2, h3, h4⟩ := (step_ok T c s op hinv (hown op (by simp))).2 _ he
  have := sigOK_nodup T c _ a h3
  exact ⟨h1, h2, h3.1, this.1, by rw [this.2]; exact h4⟩

/-- **(c) Hostile contributions change nothing.**  In any state: a contribution for another view,
one arriving while the block is not in the store, one without signature, one that does not verify
for the block's bytes (forged, wrong block, unknown or repeated signer, wrong scheme), or one that
shares a participant with the held aggregate (duplicate, overlapping multi-signer) leaves the
state exactly as it was and emits nothing. -/
theorem rejected_contribution_changes_nothing (T : Truth) (c : KCfg) (s : KState) (v id : Nat)
    (sg : Option Sig) (known : Bool)
    (h : v ≠ s.currentView ∨ known = false ∨ sg = none ∨
      (∃ g, sg = some g ∧ verify T c.cfg g.fromWire (blkMsg s.blockHash) = false) ∨
      (∃ g agg i, sg = some g ∧ s.aggContrib = some agg ∧ i ∈ g.participants ∧ i ∈ agg.participants)) :
    kStep T c s (.contribution v id sg known) = (s, []) := by
  simp only [kStep, onContribution]
  by_cases hv : s.currentView = v
  · have hm : mergeContribution T c s known (sg.map Sig.fromWire) = none := by
      rcases h with h | h | h | ⟨g, hg, hf⟩ | ⟨g, agg, i, hg, hagg, hi, hia⟩
      · exact absurd hv.symm h
      · subst h; unfold mergeContribution; simp
      · subst h; exact merge_none T c s known
      · subst hg; unfold mergeContribution; cases known <;> simp [hf]
      · subst hg
        unfold mergeContribution
        cases known with
        | false => simp
        | true =>
          cases hver : verify T c.cfg g.fromWire (blkMsg s.blockHash) with
          | false => simp [hver]
          | true =>
            have hok : SigOK T c s.blockHash g.fromWire := ⟨hver, fromWire_WF g⟩
            have h1 := sigOK_ge_one T c _ _ hok
            have hcm : canMerge g.fromWire agg = false := Bool.eq_false_iff.mpr fun hcm =>
              (fromWire_participants g ▸ (canMerge_iff _ agg h1).mp hcm) i hi hia
            simp [hver, hagg, hcm]
    simp [hv, hm]
  · simp [hv]

/-- **(d) Completeness for a covered sub-tree.**  A node with children begins a view with a
verifying own vote (from any state); then contributions arrive whose sender ids are the sub-tree
replicas in ANY order, each verifying for the block, pairwise disjoint and disjoint from the own
vote, the block being in the store.  Then all of them are merged (the held aggregate verifies and
its participants are exactly the own ones and all the contributed ones), and the aggregate is sent
to the parent exactly once — the complete one, at the last contribution. -/
theorem subtree_complete_sent_once (T : Truth) (c : KCfg) (s0 : KState) (v : Nat) (h : Hash) (own : Sig)
    (cs : List (Nat × Sig)) (hch : c.children ≠ []) (hcs : cs ≠ [])
    (hown : verify T c.cfg own (blkMsg h) = true ∧ own.WF)
    (hids : (cs.map (·.1)).Perm c.subtree) (hnd : c.subtree.Nodup)
    (hvalid : ∀ p ∈ cs, verify T c.cfg p.2.fromWire (blkMsg h) = true)
    (hdisj : (own.participants :: cs.map (·.2.participants)).Pairwise (fun a b => ∀ i ∈ a, i ∉ b)) :
    ∃ agg,
      (kRun T c s0 (.begin v h own :: cs.map (contribOp v))).1.aggContrib = some agg ∧
      verify T c.cfg agg (blkMsg h) = true ∧
      agg.participants.Perm (own.participants ++ cs.flatMap (·.2.participants)) ∧
      (kRun T c s0 (.begin v h own :: cs.map (contribOp v))).1.aggSent = true ∧
      (kRun T c s0 (.begin v h own :: cs.map (contribOp v))).1.senders = cs.map (·.1) ∧
      (kRun T c s0 (.begin v h own :: cs.map (contribOp v))).2.filter KEffect.isSend =
        [.sendToParent v (some agg)] := by
  have hrun := nodeOps_run_inner T c s0 v h own cs hch
  rw [nodeOps] at hrun
  have I := contribs_run T c v h cs
    { s0.reset with blockHash := h, currentView := v, aggContrib := some own } own rfl rfl rfl hown hvalid hdisj
  obtain ⟨h10, h11⟩ := I.sent hcs (hids.nodup_iff.mpr hnd) (fun x => hids.mem_iff.symm)
  rw [hrun]
  exact ⟨_, I.held, I.ok.1, I.perm, h10, I.senders, by rw [List.filter_cons]; exact h11⟩

/-! ### The code before the fixes, and the limits of completeness -/

/-- BLS example: n = 4 (quorum 3), node 1 with children 2, 3 and sub-tree 2, 3, 4 -/
def exCfg : KCfg := { cfg := ⟨4, .bls12⟩, id := 1, children := [2, 3], subtree := [2, 3, 4] }
def exT : Truth := fun _ => none
def exVote (i : Nat) : Sig := blsSign i (blkMsg "B")
def exAgg (l : List Nat) : Sig :=
  .bls (l.map fun i => ⟨i, blkMsg "B"⟩) [] (l.foldl Bitfield.add Bitfield.empty)

/- Full statement (false of the code before the fix, true of the repaired model by
`sent_aggregate_verifies`): whatever is sent to the parent is a signature that verifies.
Before the fix the second timer event of a view sent a nil aggregate: -/
theorem orig_nil_aggregate_counterexample :
    (kStepOrig exT exCfg
        (kStepOrig exT exCfg (kBegin exCfg {} 1 "B" (exVote 1)).1 (.timerExpired 1)).1 (.timerExpired 1)).2
      = [.sendToParent 1 none] := by decide

/- Full statement (false of the code before the fix): a verifying contribution that is merged and
brings the held aggregate to the quorum produces a QC.  Before the fix the first contribution after
a timer flush was stored without the quorum test; the repaired step emits the certificate: -/
theorem orig_missed_qc_counterexample :
    let s1 := (kBegin exCfg {} 1 "B" (exVote 1)).1
    let s2 := (kStepOrig exT exCfg s1 (.timerExpired 1)).1
    verify exT exCfg.cfg (exAgg [2, 3, 4]) (blkMsg "B") = true ∧ exCfg.cfg.quorum ≤ (exAgg [2, 3, 4]).len ∧
    (kStepOrig exT exCfg s2 (.contribution 1 2 (some (exAgg [2, 3, 4])) true)).2 = [] ∧
    (kStep exT exCfg s2 (.contribution 1 2 (some (exAgg [2, 3, 4])) true)).2 =
      [.newViewQC (exAgg [2, 3, 4]).fromWire 1 "B"] := by decide

/- Full completeness ("valid votes of a quorum of distinct replicas have arrived ⇒ certificate")
is false of Kauri by design: a contribution that arrives before the node has begun its view is
dropped, not kept.  Here the votes of 2, 3 and 4 arrive first; after `begin` only the own vote is
held and no certificate was formed (the conditional statement is `subtree_complete_sent_once`). -/
theorem early_contribution_dropped_counterexample :
    (kRun exT exCfg {} [.contribution 1 2 (some (exAgg [2, 4])) true, .contribution 1 3 (some (exVote 3)) true,
        .begin 1 "B" (exVote 1)]) =
      ({ aggContrib := some (exVote 1), aggSent := false, blockHash := "B", currentView := 1, senders := [] },
       [.sendProposalToChildren]) := by decide

/-- The wait timer flushes: what is held (own vote included) goes to the parent once, and the node
restarts with nothing held, in the same view. -/
theorem timer_flush_restarts (s : KState) (a : Sig) (h1 : s.aggSent = false) (h2 : s.aggContrib = some a) :
    onTimer s s.currentView =
      ({ s with aggContrib := none, senders := [], aggSent := false }, [.sendToParent s.currentView (some a)]) := by
  simp [onTimer, h1, h2, KState.reset]

/-! ### Non-vacuity: the hypotheses are satisfiable and the interesting branches are reached -/

/-- all three children's contributions arrive (in the order 3, 2): certificate at the quorum, one
aggregate to the parent at the end -/
example : (kRun exT exCfg {} [.begin 1 "B" (exVote 1), .contribution 1 3 (some (exVote 3)) true,
      .contribution 1 4 (some (exVote 4)) true, .contribution 1 2 (some (exVote 2)) true]).2 =
    [.sendProposalToChildren,
     .newViewQC (exAgg [4, 3, 1]) 1 "B",
     .newViewQC (exAgg [2, 4, 3, 1]) 1 "B",
     .sendToParent 1 (some (exAgg [2, 4, 3, 1]))] := by decide

example : OwnOK exT exCfg (.begin 1 "B" (exVote 1)) := by
  show verify exT exCfg.cfg (exVote 1) (blkMsg "B") = true ∧ (exVote 1).WF
  exact ⟨by decide, by show (Bitfield.empty.add 1).len = (Bitfield.empty.add 1).ids.length; decide⟩

/-- a duplicate, a vote for another block and a stale-view vote change nothing -/
example : (kRun exT exCfg {} [.begin 1 "B" (exVote 1), .contribution 1 3 (some (exVote 3)) true,
      .contribution 1 3 (some (exVote 3)) true, .contribution 1 2 (some (blsSign 2 (blkMsg "X"))) true,
      .contribution 0 2 (some (exVote 2)) true, .contribution 1 2 (some (exVote 2)) false]).1 =
    (kRun exT exCfg {} [.begin 1 "B" (exVote 1), .contribution 1 3 (some (exVote 3)) true]).1 := by decide

end HsVerif.Props.C09Kauri
