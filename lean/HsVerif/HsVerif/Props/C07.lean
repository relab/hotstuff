import HsVerif.Props.C03
/-! C07 — views and certified state only move forward, and only on evidence.  What one step does to the invariants
`InvA` and `HQ` is read off the trace of Proofs/ReplicaEvidence.lean (`EUpd.ia`, `EUpd.hq`).

Proved here for the replica model and EVERY sequence of delivered events: the view starts at 1,
changes only upwards, from `v` to `cert + 1` for a certificate of view `cert ≥ v` that passed the
replica's verifier (`EnterViewAfter(cert)`: the replica enters the view AFTER THE CERTIFICATE, which may
be many views ahead of `v + 1` when the replica had fallen behind); each change is recorded
(`GRec.adv v cert timeout`, appended in the same `modify` that sets the view, immediately followed by
`AddEvent(ViewChangeEvent{cert+1})`); by C02 such a
certificate carries a quorum of distinct genuine signatures (over a block of that view, or over
timeouts for that view).

Also proved (end of file): the view of the high QC never decreases.  That the view of the committed block never
decreases is Props/C07Commit.lean; the high TC and the signalling of view changes are Props/C07Signal.lean.
-/
namespace HsVerif.Props.C07
open HsVerif.Model HsVerif.Props.C03

theorem reachable_ia (k : Keys) (c : RCfg) (es : List Ev) :
    InvA k c (AP (runEvents k c (start k c {}).1 es)) :=
  runEvents_keeps (I := fun s => InvA k c (AP s))
    (fun s e => step_ev k c (P := fun s => InvA k c (AP s)) s e (EUpd.ia k c) fun _ h => h) es _
    (start_ev k c (P := fun s => InvA k c (AP s)) {} (EUpd.ia k c) (fun _ h => h) (InvA_init k c))

def advances (g : List GRec) : List GRec := g.filter GRec.isAdv

/-- **The view changes only from `v` to `cert + 1` with `cert ≥ v`, and every change is recorded**
(not by one, whatever the name says: `EnterViewAfter` enters the view after the certificate's, which may
be many views ahead).  After any event sequence the advancement records form a
chain from view 1 to the current view: the views that were left, followed by the current view, are
exactly view 1 followed by the views that were entered (certified view + 1); every record left a view at
most its certified view, so each step of the chain goes strictly up. -/
theorem view_advances_by_one (k : Keys) (c : RCfg) (es : List Ev) :
    let s := runEvents k c (start k c {}).1 es
    1 ≤ s.view ∧
    (advances s.ghost).map GRec.advFrom ++ [s.view] = 1 :: (advances s.ghost).map GRec.advTo ∧
    ∀ r ∈ advances s.ghost, r.advFrom < r.advTo := by
  obtain ⟨h1, h2, h3⟩ := reachable_ia k c es
  refine ⟨h1, h2, ?_⟩
  intro r hr
  have hadv : r.isAdv = true := (List.mem_filter.mp hr).2
  cases r with
  | adv f cv t =>
    have := (h3 f cv t hr).1
    simp only [GRec.advFrom, GRec.advTo]; omega
  | _ => simp [GRec.isAdv] at hadv

/-- **The view never decreases and leaves `v` only for the view after a certificate of a view `≥ v`**,
read off the chain: the last advancement record, if any, entered the current view. -/
theorem current_view_is_last_entered (k : Keys) (c : RCfg) (es : List Ev) :
    let s := runEvents k c (start k c {}).1 es
    s.view = ((advances s.ghost).map GRec.advTo).getLast?.getD 1 := by
  intro s
  have h2 := (view_advances_by_one k c es).2.1
  have := congrArg List.getLast? h2
  rw [List.getLast?_append] at this
  simp only [List.getLast?_singleton, Option.some_or] at this
  rw [List.getLast?_cons] at this
  simp only [Option.some.injEq] at this
  exact this

/-- **Only on evidence**: every time the replica left a view `v` it held a certificate (QC, TC or
aggregate QC) for a view `cert ≥ v` that its verifier accepted. -/
theorem advance_on_evidence (k : Keys) (c : RCfg) (es : List Ev) (v cert : Nat) (t : Bool)
    (h : GRec.adv v cert t ∈ (runEvents k c (start k c {}).1 es).ghost) :
    v ≤ cert ∧ Evidence k c cert := by
  obtain ⟨_, _, h3⟩ := reachable_ia k c es
  exact h3 v cert t (List.mem_filter.mpr ⟨h, rfl⟩)

/-- The evidence is real (C02): a verified QC of view `cert` means a quorum of distinct configured
replicas signed a block stored with view `cert`; a verified TC means a quorum signed timeouts for
view `cert`; a verified aggregate QC means a quorum each signed its own timeout message for view
`cert`. -/
theorem evidence_is_quorum (k : Keys) (c : RCfg) (cert : Nat) (h : Evidence k c cert)
    (hs : ∀ s0, C02.StoreOK (env k c s0)) (hw : ∀ sg : Sig, sg.WF) (hk : ∀ a : AggQC, (a.qcs.map (·.1)).Nodup) :
    ∃ s0 : RState,
      (∃ q : QC, q.view = cert ∧ ((q.hash = genesisHash ∧ q.view = 0) ∨
          ∃ b sg, (env k c s0).get q.hash = some b ∧ b.view = q.view ∧ C02.QuorumSigned (env k c s0) sg (blkMsg q.hash))) ∨
      (∃ t : TC, t.view = cert ∧ (t.view = 0 ∨ ∃ sg, C02.QuorumSigned (env k c s0) sg (viewMsg t.view))) ∨
      (∃ (a : AggQC) (sg : Sig) (S : List Nat), a.view = cert ∧ S.Nodup ∧ c.cfg.quorum ≤ S.length ∧
          ∀ i ∈ S, c.cfg.has i = true ∧ ∃ m, (i, m) ∈ aggMessages k a ∧ SigHas (env k c s0).T sg ⟨i, m⟩) := by
  obtain ⟨s0, h⟩ := h
  refine ⟨s0, ?_⟩
  rcases h with ⟨q, hv, rfl⟩ | ⟨t, hv, rfl⟩ | ⟨a, sg, hsig, hq, hb, rfl⟩
  · left
    refine ⟨q, rfl, ?_⟩
    rcases C02.verifyQC_sound (env k c s0) q (hs s0) (fun s _ => hw s) hv with h | ⟨b, sg, h1, _, h3, _, h5⟩
    · exact Or.inl h
    · exact Or.inr ⟨b, sg, h1, h3, h5⟩
  · right; left
    refine ⟨t, rfl, ?_⟩
    rcases C02.verifyTC_sound (env k c s0) t (fun s _ => hw s) hv with h | ⟨sg, _, h2⟩
    · exact Or.inl h
    · exact Or.inr ⟨sg, h2⟩
  · right; right
    have hk' : ((aggMessages k a).map (·.1)).Nodup := by
      simpa [aggMessages, List.map_map, Function.comp_def] using hk a
    obtain ⟨S, hn, hl, hall⟩ := batchVerify_sound (env k c s0).T c.cfg sg (aggMessages k a) hk' hb (hw sg)
    exact ⟨a, sg, S, rfl, hn, by rw [hl]; exact hq, hall⟩

/-- **The view of the high QC never decreases.**  From any state in which the genesis block is
stored (every reachable state: block maps only grow), delivering any event — a message of any
content from any sender, or a local timeout — leaves the high QC's view at least where it was,
and genesis stored. -/
theorem highqc_view_monotone (k : Keys) (c : RCfg) (s : RState) (e : Ev) (hg : Grows G0 s) :
    s.highQC.view ≤ (step k c s e).1.highQC.view ∧ Grows G0 (step k c s e).1 :=
  step_ev k c (P := HQ s.highQC.view) s e (EUpd.hq _) (fun _ h => h) ⟨Nat.le_refl _, hg⟩

theorem highqc_view_monotone_run (k : Keys) (c : RCfg) (es : List Ev) (s : RState) (hg : Grows G0 s) :
    s.highQC.view ≤ (es.foldl (fun s e => (step k c s e).1) s).highQC.view :=
  (runEvents_keeps (I := HQ s.highQC.view) (fun s' e h => step_ev k c s' e (EUpd.hq _) (fun _ h => h) h)
    es s ⟨Nat.le_refl _, hg⟩).1

theorem initial_stores_genesis : Grows G0 ({} : RState) := G0_init

end HsVerif.Props.C07
