import HsVerif.Proofs.ReplicaView
import HsVerif.Proofs.ReplicaFrames
import HsVerif.Props.C07
/-! C10 — no message from a peer can crash a replica or disturb its state.  Property theorems only.

In the replica model a Go panic is the effect `Out.panic`; the only
operation that can panic is `VerifyAggregateQC` on an aggregate QC without signature (an
existing repository test demands that panic) and every call site guards it.  Decoding
(`*FromProto`) is total in the model (Model/Wire.lean); messages with absent fields are covered by the
correspondence. -/
namespace HsVerif.Props.C10
open HsVerif.Model HsVerif.Props.C03

/-- **No handler panics**: whatever is delivered (any proposal, vote, timeout, new-view with any
combination of absent / forged / inconsistent certificates and signatures, or a local timeout), in
any state, the effects of processing it to quiescence contain no panic. -/
theorem no_panic (k : Keys) (c : RCfg) (s : RState) (e : Ev) : ∀ o ∈ (step k c s e).2, o ≠ Out.panic :=
  (runLoop_steps k c 100000 { s with out := [], queue := s.queue ++ [e] }).np (hn := by intro o ho; simp at ho)

theorem no_panic_start (k : Keys) (c : RCfg) (s : RState) : ∀ o ∈ (start k c s).2, o ≠ Out.panic := by
  obtain ⟨s1, h1, he⟩ := start_steps k c s
  rw [he]
  exact h1.np (hn := by intro o ho; simp at ho)

/-- **State moves only on verified input**: the protocol state is only changed together with a
history record, and every record carries verified evidence — a signed vote only for a proposal
whose QC verified (C03 `vote_wellformed`), a view change only on a verified certificate (C07
`advance_on_evidence`).  Input in which nothing verifies therefore signs nothing and moves no view. -/
theorem state_moves_on_evidence (k : Keys) (c : RCfg) (es : List Ev) :
    let s := runEvents k c (start k c {}).1 es
    (∀ b id, GRec.vote b id ∈ s.ghost → ∃ s0, verifyQC (env k c s0) b.qc = true) ∧
    (∀ v cert t, GRec.adv v cert t ∈ s.ghost → Evidence k c cert) := by
  refine ⟨?_, ?_⟩
  · intro b id h
    exact (vote_wellformed k c es b id h).2.2.2
  · intro v cert t h
    exact (C07.advance_on_evidence k c es v cert t h).2

end HsVerif.Props.C10
