import HsVerif.Proofs.CmdCache
import HsVerif.Proofs.CmdCacheIdeal
/-!
C15 — command batching is FIFO, full-sized and duplicate-free.

Vocabulary (see `Model/CmdCache.lean`): `run (Cache.new bs) {} ops` executes an arbitrary list of
operations — `add`, `proposed`, `get` (live context), `getc` (cancelled context, either choice of
the `select`), `body` (the locked part of `Get` alone, as a concurrent getter executes it) — on a
fresh cache with batch size `bs` and returns the final cache, the observable history
(`added`, `marked`, `handed`: the arguments of all `Add` calls, of all `Proposed` calls and the
contents of all returned batches, in call order) and the list of results.

`pending h` is computed from the history only: everything added, minus what is at or below a
sequence number marked for its client (or 0), minus what was handed out, in arrival order.

The hypothesis `h.added.Nodup` says that every `Add` call carries its own identity (the drivers
number the calls in the payload); it is what "handed out at most once" is about.  The same
`(client, sequence number)` submitted twice before it is marked is two accepted commands.
-/
set_option linter.unusedVariables false
namespace HsVerif.Props.C15
open HsVerif.Model.CmdCache HsVerif.Spec.BatchQueue

/-! ## One caller at a time, every operation list, every batch size -/

/-- Full batches only (any batch size, also 0; no hypothesis). -/
theorem batches_full (bs : Nat) (ops : List Op) (b : List Cmd)
    (hb : Ret.batch b ∈ (run (Cache.new bs) {} ops).2.2) : b.length = bs :=
  run_batch_length ops (Cache.new bs) {} hb

/-- THE property for a request: after any operations `pre`, a `Get` returns exactly the `bs`
oldest pending commands if there are that many, and otherwise blocks (live context) / ends with
the context's error (cancelled context); the locked body alone behaves the same.  In particular a
request returns a batch **iff** enough fresh commands are present. -/
theorem get_spec (bs : Nat) (h1 : 1 ≤ bs) (pre : List Op)
    (hn : (run (Cache.new bs) {} pre).2.1.added.Nodup) :
    let s := (run (Cache.new bs) {} pre).1
    let P := pending (run (Cache.new bs) {} pre).2.1
    (seqStep s .get).2 = (if bs ≤ P.length then .batch (P.take bs) else .blocked) ∧
    (seqStep s (.getc true)).2 = (if bs ≤ P.length then .batch (P.take bs) else .cancelled) ∧
    (seqStep s (.getc false)).2 = .cancelled ∧
    (seqStep s .body).2 = (if bs ≤ P.length then .batch (P.take bs) else .again) := by
  have i := run_invS pre bs hn
  have := getter_ret (run_readyInv pre bs h1)
  rwa [freshCount, i.hpend, i.hbs] at this

/-- Whatever operation returns a batch, at whatever position of a run (also with batch size 0,
also the bare locked body in any state of the token): the batch is the `bs` oldest pending
commands. -/
theorem batch_is_oldest_pending (bs : Nat) (pre : List Op) (op : Op) (b : List Cmd)
    (hn : (run (Cache.new bs) {} pre).2.1.added.Nodup)
    (hb : (seqStep (run (Cache.new bs) {} pre).1 op).2 = .batch b) :
    bs ≤ (pending (run (Cache.new bs) {} pre).2.1).length ∧
    b = (pending (run (Cache.new bs) {} pre).2.1).take bs := by
  have i := run_invS pre bs hn
  have := seqStep_batch _ op b hb
  rwa [freshCount, i.hpend, i.hbs] at this

/-- Hand-outs follow arrival order across the whole run and nothing is handed out twice: the
concatenation of all returned batches is a subsequence of the sequence of `Add` calls. -/
theorem handed_in_arrival_order_once (bs : Nat) (h1 : 1 ≤ bs) (ops : List Op)
    (hn : (run (Cache.new bs) {} ops).2.1.added.Nodup) :
    batchesOf (run (Cache.new bs) {} ops).2.2 = (run (Cache.new bs) {} ops).2.1.handed ∧
    (run (Cache.new bs) {} ops).2.1.handed.Sublist (run (Cache.new bs) {} ops).2.1.added ∧
    (run (Cache.new bs) {} ops).2.1.handed.Nodup := by
  have hs := (run_invS ops bs hn).handed_sublist
  exact ⟨(run_handed ops (Cache.new bs) {}).symm, hs, hn.sublist hs⟩

/-- Nothing at or below a marked sequence number is ever handed out (no hypothesis on identities,
any batch size): every command of a batch returned after `pre` is above every sequence number
that any earlier `Proposed` call carried for its client, and above 0. -/
theorem never_stale (bs : Nat) (pre : List Op) (op : Op) (b : List Cmd)
    (hb : (seqStep (run (Cache.new bs) {} pre).1 op).2 = .batch b) :
    ∀ c ∈ b, 0 < c.seq ∧ ∀ p ∈ (run (Cache.new bs) {} pre).2.1.marked, p.client = c.client → p.seq < c.seq := by
  intro c hc
  rw [(seqStep_batch _ op b hb).2] at hc
  have hf := (List.mem_filter.mp ((List.take_sublist ..).subset hc)).2
  rw [run_marksInv pre bs c] at hf
  simp only [freshH, Bool.and_eq_true, decide_eq_true_eq, List.all_eq_true] at hf
  refine ⟨hf.1, fun p hp hpc => ?_⟩
  have := hf.2 p hp
  simpa [hpc] using this

/-- No fresh command is lost while it waits: a command that was added, is above all marks for
its client and has not been handed out is still in the cache. -/
theorem fresh_not_lost (bs : Nat) (h1 : 1 ≤ bs) (ops : List Op)
    (hn : (run (Cache.new bs) {} ops).2.1.added.Nodup) (c : Cmd)
    (hadd : c ∈ (run (Cache.new bs) {} ops).2.1.added)
    (hfresh : freshH (run (Cache.new bs) {} ops).2.1.marked c = true)
    (hnot : c ∉ (run (Cache.new bs) {} ops).2.1.handed) :
    c ∈ (run (Cache.new bs) {} ops).1.cache := by
  have : c ∈ pending (run (Cache.new bs) {} ops).2.1 := by
    simp [pending, hadd, hfresh, hnot]
  rw [← (run_invS ops bs hn).hpend] at this
  exact (List.filter_sublist).subset this

/-- A command leaves the set of pending commands only inside a returned batch or by being marked:
the cache's fresh content always equals the history's pending list. -/
theorem cache_fresh_eq_pending (bs : Nat) (h1 : 1 ≤ bs) (ops : List Op)
    (hn : (run (Cache.new bs) {} ops).2.1.added.Nodup) :
    freshOf (run (Cache.new bs) {} ops).1.marks (run (Cache.new bs) {} ops).1.cache =
      pending (run (Cache.new bs) {} ops).2.1 :=
  (run_invS ops bs hn).hpend

/-- Refinement: on every operation list the cache answers exactly like the ideal batching queue
of `Spec/BatchQueue.lean` (which has no token, no stale entries, no prefix cut). -/
theorem seq_refines_ideal (bs : Nat) (h1 : 1 ≤ bs) (ops : List Op) :
    (run (Cache.new bs) {} ops).2.2 = runIdeal bs {} ops :=
  run_refines bs ops _ _ _ (Ref.init bs h1)

/-! ## Several concurrent getters, adversarial scheduler -/

/-- `no_lost_wakeup`: in every reachable state of the concurrent system (any interleaving of
`Add`, `Proposed`, new `Get` calls, cancellations, and the three atomic steps of each `Get`):
if at least `bs` fresh commands are cached then the token is in the `ready` channel or some getter
has taken it and has not yet run its locked body. -/
theorem no_lost_wakeup (bs : Nat) (h1 : 1 ≤ bs) (st : Sys) (r : Reach bs st)
    (hf : bs ≤ freshCount st.c) :
    st.c.ready = true ∨ ∃ (j : Nat) (g : Getter), st.gs[j]? = some g ∧ g.pc = PC.woken :=
  (r.inv h1).hwake hf

/-- … hence a getter blocked in the `select` while a full fresh batch exists is never stuck: it
can receive the token right now, or a getter that holds the token is enabled and its locked body
returns a full batch (which re-signals if yet another full batch remains, by the same invariant). -/
theorem blocked_getter_enabled (bs : Nat) (h1 : 1 ≤ bs) (st : Sys) (r : Reach bs st)
    (hf : bs ≤ freshCount st.c) (i : Nat) (g : Getter) (hg : st.gs[i]? = some g) (hp : g.pc = .sel) :
    (∃ st', st.step (.recv i) = some st') ∨
    (∃ (j : Nat) (gj : Getter) (st' : Sys) (b : List Cmd), st.gs[j]? = some gj ∧ gj.pc = PC.woken ∧
        st.step (.body j) = some st' ∧ st'.gs[j]? = some { gj with pc := .retBatch b } ∧ b.length = bs) := by
  have inv := r.inv h1
  rcases inv.hwake hf with hr | ⟨j, gj, hj, hpj⟩
  · left
    exact ⟨{ c := { st.c with ready := false }, gs := setPC st.gs i g .woken }, by simp [Sys.step, hg, hp, hr]⟩
  · right
    have hle : st.c.bs ≤ freshCount st.c := by rw [inv.hbs]; exact hf
    refine ⟨j, gj, _, _, hj, hpj, by simp only [Sys.step, hj, hpj, ↓reduceIte]; rw [getLocked_batch hle],
      List.getElem?_set_self (List.getElem?_eq_some_iff.mp hj).1, ?_⟩
    rw [List.length_take, inv.hbs]; exact Nat.min_eq_left hf

/-- `get_ends_only_by_batch_or_cancel`: a call of `Get` that has not returned yet returns only
(a) the context error, through the `ctx.Done()` case, and then its context has been cancelled, or
(b) a batch produced by its own locked body; a call that has returned never moves again. -/
theorem get_ends_only_by_batch_or_cancel (st st' : Sys) (l : Label) (hs : st.step l = some st')
    (i : Nat) (g g' : Getter) (hg : st.gs[i]? = some g) (hg' : st'.gs[i]? = some g') :
    (g.pc.terminal = true → g'.pc = g.pc) ∧
    (g.pc.terminal = false → g'.pc = .retCancelled → l = .ctxDone i ∧ g.cancelled = true) ∧
    (g.pc.terminal = false → ∀ b, g'.pc = .retBatch b → l = .body i ∧ (getLocked st.c).1 = .batch b) := by
  have hlt := (List.getElem?_eq_some_iff.mp hg).1
  -- a getter whose program counter stays is no concern; it moves only by a step of its own
  by_cases hpc : g'.pc = g.pc
  · exact ⟨fun _ => hpc, fun h1 h2 => (by rw [← hpc, h2] at h1; cases h1),
      fun h1 b h2 => (by rw [← hpc, h2] at h1; cases h1)⟩
  cases Sys.step_spec hs with
  | add c => cases hg.symm.trans hg'; exact absurd rfl hpc
  | proposed b => cases hg.symm.trans hg'; exact absurd rfl hpc
  | spawn => rw [List.getElem?_append_left hlt] at hg'; cases hg.symm.trans hg'; exact absurd rfl hpc
  | @getter k g0 _ c' g0' hg0 hk =>
    by_cases hki : k = i
    · subst hki
      cases hg0.symm.trans hg
      cases (List.getElem?_set_self hlt).symm.trans hg'
      cases hk with
      | cancel => exact absurd rfl hpc
      | recv hp => exact ⟨fun h => (by rw [hp] at h; cases h), nofun, nofun⟩
      | ctxDone hp hc => exact ⟨fun h => (by rw [hp] at h; cases h), fun _ _ => ⟨rfl, hc⟩, nofun⟩
      | batch hp hle => exact ⟨fun h => (by rw [hp] at h; cases h), nofun, fun _ b hb => ⟨rfl, by cases hb; rw [getLocked_batch hle]⟩⟩
      | again hp => exact ⟨fun h => (by rw [hp] at h; cases h), nofun, nofun⟩
    · rw [List.getElem?_set_ne hki] at hg'; cases hg.symm.trans hg'; exact absurd rfl hpc

/-- … and in every reachable state every returned call holds either the context error with a
cancelled context, or a batch of exactly `bs` commands. -/
theorem returned_calls (bs : Nat) (h1 : 1 ≤ bs) (st : Sys) (r : Reach bs st) (g : Getter) (hg : g ∈ st.gs) :
    (g.pc = .retCancelled → g.cancelled = true) ∧ (∀ b, g.pc = .retBatch b → b.length = bs) :=
  (r.inv h1).hret g hg

/-- Every concurrent execution is a run of the atomic operations `add`, `proposed`, `body` in
some order: the cache content of every reachable state and every batch any getter has returned
come from such a run — so all the theorems above about runs (full batches, oldest pending first,
arrival order, at most once, never stale, nothing lost) hold under every interleaving. -/
theorem concurrent_is_atomic_run (bs : Nat) (st : Sys) (r : Reach bs st) :
    ∃ ops : List Op, (∀ op ∈ ops, op.atomic = true) ∧
      Same (run (Cache.new bs) {} ops).1 st.c ∧
      ∀ g ∈ st.gs, ∀ b, g.pc = .retBatch b → Ret.batch b ∈ (run (Cache.new bs) {} ops).2.2 := by
  obtain ⟨ops, p⟩ := r.proj
  exact ⟨ops, p.hat, p.hsame, p.hret⟩

def c (cl sq tg : Nat) : Cmd := ⟨cl, sq, tg⟩

/-- a stale command in front is skipped, the batch is the two oldest fresh ones, the third waits -/
example : (run (Cache.new 2) {} [.add (c 1 1 0), .add (c 2 1 1), .proposed [c 1 1 9], .get,
      .add (c 2 2 2), .get, .add (c 1 2 3), .get, .get]).2.2 =
    [.none, .none, .none, .blocked, .none, .batch [c 2 1 1, c 2 2 2], .none, .blocked, .blocked] := by decide

/-- the hypotheses of `get_spec` are satisfiable with a batch returned -/
example : (run (Cache.new 2) {} [.add (c 1 1 0), .add (c 1 2 1)]).2.1.added.Nodup ∧
    pending (run (Cache.new 2) {} [.add (c 1 1 0), .add (c 1 2 1)]).2.1 = [c 1 1 0, c 1 2 1] := by decide

/-- a reachable concurrent state in which a full fresh batch is cached, the token is NOT in the
channel and one getter is between its receive and its locked body — the second disjunct of
`no_lost_wakeup` is needed, and the state of `blocked_getter_enabled` exists. -/
def wokenState : Option Sys :=
  (some ({ c := Cache.new 1 } : Sys)) >>= (·.step .spawn) >>= (·.step .spawn) >>=
    (·.step (.add (c 1 1 0))) >>= (·.step (.recv 0))

example : (wokenState.map fun st => (st.c.ready, freshCount st.c, st.gs.map (·.pc))) =
    some (false, 1, [.woken, .sel]) := by decide

example : ∃ st, wokenState = some st ∧ Reach 1 st := by
  refine ⟨_, rfl, ?_⟩
  exact .step (.recv 0) (.step (.add (c 1 1 0)) (.step .spawn (.step .spawn .init rfl) rfl) rfl) rfl

/-- a getter with a cancelled context may still take the token (Go's `select` picks any ready case) -/
example : ((some ({ c := Cache.new 1 } : Sys)) >>= (·.step .spawn) >>= (·.step (.cancel 0)) >>=
      (·.step (.add (c 1 1 0))) >>= (·.step (.recv 0)) >>= (·.step (.body 0))).map (fun st => st.gs.map (·.pc)) =
    some [.retBatch [c 1 1 0]] := by decide

end HsVerif.Props.C15
