import HsVerif.Proofs.ReplicaVM
/-! C09 — votes form a QC exactly when a quorum voted for that block.  Property theorems only.

`collectVote` is `VotingMachine.CollectVote` followed by `verifyCert` (synchronous verification;
with asynchronous verification the same atomic `verifyCert` bodies run under the mutex in an order
the adversary chooses, which is one of the event orders quantified over here), with
`fix: the voting machine ignores votes not signed by exactly one replica`.
The Kauri aggregation node and the whole tree are modelled and proved in Props/C09Kauri.lean and
Props/C09Tree.lean; this file is the all-to-one collector. -/
namespace HsVerif.Props.C09
open HsVerif.Model

/-- **Invariant of the vote store** (kept by `collectVote`, n ≥ 2): per block, stored votes come
from pairwise different signers, each is a single-signer signature accepted by
`VerifyPartialCert`, and fewer than a quorum are ever left waiting. -/
theorem vote_store_invariant (k : Keys) (c : RCfg) (id : Nat) (sig : Option Sig) (hash : Hash) (d : Bool)
    (hq : 2 ≤ c.cfg.quorum) (hw : ∀ sg, sig = some sg → sg.WF) (s : RState) (h : VMI k c s) :
    VMI k c ((collectVote k c id sig hash d).run s).2 :=
  (collectVote_vmi k c id sig hash d s hq hw h).1

/-- **Only at a quorum**: processing a vote queues at most one event, and if it does, that event is
a NewView with a certificate assembled from at least a quorum of votes for that block, from
pairwise different signers, each a verified single-signer vote (invalid, duplicate, multi-signer,
wrong-block and non-member votes are never among them). -/
theorem qc_only_from_quorum (k : Keys) (c : RCfg) (id : Nat) (sig : Option Sig) (hash : Hash) (d : Bool)
    (hq : 2 ≤ c.cfg.quorum) (hw : ∀ sg, sig = some sg → sg.WF) (s : RState) (h : VMI k c s) :
    let s' := ((collectVote k c id sig hash d).run s).2
    s'.queue = s.queue ∨ ∃ qc, s'.queue = s.queue ++ [.newview c.id { qc := some qc }] ∧ QCFromVotes k c hash qc :=
  (collectVote_vmi k c id sig hash d s hq hw h).2

/-- **Hostile votes cannot prevent the certificate**: with the invariant, once a fresh valid vote
brings the number of stored votes for a block to the quorum, `Combine` over them cannot fail
(n ≥ 2) — so the certificate is formed at the step that completes the quorum. -/
theorem hostile_votes_cannot_block (k : Keys) (c : RCfg) (s : RState) (hash : Hash) (v : Nat × Sig)
    (h : VMI k c s) (hv : VoteOK k c hash v) (hq2 : 2 ≤ c.cfg.quorum)
    (hfresh : ∀ x : Sig, (v.1, x) ∉ (s.votes.lookup hash).getD [])
    (hq : c.cfg.quorum ≤ ((s.votes.lookup hash).getD []).length + 1) :
    ∃ sg, combine c.cfg (((s.votes.lookup hash).getD [] ++ [v]).map (·.2)) = .ok sg :=
  combine_votes_ok k c s hash v h hv hq2 hfresh hq

theorem vmi_init (k : Keys) (c : RCfg) : VMI k c {} := by
  intro p hp; simp at hp

end HsVerif.Props.C09
