import HsVerif.Proofs.Queue
import HsVerif.Gen.Queue
/-! C14 — the tie by translation for `core/eventloop/queue.go`.
`Gen/Queue.lean` is regenerated from the Go source on every run (tools/gofacts/methods.go).  The
theorems here say that the regenerated `push` / `pop` / `len` ARE the hand-written model the C14
theorems are about, for every queue value (no invariant needed), and that on every queue reachable from
`newQueue(c)`, `c ≥ 1`, no slice index of the Go code is out of range (Go would panic there). -/
namespace HsVerif.Props.C14Gen
open HsVerif.Model HsVerif.Model.Queue
open HsVerif.Gen.Methods (queue_push queue_pop queue_len)

theorem getI_eq {α : Type} (l : List (Option α)) (i : Int) : HsVerif.Gen.Methods.getI l i = Queue.getI l i := rfl
theorem setI_eq {α : Type} (l : List (Option α)) (i : Int) (x : Option α) :
    HsVerif.Gen.Methods.setI l i x = Queue.setI l i x := rfl

/-- The regenerated `push` equals the model's `push` (new fields and reported drop), for every queue. -/
theorem gen_push_eq_model {α : Type} (q : Queue α) (x : α) :
    (queue_push q.entries q.head q.tail (some x)).1 = ((q.push x).1.entries, (q.push x).1.head, (q.push x).1.tail) ∧
    (queue_push q.entries q.head q.tail (some x)).2.1 = (q.push x).2 := by
  unfold queue_push Queue.push Queue.cap
  dsimp only
  -- both sides branch on the same test "the slot after tail is head"; inside a branch they agree by computation
  by_cases h : (if q.tail + 1 = (q.entries.length : Int) then 0 else q.tail + 1) = q.head
  · rw [if_pos h, if_pos h]; exact ⟨rfl, rfl⟩
  · rw [if_neg h, if_neg h]; exact ⟨rfl, rfl⟩

/-- The regenerated `pop` equals the model's `pop`; Go's `ok` is `head ≠ -1`. -/
theorem gen_pop_eq_model {α : Type} (q : Queue α) :
    (queue_pop q.entries q.head q.tail).1 = ((q.pop).1.entries, (q.pop).1.head, (q.pop).1.tail) ∧
    (queue_pop q.entries q.head q.tail).2.1.1 = (q.pop).2 ∧
    (queue_pop q.entries q.head q.tail).2.1.2 = decide (q.head ≠ -1) := by
  unfold queue_pop Queue.pop
  dsimp only
  by_cases h : q.head = -1
  · rw [if_pos h, if_pos h]; exact ⟨rfl, rfl, (decide_eq_false (not_not_intro h)).symm⟩
  · rw [if_neg h, if_neg h]
    by_cases h2 : q.head = q.tail
    · rw [if_pos h2, if_pos h2]; exact ⟨rfl, rfl, (decide_eq_true h).symm⟩
    · rw [if_neg h2, if_neg h2]; exact ⟨rfl, rfl, (decide_eq_true h).symm⟩

/-- The regenerated `len` equals the model's `len` and changes nothing. -/
theorem gen_len_eq_model {α : Type} (q : Queue α) :
    (queue_len q.entries q.head q.tail).1 = (q.entries, q.head, q.tail) ∧
    (queue_len q.entries q.head q.tail).2.1 = q.len := by
  unfold queue_len Queue.len Queue.cap
  split
  · exact ⟨rfl, rfl⟩
  · split <;> exact ⟨rfl, rfl⟩

theorem rel_range {α : Type} {c : Nat} {q : Queue α} {l : List α} (r : Rel c q l) :
    (q.head = -1 ∧ q.tail = -1) ∨ (0 ≤ q.head ∧ q.head < c ∧ 0 ≤ q.tail ∧ q.tail < c) := by
  cases l with
  | nil => exact Or.inl (r.hempty rfl)
  | cons a t =>
    have ⟨⟨_, (hle : t.length + 1 ≤ c), h0, hc, _⟩, ht⟩ := r.ring
    exact Or.inr ⟨h0, hc, ht ▸ w_range c _ (by omega) (by omega)⟩

/-- In a state related to a deque content (the invariant of every reachable queue), `push` indexes
`entries` only in range: the slot after `tail` is, and `head` is indexed only when it is that slot. -/
theorem gen_push_in_range {α : Type} {c : Nat} (hc : 1 ≤ c) {q : Queue α} {l : List α} (r : Rel c q l) (x : Option α) :
    (queue_push q.entries q.head q.tail x).2.2 = true := by
  have hpos : 0 ≤ (if q.tail + 1 = (c : Int) then 0 else q.tail + 1) ∧
      (if q.tail + 1 = (c : Int) then 0 else q.tail + 1) < c := by
    have := rel_range r
    split <;> omega
  unfold queue_push
  dsimp only
  rw [r.hlen]
  generalize (if q.tail + 1 = (c : Int) then 0 else q.tail + 1) = pos at hpos
  split
  · rename_i e
    simp only [← e, hpos, decide_true, Bool.and_self, and_self]
  · simp only [hpos, decide_true, Bool.and_self, and_self]

theorem gen_pop_in_range {α : Type} {c : Nat} {q : Queue α} {l : List α} (r : Rel c q l) :
    (queue_pop q.entries q.head q.tail).2.2 = true := by
  unfold queue_pop
  dsimp only
  rw [r.hlen]
  split
  · rfl
  · have : 0 ≤ q.head ∧ q.head < c := by have := rel_range r; omega
    simp only [this, decide_true, Bool.and_self, and_self]

theorem gen_len_in_range {α : Type} (q : Queue α) : (queue_len q.entries q.head q.tail).2.2 = true := by
  unfold queue_len; (repeat' split) <;> rfl

/-- After ANY word of push / pop / len from `newQueue(c)`, `c ≥ 1`, the next push, pop or len of the
Go code (as regenerated) indexes `entries` in range: no index-out-of-range panic in queue.go. -/
theorem queue_never_indexes_out_of_range {α : Type} (c : Nat) (hc : 1 ≤ c) (w : List (QOp α)) (x : Option α) :
    let q := ((Queue.new c : Queue α).run w).1
    (queue_push q.entries q.head q.tail x).2.2 = true ∧
    (queue_pop q.entries q.head q.tail).2.2 = true ∧
    (queue_len q.entries q.head q.tail).2.2 = true := by
  intro q
  have r := (run_refines hc w (rel_new (α := α) c)).2
  exact ⟨gen_push_in_range hc r x, gen_pop_in_range r, gen_len_in_range q⟩

/-- The in-range flag is not vacuous: with `head` outside the buffer (a state no history reaches) the
translated `pop` reports the out-of-range index. -/
theorem in_range_flag_nonvacuous :
    (queue_pop ([none, none] : List (Option Nat)) 5 0).2.2 = false := by decide

/-- Non-vacuity of the bridge: a concrete overflowing push through the regenerated code. -/
example : queue_push [some 1, some 2] 0 1 (some (3 : Nat)) = (([some 3, some 2], 1, 0), some 1, true) := by decide

end HsVerif.Props.C14Gen
