import HsVerif.Proofs.ReplicaInert
import HsVerif.Props.C01Sys
import HsVerif.Props.C01Rule
/-! C10, last sentence — "Input in which nothing verifies (no valid certificate, no valid signature) leaves
the replica's protocol state (view, highest QC, lock, committed block, vote history) unchanged": the direct
statement about ONE delivered event of the replica model.  Property theorems only; vocabulary and proofs in
Proofs/ReplicaInert.lean.

* `NothingVerifies k c s e` (peer input only: `.propose`, `.vote`, `.timeout`, `.newview`): every
  certificate and signature the message carries is rejected by the pure verifiers of Model/Cert.lean in
  EVERY state with the signature table of `s` — whatever the block store, because verification fetches.
  - `.propose id b agg`: `b.qc` fails, and `agg`, if present, fails;
  - `.vote id sig hash d`: `sig` is absent, or not a single signature, or fails as partial certificate for
    `hash`.  NOT "a signature of `id`": the sender id of a vote message is not compared with the signer (the
    voting machine counts the signer of the signature), see `relayed_vote_counts` below;
  - `.timeout t`: the view signature is absent / not by `t.id` / fails, and no certificate in `t.si` verifies;
  - `.newview id si`: no certificate present in `si` verifies (an empty `si` qualifies).
* `Rejected k c s.truth e`: the weaker condition that already suffices — the proposal's block QC fails (the
  aggregate QC is irrelevant: the block QC is verified after it), the timeout's view signature fails (the
  handler returns before it looks at the sync info).
* Extra hypothesis `1 ≤ s.view` (true of every state of a run: the view starts at 1 and never decreases) — it
  is needed for a new-view message WITHOUT a QC: its certified view is 0, and `advanceView` is stopped only
  by `0 < s.view`; `view_zero_counterexample`.
-/
set_option linter.unusedVariables false
namespace HsVerif.Props.C10Inert
open HsVerif.Model HsVerif.Props.C01Sys HsVerif.Props.C01Rule HsVerif.Props.C03

/-- **Input in which nothing verifies leaves the protocol state unchanged and has no effect.**
One peer message `e` in which no certificate and no signature verifies, delivered to a replica whose event
queue is empty, leaves view, high QC, high TC, lock, committed block, ghost history (what was signed, why
the view moved), `lastVoted`, `lastTimeout` and `lastProposed` as they were, and the step has NO effects at
all: no `sign`, `sendVote`, `sendPropose`, `sendTimeout`, `sendNewView`, `viewChange`, `commit`, `exec`,
`abort`, `panic` (block fetches are not effects of the model: they change the block store only).

The side conditions: the queue is empty (`step` runs the loop to quiescence, so this holds between steps);
nothing waits in the deferred lists — handling ANY proposal re-queues the votes deferred until a proposal
arrives (`tick`), and those are earlier, possibly valid, input (`inert_input_strong` shows that only
`waitingProp`, and only for a proposal, matters; `inert_input_then_deferred` drops the condition);
`1 ≤ s.view` (see above). -/
theorem inert_input_changes_nothing (k : Keys) (c : RCfg) (s : RState) (e : Ev)
    (hn : NothingVerifies k c s e) (hq : s.queue = []) (hp : s.waitingProp = []) (hvc : s.waitingVC = [])
    (hv : 1 ≤ s.view) :
    PS (step k c s e).1 = PS s ∧ (step k c s e).2 = [] := by
  obtain ⟨h1, _, h3⟩ := step_inert_quiet k c s e hn.rejected hq (fun _ => hp) (Or.inl hv)
  exact ⟨ps_of_kept h1, h3⟩

/-- the effects named one by one (a corollary of `(step k c s e).2 = []`) -/
theorem inert_input_no_effect (k : Keys) (c : RCfg) (s : RState) (e : Ev)
    (hn : NothingVerifies k c s e) (hq : s.queue = []) (hp : s.waitingProp = []) (hvc : s.waitingVC = [])
    (hv : 1 ≤ s.view) (o : Out) (ho : o ∈ (step k c s e).2) : False := by
  rw [(inert_input_changes_nothing k c s e hn hq hp hvc hv).2] at ho
  cases ho

/-- **Stronger form**: it is enough that the certificate / signature checked FIRST fails (`Rejected`), only
a proposal needs `waitingProp = []`, `waitingVC` is irrelevant, only a new-view needs `1 ≤ s.view`; and
besides the protocol state the collected votes, the signature table, the byte and command counters are
unchanged too (`Kept`), and the queue is empty again.  What MAY change: the block store (fetches),
`waitingVC` (a proposal for a later view is deferred before anything is verified), `waitingProp` (a vote
for an unknown block is deferred before it is verified), `timeouts` (entries below the current view are
dropped). -/
theorem inert_input_strong (k : Keys) (c : RCfg) (s : RState) (e : Ev)
    (hr : Rejected k c s.truth e) (hq : s.queue = []) (hp : e.isPropose = true → s.waitingProp = [])
    (hv : 1 ≤ s.view ∨ e.isNewview = false) :
    Kept (step k c s e).1 = Kept s ∧ (step k c s e).1.queue = [] ∧ (step k c s e).2 = [] :=
  step_inert_quiet k c s e hr hq hp hv

/-- **Without the hypotheses on the deferred lists**: the step is the event loop run on (`drain`: 99999
further ticks, then state and effects) from a state `s1` that agrees with `s` on every kept field, has
emitted nothing, and whose queue holds exactly the deferred events the first tick put back — the votes
deferred until a proposal (`s.waitingProp`) if `e` is a proposal, nothing otherwise.  So whatever the step
does is the processing of those earlier events. -/
theorem inert_input_then_deferred (k : Keys) (c : RCfg) (s : RState) (e : Ev)
    (hr : Rejected k c s.truth e) (hq : s.queue = []) (hv : 1 ≤ s.view ∨ e.isNewview = false) :
    ∃ s1, Kept s1 = Kept s ∧ s1.out = [] ∧ s1.queue = requeued e s ∧
      (e.isPropose = true → s1.waitingProp = []) ∧ step k c s e = drain k c s1 :=
  step_inert k c s e hr hq hv

/-! ### what is FALSE without the corrections -/

/-- **`1 ≤ s.view` is needed**: in view 0 (no run reaches it) an EMPTY new-view message — in which nothing
verifies, there being nothing — moves the replica to view 1: its certified view is 0 and `advanceView`
returns only if that is below the current view. -/
theorem view_zero_counterexample :
    let s : RState := { view := 0 }
    NothingVerifies nvKeys nvCfg s (.newview 2 {}) ∧ s.queue = [] ∧ s.waitingProp = [] ∧ s.waitingVC = [] ∧
      (step nvKeys nvCfg s (.newview 2 {})).1.view = 1 := by
  refine ⟨⟨?_, ?_, ?_⟩, rfl, rfl, rfl, by decide +kernel⟩ <;> intro x h <;> cases h

/-- a vote message from sender `from_` carrying the (BLS) signature of `signer` over block `h` -/
def relayedVote (from_ signer : Nat) (h : Hash) : Ev := .vote from_ (some (blsSign signer (blkMsg h))) h false

/-- **The sender of a vote is not compared with the signer** (`votingmachine.go`: `OnVote` verifies the
partial certificate and records its signer): a vote message from replica 4 carrying replica 2's signature is
counted as the vote of replica 2, and three such messages — all from 4, with the signatures of 1, 2, 3 —
form a QC that moves high QC and view.  So "the signature does not verify as a signature OF THE SENDER" is
not a condition under which the state stays put; `NothingVerifies` asks that the signature verifies for
nobody.  (No safety issue: the signatures are genuine votes of their signers for that block, and a second
vote of the same signer is not counted.) -/
theorem relayed_vote_counts :
    (step nvKeys nvCfg nvS3 (relayedVote 4 2 "P3")).1.votes = [("P3", [(2, blsSign 2 (blkMsg "P3"))])] ∧
    nvS3.highQC.hash = "P2" ∧ nvS3.view = 3 ∧
    (runEvents nvKeys nvCfg nvS3 [relayedVote 4 1 "P3", relayedVote 4 2 "P3", relayedVote 4 3 "P3"]).highQC.hash = "P3" ∧
    (runEvents nvKeys nvCfg nvS3 [relayedVote 4 1 "P3", relayedVote 4 2 "P3", relayedVote 4 3 "P3"]).view = 4 := by
  decide +kernel

/-! ### non-vacuity

The state of replica 1 in the kernel-evaluated 4-replica ECDSA run `exState` of Props/C01Sys.lean, with the
global signature table: the replica is in view 1, has voted for `P1`, its queue and deferred lists are
empty.  In the table, bytes 2 are the Byzantine replica 4's signature over `blk:X`; bytes 901..903
do not exist.  Three peer messages in which nothing verifies — and for each the theorem's conclusion. -/
section NonVacuity

def nvS : RState :=
  match exState.reps.lookup 1 with
  | some s => { s with truth := exState.truth, nextBytes := exState.nextBytes }
  | none => {}
def nvC : RCfg := exCfg.rcfg 1

/-- a "QC" for `P1` of three signature entries whose bytes nobody ever produced -/
def junkQC : QC := ⟨some (.multi .ecdsa [⟨1, 901⟩, ⟨2, 902⟩, ⟨3, 903⟩]), 1, "P1"⟩
/-- a proposal for view 2 by its leader (replica 3) that extends `P1` and justifies it with the junk QC -/
def junkPropose : Ev :=
  .propose 3 { hash := "P2", parent := "P1", view := 2, proposer := 3, qc := junkQC } none
/-- a vote for `P1` from replica 3 whose signature entry claims replica 3 but carries the bytes of replica
4's signature over another message -/
def foreignVote : Ev := .vote 3 (some (.multi .ecdsa [⟨3, 2⟩])) "P1" false
/-- a new-view with a timeout certificate for view 1 signed by one replica only (quorum: 3) -/
def thinNewView : Ev := .newview 2 { tc := some ⟨some (.multi .ecdsa [⟨1, 3⟩]), 1⟩ }

theorem nvS_facts : nvS.queue = [] ∧ nvS.waitingProp = [] ∧ nvS.waitingVC = [] ∧ nvS.view = 1 ∧
    nvS.lastVoted = 1 ∧
    nvS.truth.lookup 901 = none ∧ nvS.truth.lookup 2 = some ⟨4, blkMsg "X"⟩ ∧ nvC.cfg.quorum = 3 := by
  decide +kernel

theorem junkPropose_nothing : NothingVerifies exKeys nvC nvS junkPropose := by
  refine ⟨?_, fun a h => by cases h⟩
  exact qcFails_of_bad_entry exKeys nvC nvS.truth junkQC .ecdsa _ ⟨1, 901⟩ (by decide) rfl
    (List.mem_cons_self ..) (badEntry_of_unknown nvS_facts.2.2.2.2.2.1)

theorem foreignVote_nothing : NothingVerifies exKeys nvC nvS foreignVote :=
  voteFails_of_bad_entry exKeys nvC nvS.truth .ecdsa _ "P1" ⟨3, 2⟩ (List.mem_cons_self ..)
    (badEntry_of_other _ nvS_facts.2.2.2.2.2.2.1 (by decide))

theorem thinNewView_nothing : NothingVerifies exKeys nvC nvS thinNewView := by
  show SIFails exKeys nvC nvS.truth { tc := some ⟨some (.multi .ecdsa [⟨1, 3⟩]), 1⟩ }
  refine ⟨?_, ?_, ?_⟩
  · intro q h; cases h
  · intro t h; cases h
    exact tcFails_of_short exKeys nvC nvS.truth ⟨some (.multi .ecdsa [⟨1, 3⟩]), 1⟩ (.multi .ecdsa [⟨1, 3⟩])
      (by decide) rfl (by rw [nvS_facts.2.2.2.2.2.2.2]; decide)
  · intro a h; cases h

/-- the three messages satisfy the hypotheses of `inert_input_changes_nothing`, hence its conclusion -/
theorem nonvacuous (e : Ev) (he : e = junkPropose ∨ e = foreignVote ∨ e = thinNewView) :
    NothingVerifies exKeys nvC nvS e ∧ PS (step exKeys nvC nvS e).1 = PS nvS ∧ (step exKeys nvC nvS e).2 = [] := by
  have hn : NothingVerifies exKeys nvC nvS e := by
    rcases he with h | h | h <;> subst h
    · exact junkPropose_nothing
    · exact foreignVote_nothing
    · exact thinNewView_nothing
  obtain ⟨h1, h2, h3, h4, _⟩ := nvS_facts
  exact ⟨hn, inert_input_changes_nothing exKeys nvC nvS e hn h1 h2 h3 (by rw [h4]; exact Nat.le_refl 1)⟩

set_option maxRecDepth 100000 in
/-- cross-check by evaluation (independent of the theorem): the kernel computes the same — no effects, and the
junk proposal (view 2 > current view 1) is put on the deferred list WITHOUT any verification, the foreign
vote (block known) and the thin new-view leave no trace at all -/
example : (step exKeys nvC nvS junkPropose).2.isEmpty = true ∧ (step exKeys nvC nvS junkPropose).1.view = 1 ∧
    (step exKeys nvC nvS junkPropose).1.waitingVC.length = 1 ∧
    (step exKeys nvC nvS foreignVote).2.isEmpty = true ∧ (step exKeys nvC nvS foreignVote).1.votes.isEmpty = true ∧
    (step exKeys nvC nvS foreignVote).1.waitingProp.isEmpty = true ∧
    (step exKeys nvC nvS thinNewView).2.isEmpty = true ∧ (step exKeys nvC nvS thinNewView).1.view = 1 := by
  decide +kernel

end NonVacuity

end HsVerif.Props.C10Inert
