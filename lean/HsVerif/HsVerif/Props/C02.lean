import HsVerif.Proofs.Cert
import HsVerif.Proofs.CertComplete
/-! C02 — accepted certificates carry a quorum of distinct valid signatures.
(Soundness for arbitrary wire-shaped certificate values, i.e. including every structural mutation.) -/
namespace HsVerif.Props.C02
open HsVerif.Model

/-- All signatures inside wire-decoded / created certificates have a consistent bit-field size
(C19 `len_eq_card`); stated as an explicit, decidable-by-inspection well-formedness predicate. -/
def QC.WF (q : QC) : Prop := ∀ s, q.sig = some s → s.WF

/-- the store is content addressed (C13 `get_has_hash`) -/
def StoreOK (E : CertEnv) : Prop := ∀ h b, E.get h = some b → b.hash = h

/-- "replica `i` really produced a signature over `m`, and it is part of `s` attributed to `i`" -/
abbrev Signed (T : Truth) (s : Sig) (i : Nat) (m : Msg) : Prop := SigHas T s ⟨i, m⟩

/-- a quorum of distinct configured replicas each signed `m` inside `s` -/
def QuorumSigned (E : CertEnv) (s : Sig) (m : Msg) : Prop :=
  ∃ S : List Nat, S.Nodup ∧ E.cfg.quorum ≤ S.length ∧ ∀ i ∈ S, E.cfg.has i = true ∧ Signed E.T s i m

theorem quorumSigned_of_verify (E : CertEnv) (s : Sig) (m : Msg) (hw : s.WF) (hq : E.cfg.quorum ≤ s.len)
    (hv : verify E.T E.cfg s m = true) : QuorumSigned E s m := by
  obtain ⟨h1, h2, _, h4⟩ := verify_sound _ _ _ _ hv hw
  exact ⟨s.participants, h1, h2 ▸ hq, h4⟩

/-- QC soundness: an accepted QC is the genesis QC (genesis block, view 0), or names a stored block *of the claimed view*
whose bytes a quorum of distinct configured replicas signed. -/
theorem verifyQC_sound (E : CertEnv) (qc : QC) (hs : StoreOK E) (hw : QC.WF qc)
    (h : verifyQC E qc = true) :
    (qc.hash = genesisHash ∧ qc.view = 0) ∨
    ∃ b s, E.get qc.hash = some b ∧ b.hash = qc.hash ∧ b.view = qc.view ∧ qc.sig = some s ∧
      QuorumSigned E s (blkMsg qc.hash) := by
  by_cases hg : qc.hash = genesisHash
  · exact Or.inl ⟨hg, by simpa [verifyQC, hg] using h⟩
  · obtain ⟨s, b, hsig, hq, hb, hview, hv⟩ := (verifyQC_iff E qc hg).mp h
    have hbh := hs _ _ hb
    exact Or.inr ⟨b, s, hb, hbh, hview, hsig, quorumSigned_of_verify E s _ (hw s hsig) hq (hbh ▸ hv)⟩

/-- TC soundness: view 0, or a quorum of distinct configured replicas signed the timed-out view. -/
theorem verifyTC_sound (E : CertEnv) (tc : TC) (hw : ∀ s, tc.sig = some s → s.WF)
    (h : verifyTC E tc = true) :
    tc.view = 0 ∨ ∃ s, tc.sig = some s ∧ QuorumSigned E s (viewMsg tc.view) := by
  by_cases h0 : tc.view = 0
  · exact Or.inl h0
  · obtain ⟨s, hsig, hq, hv⟩ := (verifyTC_iff E tc h0).mp h
    exact Or.inr ⟨s, hsig, quorumSigned_of_verify E s _ (hw s hsig) hq hv⟩

/-- AggQC soundness: a quorum of distinct configured replicas each signed *its own* timeout
message for the claimed view and the QC attested under its id; the reported high QC verifies, is
one of the attested QCs and has the highest view among the attested QCs that verify. -/
theorem verifyAggQC_sound (E : CertEnv) (a : AggQC) (high : QC)
    (hk : (a.qcs.map (·.1)).Nodup) (hw : ∀ s, a.sig = some s → s.WF)
    (h : verifyAggQC E a = .ok high) :
    (∃ (s : Sig) (S : List Nat), a.sig = some s ∧ S.Nodup ∧ E.cfg.quorum ≤ S.length ∧
      ∀ i ∈ S, E.cfg.has i = true ∧ ∃ q, (i, q) ∈ a.qcs ∧ Signed E.T s i (E.tmoMsg i a.view q)) ∧
    verifyQC E high = true ∧ high ∈ a.qcs.map (·.2) ∧
    ∀ q ∈ a.qcs.map (·.2), verifyQC E q = true → q.view ≤ high.view := by
  obtain ⟨s, hsig, hq, hb, hf⟩ := (verifyAggQC_ok_iff E a high).mp h
  obtain ⟨S, hn, hl, hall⟩ := batchVerify_sound _ _ _ _ (by simpa [Function.comp_def] using hk) hb (hw s hsig)
  refine ⟨⟨s, S, hsig, hn, hl ▸ hq, fun i hi => ?_⟩, findHighestValidQC_some E _ high hf⟩
  obtain ⟨hc, m, hm, hsg⟩ := hall i hi
  obtain ⟨p, hp, hpe⟩ := List.mem_map.mp hm
  cases hpe
  exact ⟨hc, p.2, hp, hsg⟩

/-- A proposal's certificates are accepted only if its block QC is sound (both paths of
`VerifyAnyQC`). -/
theorem verifyAnyQC_sound (E : CertEnv) (agg : Bool) (qc : QC) (a : Option AggQC)
    (h : verifyAnyQC E agg qc a = .ok ()) : verifyQC E qc = true :=
  ((verifyAnyQC_ok_iff E agg qc a).mp h).1

/-! Completeness (n ≥ 2): what `CreateQuorumCert` / `CreateTimeoutCert` assemble from the `Sign`
outputs of a quorum of distinct configured replicas verifies at every replica with the same
configuration and store.  (`f i` is the signature contributed by signer `i`.)

The corresponding statement for `CreateAggregateQC` (BatchVerify completeness) is
`Props/C08Agg.agg_verifies`. -/

theorem create_verify_QC (E : CertEnv) (b : Block) (signers : List Nat) (f : Nat → Sig)
    (hb : E.get b.hash = some b) (hg : b.hash ≠ genesisHash)
    (hn : signers.Nodup) (hh : ∀ i ∈ signers, E.cfg.has i = true) (h2 : 2 ≤ signers.length)
    (hq : E.cfg.quorum ≤ signers.length)
    (hs : ∀ i ∈ signers, HonestSig E.T E.cfg i (blkMsg b.hash) (f i)) :
    ∃ s, combine E.cfg (signers.map f) = .ok s ∧ verifyQC E ⟨some s, b.view, b.hash⟩ = true := by
  obtain ⟨s, h1, h2', h3, _⟩ := combine_honest_verifies E.T E.cfg (blkMsg b.hash) signers f hn hh h2 hs
  exact ⟨s, h1, (verifyQC_iff E _ hg).mpr ⟨s, b, rfl, h3 ▸ hq, hb, rfl, h2'⟩⟩

theorem create_verify_TC (E : CertEnv) (view : Nat) (signers : List Nat) (f : Nat → Sig)
    (hn : signers.Nodup) (hh : ∀ i ∈ signers, E.cfg.has i = true) (h2 : 2 ≤ signers.length)
    (hq : E.cfg.quorum ≤ signers.length)
    (hs : ∀ i ∈ signers, HonestSig E.T E.cfg i (viewMsg view) (f i)) :
    ∃ s, combine E.cfg (signers.map f) = .ok s ∧ verifyTC E ⟨some s, view⟩ = true := by
  obtain ⟨s, h1, h2', h3, _⟩ := combine_honest_verifies E.T E.cfg (viewMsg view) signers f hn hh h2 hs
  exact ⟨s, h1, verifyTC_of_verify E s view (h3 ▸ hq) h2'⟩

/-! Mutations listed in the property, as corollaries / concrete instances. -/

/-- Sub-quorum certificates are rejected, whatever they contain. -/
theorem subquorum_rejected (E : CertEnv) (s : Sig) (v : Nat) (h : Hash) (hh : h ≠ genesisHash)
    (hl : s.len < E.cfg.quorum) : verifyQC E ⟨some s, v, h⟩ = false := by
  unfold verifyQC; simp [hh, hl]

/-- A certificate whose claimed view differs from the view of the block it names is rejected. -/
theorem relabelled_view_rejected (E : CertEnv) (s : Option Sig) (v : Nat) (h : Hash) (b : Block)
    (hh : h ≠ genesisHash) (hb : E.get h = some b) (hv : b.view ≠ v) :
    verifyQC E ⟨s, v, h⟩ = false := by
  refine Bool.eq_false_iff.mpr fun hq => ?_
  obtain ⟨_, b', _, _, hb', hv', _⟩ := (verifyQC_iff E _ hh).mp hq
  cases hb.symm.trans hb'
  exact hv hv'

/-- Non-vacuity and the repeated-signer mutation: with n = 4 (quorum 3), a genuine three-signer
ECDSA certificate verifies, while one signature repeated three times does not. -/
def exT : Truth := fun b => if b = 1 then some ⟨1, blkMsg "B1"⟩ else if b = 2 then some ⟨2, blkMsg "B1"⟩
  else if b = 3 then some ⟨3, blkMsg "B1"⟩ else none
def exE : CertEnv :=
  { T := exT, cfg := ⟨4, .ecdsa⟩, tmoMsg := fun _ _ _ => "",
    store := [("B1", { hash := "B1", parent := genesisHash, view := 1, proposer := 1, qc := genesisQC })] }

example : verifyQC exE ⟨some (.multi .ecdsa [⟨1, 1⟩, ⟨2, 2⟩, ⟨3, 3⟩]), 1, "B1"⟩ = true := by decide
example : verifyQC exE ⟨some (.multi .ecdsa [⟨1, 1⟩, ⟨1, 1⟩, ⟨1, 1⟩]), 1, "B1"⟩ = false := by decide
example : verifyQC exE ⟨some (.multi .ecdsa [⟨1, 1⟩, ⟨2, 2⟩, ⟨3, 3⟩]), 2, "B1"⟩ = false := by decide
example : verifyQC exE ⟨some (.multi .ecdsa [⟨1, 1⟩, ⟨2, 2⟩, ⟨4, 3⟩]), 1, "B1"⟩ = false := by decide

end HsVerif.Props.C02
