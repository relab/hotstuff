import HsVerif.Proofs.Safety
import HsVerif.Proofs.QuorumCount
/-! C01 — committed ledgers never diverge.  Property theorems (chained and simplified HotStuff).

Layer A, proved here for every block forest, every number of replicas, every vote history:
if honest replicas keep the voting discipline (one vote per view; parent certified and lower;
the lock rule) and at most `numFaulty n` of the `n` replicas are Byzantine, two blocks that meet
the commit condition are on one branch.  The discipline itself is a theorem of the system of replica
models: one vote per view and well-formed parents from C03 (`votes_increasing`, `vote_wellformed`;
Props/C01SysWF.lean), the lock rule in Props/C01Safety.lean (`sys_lock`; all fields: `sys_discipline`, hence
`sys_safety`); the cluster/replica oracles check the same discipline of the implementation.
Certificates ⇒ quorum of genuine votes is C02.  Fast-HotStuff is not covered by these theorems
(Props/C01FastSys.lean). -/
namespace HsVerif.Props.C01
open HsVerif.Safety HsVerif.QuorumCount HsVerif.Model

/-- `n` replicas `0..n-1`, those marked `byz` Byzantine, quorums = sets of at least
`quorumSize n` replicas (the threshold every certificate check uses, C20/C02). -/
abbrev replicaSys (n : Nat) (byz : Nat → Bool) (Blk : Type) (gen : Blk) (view : Blk → Nat) (par : Blk → Blk)
    (voted : Nat → Blk → Prop) : Sys :=
  { Blk := Blk, Rep := Nat, gen := gen, view := view, par := par,
    honest := fun r => byz r = false,
    voted := voted,
    Quorum := fun Q => ∃ A : Nat → Bool, (∀ i, i < n → A i = true → Q i) ∧ quorumSize n ≤ count A n }

/-- **Every certified block above a committed block extends it** (chained / simplified HotStuff),
for any system that keeps the discipline. -/
theorem certified_extends_committed (S : Sys) (D : Discipline S) {b b' b'' : S.Blk}
    (T : ThreeChain (S := S) b b' b'') (w : S.Blk) (hw : Certified S w) (hv : S.view b ≤ S.view w) :
    Ext S w b :=
  T.ext D w (Or.inr hw) hv

/-- **Safety**: with `n ≥ 1` replicas of which at most `numFaulty n` are Byzantine, honest
replicas keeping the voting discipline, any two blocks that meet the commit condition
(`b ← b' ← b''` directly linked, consecutive views, `b''` certified by a quorum) are on one
branch — whatever the schedule, the partitions, the Byzantine replicas' messages. -/
theorem committed_blocks_on_one_branch (n : Nat) (hn : 1 ≤ n) (byz : Nat → Bool) (hf : count byz n ≤ numFaulty n)
    (Blk : Type) (gen : Blk) (view : Blk → Nat) (par : Blk → Blk) (voted : Nat → Blk → Prop)
    (S : Sys) (hS : S = replicaSys n byz Blk gen view par voted)
    (gen_view : S.view S.gen = 0) (par_gen : S.par S.gen = S.gen)
    (one_per_view : ∀ r x y, S.honest r → S.voted r x → S.voted r y → S.view x = S.view y → x = y)
    (wf : ∀ r w, S.honest r → S.voted r w → GC S (S.par w) ∧ S.view (S.par w) < S.view w)
    (lock : ∀ r x w, S.honest r → S.voted r x → S.voted r w → S.view x < S.view w →
      ∃ l, GC S l ∧ S.view (S.par (S.par x)) ≤ S.view l ∧ S.view l < S.view w ∧
        (S.view l < S.view (S.par w) ∨ Ext S w l))
    {b b' b'' c c' c'' : S.Blk}
    (Tb : ThreeChain (S := S) b b' b'') (Tc : ThreeChain (S := S) c c' c'') :
    Ext S b c ∨ Ext S c b := by
  have D : Discipline S :=
    { gen_view := gen_view, par_gen := par_gen,
      -- quorum intersection in an honest replica, from the threshold arithmetic of C20
      inter := by
        subst hS
        intro Q1 Q2 ⟨A, hA, hcA⟩ ⟨B, hB, hcB⟩
        obtain ⟨i, hi, ha, hb, hz⟩ := quorums_share_honest n A B byz hcA hcB hf
        exact ⟨i, hA i hi ha, hB i hi hb, hz⟩,
      one_per_view := one_per_view, wf := wf, lock := lock }
  exact committed_on_one_branch D Tb Tc

/-- **Ledgers are prefix-related.**  Two commit logs, each a hash chain growing from genesis (every
block's parent is the block committed before it, views increasing — what the ledger oracle checks
of every replica's log), whose newest blocks both meet the commit condition, are prefix-related:
one is a prefix of the other.  (Empty logs are prefixes of everything.) -/
theorem ledgers_prefix_related (S : Sys) (D : Discipline S) (l1 l2 : List S.Blk)
    (h1 : ChainLog S S.gen l1) (h2 : ChainLog S S.gen l2)
    {b' b'' c' c'' : S.Blk}
    (Tb : l1 ≠ [] → ThreeChain (S := S) (logHead S.gen l1) b' b'')
    (Tc : l2 ≠ [] → ThreeChain (S := S) (logHead S.gen l2) c' c'') :
    l1 <+: l2 ∨ l2 <+: l1 := by
  by_cases e1 : l1 = []
  · left; rw [e1]; exact List.nil_prefix
  by_cases e2 : l2 = []
  · right; rw [e2]; exact List.nil_prefix
  rcases committed_on_one_branch D (Tb e1) (Tc e2) with h | h
  · exact Or.inr (logs_prefix D.par_gen l1 l2 h1 h2 h)
  · exact Or.inl (logs_prefix D.par_gen l2 l1 h2 h1 h)

/-- The simplified-HotStuff vote condition (`parent.view ≥ locked.view`) is a special case of the
lock rule used above: a parent at the lock's view *is* the lock. -/
theorem simple_rule_is_lock_rule (S : Sys) (gen_view : S.view S.gen = 0)
    (inter : ∀ Q1 Q2, S.Quorum Q1 → S.Quorum Q2 → ∃ r, Q1 r ∧ Q2 r ∧ S.honest r)
    (one_per_view : ∀ r x y, S.honest r → S.voted r x → S.voted r y → S.view x = S.view y → x = y)
    (wf : ∀ r w, S.honest r → S.voted r w → GC S (S.par w) ∧ S.view (S.par w) < S.view w)
    (w l : S.Blk) (hp : GC S (S.par w)) (hl : GC S l) (h : S.view l ≤ S.view (S.par w)) :
    S.view l < S.view (S.par w) ∨ Ext S w l := by
  rcases Nat.lt_or_eq_of_le h with h1 | h1
  · exact Or.inl h1
  · exact Or.inr (Ext.step (gc_unique gen_view inter one_per_view wf hl hp h1 ▸ Ext.refl l))

/-! Non-vacuity: four honest replicas voting for every block of the chain 0 ← 1 ← 2 ← … keep the
discipline, and `1 ← 2 ← 3` is a three-chain. -/
abbrev chainSys : Sys := replicaSys 4 (fun _ => false) Nat 0 id (fun b => b - 1) (fun r b => r < 4 ∧ 1 ≤ b)

theorem chain_up (k w : Nat) : up chainSys k w = w - k := by
  induction k generalizing w with
  | zero => rfl
  | succ k ih => exact (ih (w - 1)).trans (by show w - 1 - k = w - (k + 1); omega)

theorem chain_certified (b : Nat) (hb : 1 ≤ b) : Certified chainSys b :=
  ⟨fun r => r < 4, ⟨fun _ => true, fun i hi _ => hi, by decide⟩, fun r hr _ => ⟨hr, hb⟩⟩

example : ∃ b b' b'' : chainSys.Blk, ThreeChain (S := chainSys) b b' b'' :=
  ⟨1, 2, 3, { p2 := rfl, p1 := rfl, v1 := rfl, v2 := rfl, cert := chain_certified 3 (by decide) }⟩

theorem chain_lock (x w : Nat) (hx : 1 ≤ x) (hlt : x < w) :
    ∃ l : Nat, GC chainSys l ∧ x - 1 - 1 ≤ l ∧ l < w ∧ (l < w - 1 ∨ Ext chainSys w l) := by
  refine ⟨x - 1 - 1, ?_, Nat.le_refl _, by omega, Or.inr ?_⟩
  · by_cases h : x - 1 - 1 = 0
    · exact Or.inl h
    · exact Or.inr (chain_certified _ (by omega))
  · exact ⟨w - (x - 1 - 1), by rw [chain_up]; show w - (w - (x - 1 - 1)) = x - 1 - 1; omega⟩

example : ∀ r x w, chainSys.honest r → chainSys.voted r x → chainSys.voted r w → chainSys.view x < chainSys.view w →
    ∃ l, GC chainSys l ∧ chainSys.view (chainSys.par (chainSys.par x)) ≤ chainSys.view l ∧
      chainSys.view l < chainSys.view w ∧ (chainSys.view l < chainSys.view (chainSys.par w) ∨ Ext chainSys w l) :=
  fun _ x w _ hx _ hlt => chain_lock x w hx.2 hlt

end HsVerif.Props.C01
