import HsVerif.Props.C19
import HsVerif.Props.C19Gen
/-! C19 — set semantics carried over to the regenerated bit-field methods (`Gen/BitfieldMethods.lean`, translated from
`bitfield.go` on every run): `Props/C19.add_is_insert` through the bridges of `Props/C19Gen`. -/
namespace HsVerif.Props.C19GenCor
open HsVerif.Model HsVerif.Props.C19 HsVerif.Props.C19Gen HsVerif.Gen.Methods

/-- ON THE REGENERATED CODE: after `Add(id)` (as translated from the Go source of this run), `Contains(j)` answers
`j = id ∨ Contains(j) before` — insertion into a set, for every bit-field value, every id ≥ 1 and every j ≥ 1 —
and neither call indexes out of range. -/
theorem gen_add_is_insert (bf : Bitfield) (id j : Nat) (hid : 1 ≤ id) (hj : 1 ≤ j) :
    let a := Bitfield_Add bf.data (bf.len : Int) (id : Int)
    ((Bitfield_Contains a.1.1 a.1.2 (j : Int)).2.1 = true ↔
      (j = id ∨ (Bitfield_Contains bf.data (bf.len : Int) (j : Int)).2.1 = true)) ∧
    a.2.2 = true ∧ (Bitfield_Contains a.1.1 a.1.2 (j : Int)).2.2 = true := by
  intro a
  have ha : a = (((bf.add id).data, ((bf.add id).len : Int)), (), true) := gen_Add_eq_model bf id hid
  rw [ha]
  simp only
  rw [gen_Contains_eq_model' (bf.add id) j hj, gen_Contains_eq_model' bf j hj]
  simp only [and_self, and_true]
  rw [contains_iff_mem bf j hj, contains_iff_mem (bf.add id) j hj]
  exact add_is_insert bf id j hid

end HsVerif.Props.C19GenCor
