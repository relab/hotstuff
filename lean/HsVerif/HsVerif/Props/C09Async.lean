import HsVerif.Props.C09
/-! C09 under asynchronous vote verification.  Property theorems only.

Without `WithSyncVerification`, `CollectVote` runs on the event loop up to `go vm.verifyCert(cert, block)`
(`collectVotePre`) and `verifyCert` runs later, atomically under `vm.mut`, in whatever state the replica
is in by then and with the block captured at arrival (`verifyCertM`).  The theorems here are about
those two pieces in ARBITRARY states (the state in which a verification ends is unrelated to the one in
which it began), and tie them to the synchronous handler of `Props/C09.lean`. -/
namespace HsVerif.Props.C09Async
open HsVerif.Model

/-- **The synchronous handler is the two pieces run back to back.** -/
theorem sync_is_pre_then_verify (k : Keys) (c : RCfg) (id : Nat) (sig : Option Sig) (hash : Hash) (d : Bool) :
    collectVote k c id sig hash d =
      (do match ← collectVotePre id sig hash d with
          | none => pure ()
          | some b => verifyCertM k c sig hash b) :=
  collectVote_eq_pre_then_verify k c id sig hash d

/-- **The vote store invariant survives every interleaving**: a verification that ends — in whatever
state, however long after it began, for whatever block was captured — keeps the invariant of
`Props/C09.lean` (pairwise different signers per block, each a verified single-signer vote, fewer than
a quorum waiting). -/
theorem late_verification_keeps_invariant (k : Keys) (c : RCfg) (sig : Option Sig) (hash : Hash) (b : Block)
    (hq : 2 ≤ c.cfg.quorum) (hw : ∀ sg, sig = some sg → sg.WF) (hl : ∀ sg, sig = some sg → sg.len = 1)
    (s : RState) (h : VMI k c s) :
    VMI k c ((verifyCertM k c sig hash b).run s).2 :=
  (verifyCertM_vmi k c sig hash b s hq hw hl h).1

/-- **Only at a quorum, also when verification ends late**: the end of a verification queues at most one
event, a NewView with a certificate assembled from at least a quorum of stored votes for that block
(distinct signers, each a verified single-signer vote). -/
theorem late_verification_qc_only_from_quorum (k : Keys) (c : RCfg) (sig : Option Sig) (hash : Hash) (b : Block)
    (hq : 2 ≤ c.cfg.quorum) (hw : ∀ sg, sig = some sg → sg.WF) (hl : ∀ sg, sig = some sg → sg.len = 1)
    (s : RState) (h : VMI k c s) :
    let s' := ((verifyCertM k c sig hash b).run s).2
    s'.queue = s.queue ∨ ∃ qc, s'.queue = s.queue ++ [.newview c.id { qc := some qc }] ∧ QCFromVotes k c hash qc :=
  (verifyCertM_vmi k c sig hash b s hq hw hl h).2

/-- **Starting a verification touches neither the vote store nor the event queue**, and one is started
only for a vote signed by exactly one replica (the hypothesis of the two theorems above). -/
theorem arrival_starts_verification_only (id : Nat) (sig : Option Sig) (hash : Hash) (d : Bool) (s : RState) :
    let r := (collectVotePre id sig hash d).run s
    r.2.votes = s.votes ∧ r.2.queue = s.queue ∧ ∀ b, r.1 = some b → ∃ sg, sig = some sg ∧ sg.len = 1 := by
  have h := collectVotePre_frame id sig hash d s
  exact ⟨h.1, h.2, (HsVerif.Proofs.run_res_of_triple _ _ _ (collectVotePre_spec id sig hash d s) s (.refl _)).2⟩

end HsVerif.Props.C09Async
