import HsVerif.Proofs.ReplicaEvidence
import HsVerif.Props.C02
/-! C03 — honest replicas vote once per view, only for well-formed leader proposals.
The replica is `Model/Replica.lean` (all handlers, event loop, block
store, certificate checks); "signs a vote for `b`" is the ghost record `GRec.vote b sender` that
`voteFor` appends in the same breath as it emits `Out.sign (blkMsg b.hash)`.  Runs (`runEvents`) and what one step does
to the invariant `Inv3` (`step_inv`, `start_inv`) are at the end of Proofs/ReplicaEvidence.lean. -/
open Std.Do
set_option mvcgen.warning false
namespace HsVerif.Props.C03
open HsVerif.Model

/-- Every reachable state (initial state, `Start`, then ANY sequence of delivered events —
proposals, votes, timeouts, new-views with arbitrary content, local timeouts) satisfies the
vote-discipline invariant. -/
theorem reachable_inv (k : Keys) (c : RCfg) (es : List Ev) :
    Inv3 k c (runEvents k c (start k c {}).1 es) :=
  runEvents_keeps (step_inv k c) es _ (start_inv k c {} (InvV_init k c))

/-- views of the blocks the replica signed votes for, in signing order -/
def voteViews (g : List GRec) : List Nat := g.filterMap GRec.voteView

/-- **At most one vote per view, in strictly increasing view order.** -/
theorem votes_increasing (k : Keys) (c : RCfg) (es : List Ev) :
    (voteViews (runEvents k c (start k c {}).1 es).ghost).Pairwise (· < ·) := by
  obtain ⟨_, h2, _⟩ := reachable_inv k c es
  dsimp only at h2
  unfold voteViews
  rw [List.pairwise_filterMap]
  refine h2.imp ?_
  intro a b h v1 hv1 v2 hv2
  refine h v1 v2 ?_ hv2
  cases a <;> simp_all [GRec.voteView, GRec.signedView]

/-- **Never votes in a view for which it already signed a timeout, nor in an earlier one**: if a
timeout for view `v` was signed before a vote for block `b`, then `v < b.view`. -/
theorem no_vote_after_timeout (k : Keys) (c : RCfg) (es : List Ev) (pre post : List GRec) (v : Nat) (b : Block) (id : Nat)
    (h : (runEvents k c (start k c {}).1 es).ghost = pre ++ [GRec.tmo v] ++ post)
    (hb : GRec.vote b id ∈ post) : v < b.view := by
  obtain ⟨_, h2, _⟩ := reachable_inv k c es
  dsimp only at h2
  rw [h, List.append_assoc, List.pairwise_append] at h2
  have := h2.2.1
  rw [List.singleton_append, List.pairwise_cons] at this
  exact this.1 _ hb v b.view rfl rfl

/-- **Votes only for well-formed leader proposals**: every block the replica signs a vote for was
proposed by the leader of its view, directly extends the block its certificate certifies (parent
= certified block, higher view), and that certificate was accepted by the replica's certificate
verifier — hence, by C02, carries a quorum of distinct genuine signatures. -/
theorem vote_wellformed (k : Keys) (c : RCfg) (es : List Ev) (b : Block) (id : Nat)
    (h : GRec.vote b id ∈ (runEvents k c (start k c {}).1 es).ghost) :
    id = c.leader b.view ∧ b.parent = b.qc.hash ∧ b.qc.view < b.view ∧
    ∃ s0 : RState, verifyQC (env k c s0) b.qc = true := by
  obtain ⟨_, _, h3⟩ := reachable_inv k c es
  exact h3 b id h

/-- ... so the certificate is sound in the sense of C02. -/
theorem vote_qc_quorum (k : Keys) (c : RCfg) (es : List Ev) (b : Block) (id : Nat)
    (h : GRec.vote b id ∈ (runEvents k c (start k c {}).1 es).ghost)
    (hs : ∀ s0, C02.StoreOK (env k c s0)) (hw : C02.QC.WF b.qc) :
    (b.qc.hash = genesisHash ∧ b.qc.view = 0) ∨ ∃ s0 blk sg, (env k c s0).get b.qc.hash = some blk ∧ blk.view = b.qc.view ∧
      b.qc.sig = some sg ∧ C02.QuorumSigned (env k c s0) sg (blkMsg b.qc.hash) := by
  obtain ⟨_, _, _, s0, hv⟩ := vote_wellformed k c es b id h
  rcases C02.verifyQC_sound (env k c s0) b.qc (hs s0) hw hv with h | ⟨blk, sg, h1, _, h3, h4, h5⟩
  · exact Or.inl h
  · exact Or.inr ⟨s0, blk, sg, h1, h3, h4, h5⟩

/-- The signing primitive and the ghost record are one step: `voteFor` emits exactly the
signature request for the block's bytes and appends exactly the vote record. -/
theorem voteFor_signs (c : RCfg) (b : Block) (id : Nat) (o : List Out) (g : List GRec) :
    ⦃fun s => ⌜s.out = o ∧ s.ghost = g⌝⦄ voteFor c b id
    ⦃⇓ _ s => ⌜s.out = o ++ [.sign (blkMsg b.hash)] ∧ s.ghost = g ++ [.vote b id]⌝⦄ := by
  mvcgen [voteFor, signMsg, emit] <;> simp_all +zetaDelta

end HsVerif.Props.C03
