import HsVerif.Props.C01Ledger
import HsVerif.Props.C03
/-! C07, the clause "the view of the last committed block never decreases".

The committer moves `committed` only to a block whose view is above that of the block committed
before the call (`commitInner` walks down stored parent links only while the view is above the
committed view and sets `committed` on the way back up), so no system-level fact is needed; the
Hoare-logic chain through all handlers is in Proofs/ReplicaLog.lean.  The side condition
`waitCommits s = []` (no internal commit event sits in the lists of deferred events) holds in the
initial state and is preserved; it is discharged below for every run from the initial state and, in
`committed_view_never_decreases_sys`, for every reachable state of the system of replica models. -/
namespace HsVerif.Props.C07Commit
open HsVerif.Model HsVerif.Props.C03 HsVerif.Props.C01Ledger

theorem committed_view_never_decreases_step (k : Keys) (c : RCfg) (s : RState) (e : Ev) (hw : waitCommits s = []) :
    s.committed.view ≤ (step k c s e).1.committed.view ∧ waitCommits (step k c s e).1 = [] :=
  ⟨(HsVerif.Model.step_log k c s e hw).view_le, (HsVerif.Model.step_log k c s e hw).wait⟩

theorem committed_view_never_decreases_run (k : Keys) (c : RCfg) (es : List Ev) (s : RState) (hw : waitCommits s = []) :
    s.committed.view ≤ (runEvents k c s es).committed.view ∧ waitCommits (runEvents k c s es) = [] :=
  runEvents_keeps (I := fun s' => s.committed.view ≤ s'.committed.view ∧ waitCommits s' = [])
    (fun s' e h => ⟨Nat.le_trans h.1 (committed_view_never_decreases_step k c s' e h.2).1, (committed_view_never_decreases_step k c s' e h.2).2⟩)
    es s ⟨Nat.le_refl _, hw⟩

/-- **between any two points of any run from the initial state** (any events, in any order) -/
theorem committed_view_never_decreases (k : Keys) (c : RCfg) (es more : List Ev) :
    (runEvents k c (start k c {}).1 es).committed.view ≤ (runEvents k c (start k c {}).1 (es ++ more)).committed.view := by
  obtain ⟨_, _, _, hw0, _, _⟩ := HsVerif.Props.C01Ledger.start_log k c {} rfl
  have h1 := (committed_view_never_decreases_run k c es _ hw0).2
  have : runEvents k c (start k c {}).1 (es ++ more) = runEvents k c (runEvents k c (start k c {}).1 es) more := by
    simp [runEvents, List.foldl_append]
  rw [this]
  exact (committed_view_never_decreases_run k c more _ h1).1

/-- **in the system of replica models**: across any action of the adversary from any reachable state -/
theorem committed_view_never_decreases_sys (k : Keys) (C : SysCfg) (σ : SysState) (hr : Reach k C σ) (a : SysAct)
    (i : Nat) (s s' : RState) (hs : σ.reps.lookup i = some s) (hs' : (sysStep k C σ a).reps.lookup i = some s') :
    s.committed.view ≤ s'.committed.view :=
  sysStep_rep_rel k C σ a (fun _ s s' => waitCommits s = [] → s.committed.view ≤ s'.committed.view)
    (fun _ _ _ => Nat.le_refl _)
    (fun i s t nb hw => (HsVerif.Model.start_log k (C.rcfg i) { s with truth := t, nextBytes := nb } hw).view_le)
    (fun i s t nb e hw => (HsVerif.Model.step_log k (C.rcfg i) { s with truth := t, nextBytes := nb } e hw).view_le)
    (fun _ _ _ _ => Nat.le_refl _) i s s' hs hs' (HsVerif.SysLedger.reach_wait k C σ hr i s hs)

end HsVerif.Props.C07Commit
