import HsVerif.Proofs.ReplicaFrames
import HsVerif.Model.Replica
import HsVerif.Proofs.CertComplete
import HsVerif.Props.C02
/-! C08 — timeouts form a certificate exactly when a quorum timed out in that view.

`collectorAdd` is `timeoutCollector.add` (with `fix: … counts a view's quorum over that view's
timeouts only`); the conditions under which `OnRemoteTimeout` hands a message to the collector
(`fix: a timeout message must be signed by the replica it is attributed to`) are `Accepted`. -/
namespace HsVerif.Props.C08
open HsVerif.Model

/-- collector invariant: at most one message per (view, sender) -/
def Keyed (ts : List TimeoutMsg) : Prop := ts.Pairwise (fun a b => ¬ (a.view = b.view ∧ a.id = b.id))

def ofView (ts : List TimeoutMsg) (v : Nat) : List TimeoutMsg := ts.filter (fun x => x.view == v)

theorem keyed_filter (ts : List TimeoutMsg) (p : TimeoutMsg → Bool) (h : Keyed ts) : Keyed (ts.filter p) :=
  List.Pairwise.filter p h

/-- A duplicate (same view, same sender) is ignored: nothing changes, no quorum is reported. -/
theorem add_duplicate (q : Nat) (ts : List TimeoutMsg) (t : TimeoutMsg)
    (h : ∃ x ∈ ts, x.view = t.view ∧ x.id = t.id) : collectorAdd q ts t = (ts, none) := by
  unfold collectorAdd
  have : ts.any (fun x => x.view == t.view && x.id == t.id) = true := by
    obtain ⟨x, hx, h1, h2⟩ := h
    rw [List.any_eq_true]; exact ⟨x, hx, by simp [h1, h2]⟩
  simp [this]

theorem keyed_snoc (ts : List TimeoutMsg) (t : TimeoutMsg) (hk : Keyed ts)
    (hnew : ¬ ∃ x ∈ ts, x.view = t.view ∧ x.id = t.id) : Keyed (ts ++ [t]) := by
  unfold Keyed
  rw [List.pairwise_append]
  refine ⟨hk, by simp, ?_⟩
  intro a ha b hb
  simp at hb; subst hb
  intro h; exact hnew ⟨a, ha, h.1, h.2⟩

theorem add_new (q : Nat) (ts : List TimeoutMsg) (t : TimeoutMsg)
    (hnew : ¬ ∃ x ∈ ts, x.view = t.view ∧ x.id = t.id) :
    collectorAdd q ts t = if (ofView (ts ++ [t]) t.view).length < q then (ts ++ [t], none)
      else ((ts ++ [t]).filter (fun x => x.view != t.view), some (ofView (ts ++ [t]) t.view)) := by
  have hany : ts.any (fun x => x.view == t.view && x.id == t.id) = false := by
    rw [Bool.eq_false_iff]; intro h
    rw [List.any_eq_true] at h
    obtain ⟨x, hx, h2⟩ := h
    simp at h2
    exact hnew ⟨x, hx, h2.1, h2.2⟩
  unfold collectorAdd
  simp only [hany, Bool.false_eq_true, ↓reduceIte]
  rfl

/-- **Exactly when**: a fresh message of view `v` completes a quorum iff, with it, the collector
holds at least `quorum` messages *of view `v`*; then exactly those messages are returned (all of
view `v`, pairwise different senders, the new one among them) and removed, and the messages of
every other view are untouched; otherwise the message is simply kept. -/
theorem collector_exact (q : Nat) (ts : List TimeoutMsg) (t : TimeoutMsg) (hk : Keyed ts)
    (hnew : ¬ ∃ x ∈ ts, x.view = t.view ∧ x.id = t.id) :
    let same := ofView (ts ++ [t]) t.view
    (q ≤ same.length → collectorAdd q ts t = ((ts ++ [t]).filter (fun x => x.view != t.view), some same)) ∧
    (same.length < q → collectorAdd q ts t = (ts ++ [t], none)) ∧
    (∀ x ∈ same, x.view = t.view) ∧ t ∈ same ∧ Keyed same := by
  refine ⟨fun hq => ?_, fun hq => ?_, ?_, ?_, keyed_filter _ _ (keyed_snoc ts t hk hnew)⟩
  · rw [add_new q ts t hnew, if_neg (Nat.not_lt.mpr hq)]
  · rw [add_new q ts t hnew, if_pos hq]
  · intro x hx
    simp [ofView] at hx
    rcases hx with ⟨_, h⟩ | ⟨rfl, _⟩
    · exact h
    · rfl
  · simp [ofView]

/-- **Timeouts for one view never count toward, or spoil, another view's quorum**: whatever
`add` does, the messages held for any other view are exactly what they were. -/
theorem other_views_untouched (q : Nat) (ts : List TimeoutMsg) (t : TimeoutMsg) (v : Nat) (hv : v ≠ t.view) :
    ofView (collectorAdd q ts t).1 v = ofView ts v := by
  unfold collectorAdd ofView
  split
  · rfl
  · simp only
    split
    · simp [List.filter_append, hv.symm, beq_iff_eq]
    · simp only [List.filter_filter]
      rw [List.filter_append]
      have : List.filter (fun a => (a.view == v) && (a.view != t.view)) [t] = [] := by simp
      rw [this, List.append_nil]
      apply List.filter_congr
      intro x _
      by_cases h : x.view = v
      · simp [h, hv]
      · simp [h]

/-- the collector keeps its invariant -/
theorem add_keyed (q : Nat) (ts : List TimeoutMsg) (t : TimeoutMsg) (hk : Keyed ts) : Keyed (collectorAdd q ts t).1 := by
  by_cases hnew : ∃ x ∈ ts, x.view = t.view ∧ x.id = t.id
  · rw [add_duplicate q ts t hnew]; exact hk
  · rw [add_new q ts t hnew]
    split
    · exact keyed_snoc ts t hk hnew
    · exact keyed_filter _ _ (keyed_snoc ts t hk hnew)

/-- what `OnRemoteTimeout` requires of a timeout message before it reaches the collector: the view
signature is the sender's own, single, and verifies over the view -/
def Accepted (T : Truth) (c : Cfg) (t : TimeoutMsg) : Prop :=
  ∃ s, t.viewSig = some s ∧ s.WF ∧ s.len = 1 ∧ s.participants = [t.id] ∧ c.has t.id = true ∧
    verify T c s (viewMsg t.view) = true

/-- **The certificate built from a reported quorum verifies** at every replica with the same
configuration (n ≥ 2): the view signatures of `quorum` accepted messages of view `v` from pairwise
different senders combine, and the resulting TC passes `VerifyTimeoutCert`. -/
theorem tc_verifies (E : CertEnv) (v : Nat) (l : List TimeoutMsg)
    (hv : ∀ x ∈ l, x.view = v) (hk : (l.map (·.id)).Nodup) (hq : E.cfg.quorum ≤ l.length) (h2 : 2 ≤ l.length)
    (ha : ∀ x ∈ l, Accepted E.T E.cfg x) :
    ∃ sigs sg, l.map (·.viewSig) = sigs.map some ∧ combine E.cfg sigs = .ok sg ∧ verifyTC E ⟨some sg, v⟩ = true := by
  let d : Sig := .multi .ecdsa []
  have key : ∀ x ∈ l, x.viewSig = some (x.viewSig.getD d) ∧ E.cfg.has x.id = true ∧
      ∃ bits, SingleSig E.T E.cfg x.id (viewMsg v) (x.viewSig.getD d) bits := fun x hx => by
    obtain ⟨s, h1, hw, hl, hp, hc, hver⟩ := ha x hx
    rw [h1]
    exact ⟨rfl, hc, single_of_verify E.T E.cfg x.id _ s hw hl hp (hv x hx ▸ hver)⟩
  obtain ⟨sg, hc, hlen, _, _, hver, _⟩ := combine_singles E.T E.cfg (·.id) (fun _ => viewMsg v)
    (fun x => x.viewSig.getD d) l hk (fun x hx => (key x hx).2.1) h2 (fun x hx => (key x hx).2.2)
  refine ⟨l.map fun x => x.viewSig.getD d, sg, ?_, hc, verifyTC_of_verify E sg v (hlen ▸ hq) (hver _ fun _ _ => rfl)⟩
  rw [List.map_map]
  exact List.map_congr_left fun x hx => (key x hx).1

open HsVerif.Proofs in
/-- a sync info that carries just a verifying timeout certificate is accepted with that
certificate's view, under both timeout rules -/
theorem tc_accepted (k : Keys) (c : RCfg) (s : RState) (tc : TC)
    (h : verifyTC (env k c s) tc = true) : Accepts k c { qc := none, tc := some tc, agg := none } s tc.view := by
  have hr : (verifySyncInfo k c { qc := none, tc := some tc, agg := none }).run s = pure (.ok (none, tc.view, true), s) := by
    by_cases hc : c.agg = true <;> simp [verifySyncInfo, verifyTCM_run, hc, h]
  exact ⟨none, true, congrArg Prod.fst hr⟩

open HsVerif.Proofs in
/-- **The certificate moves a replica that is still in the timed-out view (or behind it) to the view
after the timed-out one**: a verifying TC for view `v ≥` the replica's view makes `advanceView` end in
view `v + 1` (`ViewStates.EnterViewAfter`, `fix:` a284fef: the view after the certificate's, not `s.view + 1`, so a
lagging replica catches up). -/
theorem tc_moves (k : Keys) (c : RCfg) (s : RState) (tc : TC)
    (h : verifyTC (env k c s) tc = true) (hv : s.view ≤ tc.view) :
    ((advanceView k c { qc := none, tc := some tc, agg := none }).run s).2.view = tc.view + 1 := by
  have := run_res_of_triple (advanceView k c { qc := none, tc := some tc, agg := none })
    (fun s' => s'.view = s.view ∧ Accepts k c { qc := none, tc := some tc, agg := none } s' tc.view)
    (fun _ s' => s'.view = tc.view + 1) (advanceView_progress k c _ s.view tc.view hv) s ⟨rfl, tc_accepted k c s tc h⟩
  exact this

end HsVerif.Props.C08
