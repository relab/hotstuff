import HsVerif.Proofs.IDSet
import HsVerif.Gen.Bitfield
/-! C19 — participant sets behave as mathematical sets of replica IDs. -/
namespace HsVerif.Props.C19
open HsVerif.Model HsVerif.Model.Bitfield

/-- A bit-field state reachable through the public API: empty, rebuilt from any byte string, or
extended by `Add` with an id ≥ 1 (id 0 makes the Go code panic and is outside the property). -/
inductive Reach : Bitfield → Prop
  | empty : Reach Bitfield.empty
  | fromBytes (b : List Nat) : Reach (Bitfield.fromBytes b)
  | add (bf : Bitfield) (id : Nat) : Reach bf → 1 ≤ id → Reach (bf.add id)

theorem len_eq_card (bf : Bitfield) (h : Reach bf) : bf.len = bf.ids.length := by
  induction h with
  | empty => exact inv_empty
  | fromBytes b => exact inv_fromBytes b
  | add bf id _ hid ih => exact inv_add bf id hid ih

/-- Iteration reports each member once, in ascending order (any state, reachable or not). -/
theorem iteration_ascending (bf : Bitfield) : bf.ids.Pairwise (· < ·) := idsOf_pairwise bf.data

theorem iteration_nodup (bf : Bitfield) : bf.ids.Nodup := idsOf_nodup bf.data

theorem add_is_insert (bf : Bitfield) (id j : Nat) (hid : 1 ≤ id) :
    j ∈ (bf.add id).ids ↔ j = id ∨ j ∈ bf.ids := mem_ids_add bf id j hid

theorem contains_iff_mem (bf : Bitfield) (id : Nat) (hid : 1 ≤ id) :
    bf.contains id = true ↔ id ∈ bf.ids := by
  simp [contains_eq bf id hid]

/-- Full statement for insertion sequences: after inserting `xs` (all ≥ 1) into the empty set,
membership, size and iteration are exactly those of the ideal set of `xs`. -/
theorem insert_sequence (xs : List Nat) (hx : ∀ x ∈ xs, 1 ≤ x) :
    let bf := xs.foldl Bitfield.add Bitfield.empty
    (∀ j, j ∈ bf.ids ↔ j ∈ xs) ∧ bf.ids.Pairwise (· < ·) ∧ bf.len = bf.ids.length ∧
    (∀ j, 1 ≤ j → (bf.contains j = true ↔ j ∈ xs)) := by
  obtain ⟨hi, hm⟩ := foldl_add_spec xs Bitfield.empty hx inv_empty
  simp only [ids_empty, List.not_mem_nil, false_or] at hm
  exact ⟨hm, iteration_ascending _, hi, fun j hj => by rw [contains_iff_mem _ _ hj, hm]⟩

/-! Reconstruction from bytes: the byte form is kept, members are exactly the set bits
(bit k of the string ↔ id k+1), size is their number. -/

theorem fromBytes_bytes (b : List Nat) : (Bitfield.fromBytes b).bytes = b := rfl

theorem fromBytes_members (b : List Nat) (j : Nat) :
    j ∈ (Bitfield.fromBytes b).ids ↔ 1 ≤ j ∧ bitAt b (j - 1) = true := mem_idsOf b j

theorem fromBytes_len (b : List Nat) :
    (Bitfield.fromBytes b).len = ((List.range (8 * b.length)).filter (bitAt b)).length := by
  simp [Bitfield.fromBytes, idsOf]

/-- A reachable set rebuilt from its byte form equals the original. -/
theorem fromBytes_roundtrip (bf : Bitfield) (h : Reach bf) : Bitfield.fromBytes bf.bytes = bf :=
  congrArg (Bitfield.mk bf.data) (len_eq_card bf h).symm

/-- ECDSA/EdDSA signer lists: whatever is combined, a successful `Combine` yields a list without
repeated signers, namely the concatenation of its inputs — so `Len` = number of distinct signers. -/
theorem multi_combine_distinct (sigs : List (List Nat)) (r : List Nat)
    (h : multiCombine sigs = .ok r) : r.Nodup ∧ r = sigs.flatten := by
  unfold multiCombine at h
  rw [multiCombineAux_eq sigs [] List.nodup_nil] at h
  by_cases hn : sigs.flatten.Nodup
  · split at h
    · cases h
    · simp only [List.nil_append, hn, ↓reduceIte, Except.ok.injEq] at h
      exact h ▸ ⟨hn, rfl⟩
  · split at h <;> simp [hn] at h

/-- ... and `Combine` succeeds exactly on ≥ 2 signatures whose signers are all distinct. -/
theorem multi_combine_ok_iff (sigs : List (List Nat)) (h2 : 2 ≤ sigs.length) :
    (∃ r, multiCombine sigs = .ok r) ↔ sigs.flatten.Nodup := by
  constructor
  · rintro ⟨r, h⟩
    obtain ⟨h1, rfl⟩ := multi_combine_distinct sigs r h
    exact h1
  · intro hn
    have : ¬ sigs.length < 2 := by omega
    exact ⟨sigs.flatten, by simp [multiCombine, this, multiCombineAux_eq sigs [] List.nodup_nil, hn]⟩

/-- The signer list of a signature by one replica, `[i]`, has no repetition and length one. -/
theorem sign_single (i : Nat) : [i].Nodup ∧ [i].length = 1 := by simp

/-- BLS aggregates: a successful `Combine` yields a bit-field whose size is the number of distinct
participants and whose members are exactly the union of the inputs' members. -/
theorem bls_combine_distinct (sigs : List Bitfield) (r : Bitfield) (h : blsCombine sigs = .ok r) :
    r.len = r.ids.length ∧ r.ids.Nodup ∧ ∀ j, j ∈ r.ids ↔ ∃ s ∈ sigs, j ∈ s.ids := by
  unfold blsCombine at h
  split at h
  · cases h
  · split at h
    · rename_i b hb
      obtain ⟨h1, h2⟩ := blsCombineAux_spec sigs Bitfield.empty b hb inv_empty
      cases h
      exact ⟨h1, iteration_nodup _, by simpa using h2⟩
    · cases h

/-! Bridging lemmas to the definitions regenerated from security/crypto/bitfield.go. -/

theorem gen_index (id : Nat) (hid : 1 ≤ id) :
    HsVerif.Gen.index (id : Int) = (((Bitfield.index id).1 : Int), ((Bitfield.index id).2 : Int)) := by
  unfold HsVerif.Gen.index Bitfield.index
  simp only
  have h : (id : Int) - 1 = ((id - 1 : Nat) : Int) := by omega
  rw [h, Int.tdiv_eq_ediv_of_nonneg (by omega), Int.tmod_eq_emod_of_nonneg (by omega)]
  simp

theorem gen_id (b i : Nat) : HsVerif.Gen.id (b : Int) (i : Int) = (Bitfield.idOf b i : Int) := by
  unfold HsVerif.Gen.id Bitfield.idOf; omega

/-- `id` inverts `index` (what ties `Add`/`Contains` to iteration). -/
theorem id_index (id : Nat) (hid : 1 ≤ id) :
    Bitfield.idOf (Bitfield.index id).1 (Bitfield.index id).2 = id := by
  unfold Bitfield.idOf Bitfield.index; simp only; omega

/-- Non-vacuity: ids across a byte boundary, inserted out of order and twice. -/
example : let bf := [9, 1, 8, 300, 9].foldl Bitfield.add Bitfield.empty
    bf.ids = [1, 8, 9, 300] ∧ bf.len = 4 ∧ bf.contains 8 = true ∧ bf.contains 7 = false := by decide

example : multiCombine [[3], [1, 2]] = .ok [3, 1, 2] ∧ multiCombine [[3], [1, 3]] = .error .overlap := by
  constructor <;> rfl

end HsVerif.Props.C19
