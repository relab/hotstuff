import HsVerif.Proofs.ReplicaRule
import HsVerif.Props.C01LockInv
/-! C01, layer B — the lock rule of chained and simplified HotStuff in the replica model
(`Model/Replica.lean`, all handlers), in the vocabulary of `Proofs/StoreWalk.lean`
(`sget`, `StoreExt`, `RuleHolds`, `LockFrom`) and `Proofs/ReplicaCommit.lean` (`Via`, `CommitChain`).

ONE-STEP statements from an arbitrary state: a vote is cast only if the vote rule held against the lock of that
moment, the lock moves only to a block two certificate links below a block voted for in the same step, and the
committed block changes only to a block the commit rule returned in the same step (the tail of a three-chain).
Nothing here needs `c.rules ≠ .fast`: for Fast-HotStuff `RuleHolds` is `True` and the lock never
moves, so the statements hold trivially; they have content for `.chained` and `.simple`. -/
namespace HsVerif.Props.C01Rule
open HsVerif.Model HsVerif.Proofs HsVerif.Props.C03

/-- **`Extends` is sound**: if `extendsM b t` answers `true` in state `s`, then in the state it leaves
`b` reaches `t` along stored parent links, descending while the view is above `t`'s and ending on
`t`'s hash. -/
theorem extends_sound (b t : Block) (s : RState) (h : ((extendsM b t).run s).1 = true) :
    StoreExt ((extendsM b t).run s).2 b t :=
  HsVerif.Model.extends_sound b t s h

theorem storeExt_grows (s s' : RState) (b t : Block)
    (hg : ∀ h x, sget s h = some x → sget s' h = some x) (h : StoreExt s b t) : StoreExt s' b t :=
  HsVerif.Model.storeExt_grows s s' b t hg h

theorem sget_stable_step (k : Keys) (c : RCfg) (s : RState) (e : Ev) (h : Hash) (x : Block)
    (hl : sget s h = some x) : sget (step k c s e).1 h = some x :=
  step_grows k c s e h x hl

theorem sget_stable_start (k : Keys) (c : RCfg) (s : RState) (h : Hash) (x : Block)
    (hl : sget s h = some x) : sget (start k c s).1 h = some x :=
  start_grows k c s h x hl

theorem storeExt_stable_run (k : Keys) (c : RCfg) (es : List Ev) (s : RState) (b t : Block) (h : StoreExt s b t) :
    StoreExt (runEvents k c s es) b t :=
  runEvents_keeps (I := fun s => StoreExt s b t) (fun s e => HsVerif.Model.storeExt_grows s _ b t (step_grows k c s e)) es s h

theorem ruleHolds_stable_step (k : Keys) (c : RCfg) (s : RState) (e : Ev) (w L : Block) (h : RuleHolds c s w L) :
    RuleHolds c (step k c s e).1 w L :=
  ruleHolds_grows c s _ w L (step_grows k c s e) h

/-- **A positive answer of the vote rule is `RuleHolds` against the lock** (which the rule leaves
alone), in the state the rule leaves behind (it may have fetched blocks). -/
theorem voteRule_sound (c : RCfg) (v : Nat) (b : Block) (agg : Option AggQC) (s : RState)
    (h : ((voteRule c v b agg).run s).1 = true) :
    ((voteRule c v b agg).run s).2.lock = s.lock ∧ RuleHolds c ((voteRule c v b agg).run s).2 b s.lock := by
  have := voteRule_rule c v b agg s
  exact ⟨this.1, this.2 h⟩

/-- **The voter's checks pass only if the vote rule held against the lock** (which they leave alone). -/
theorem voterVerify_sound (k : Keys) (c : RCfg) (id : Nat) (b : Block) (agg : Option AggQC) (s : RState)
    (h : ((voterVerify k c id b agg).run s).1 = .ok ()) :
    ((voterVerify k c id b agg).run s).2.lock = s.lock ∧ RuleHolds c ((voterVerify k c id b agg).run s).2 b s.lock := by
  have h1 := run_res_of_triple _ (fun _ => True) _ (voterVerify_rh k c id b agg) s trivial h
  have h2 := (voterVerify_steps k c id b agg s).proj Upd.lock_eq
  unfold RH at h1
  rw [h2] at h1
  exact ⟨h2, h1⟩

theorem ghost_appends_voteFor (c : RCfg) (b : Block) (id : Nat) (s : RState) :
    ((voteFor c b id).run s).2.ghost = s.ghost ++ [.vote b id] :=
  voteFor_ghost c b id s

theorem ghost_appends_onValidPropose (k : Keys) (c : RCfg) (id : Nat) (b : Block) (s : RState) :
    ((onValidPropose k c id b).run s).2.ghost = s.ghost ++ [.vote b id] := by
  have hv := run_res_of_triple _ _ _ (onValidPropose_rule k c id b ((tryCommit_steps c b).frame Upd.vs_eq (s.ghost, s.lastVoted))
    (voteFor_vs c b id s.ghost s.lastVoted)
    (upd_of_notin (bad := [.voted, .timedOut, .adv]) (fun hu ht e => (hu.vs_eq ht).trans e) _)) s rfl
  exact congrArg Prod.fst hv

theorem ghost_appends_createAndPropose (k : Keys) (c : RCfg) (si : SyncInfo) (s : RState) :
    ∃ new, ((createAndPropose k c si).run s).2.ghost = s.ghost ++ new :=
  (createAndPropose_steps k c si s).ghost_appends

theorem ghost_appends_collectVote (k : Keys) (c : RCfg) (id : Nat) (sig : Option Sig) (h : Hash) (d : Bool) (s : RState) :
    ((collectVote k c id sig h d).run s).2.ghost = s.ghost :=
  congrArg Prod.fst ((collectVote_steps k c id sig h d s).proj Upd.vs_eq)

theorem ghost_appends_advanceView (k : Keys) (c : RCfg) (si : SyncInfo) (s : RState) :
    ∃ new, ((advanceView k c si).run s).2.ghost = s.ghost ++ new :=
  (advanceView_steps k c si s).ghost_appends

theorem ghost_appends_onRemoteTimeout (k : Keys) (c : RCfg) (t : TimeoutMsg) (s : RState) :
    ∃ new, ((onRemoteTimeout k c t).run s).2.ghost = s.ghost ++ new :=
  (onRemoteTimeout_steps k c t s).ghost_appends

theorem ghost_appends_onLocalTimeout (k : Keys) (c : RCfg) (s : RState) :
    ∃ new, ((onLocalTimeout k c).run s).2.ghost = s.ghost ++ new :=
  (onLocalTimeout_steps k c s).ghost_appends

theorem ghost_appends_onPropose (k : Keys) (c : RCfg) (id : Nat) (b : Block) (agg : Option AggQC) (s : RState) :
    ∃ new, ((onPropose k c id b agg).run s).2.ghost = s.ghost ++ new :=
  (onPropose_steps k c id b agg s).ghost_appends

theorem ghost_appends_tick (k : Keys) (c : RCfg) (s : RState) :
    ∃ new, ((tick k c).run s).2.ghost = s.ghost ++ new :=
  (tick_steps k c s).ghost_appends

theorem ghost_appends_runLoop (k : Keys) (c : RCfg) (fuel : Nat) (s : RState) :
    ∃ new, ((runLoop k c fuel).run s).2.ghost = s.ghost ++ new :=
  (runLoop_steps k c fuel s).ghost_appends

theorem ghost_appends_step (k : Keys) (c : RCfg) (s : RState) (e : Ev) :
    ∃ new, (step k c s e).1.ghost = s.ghost ++ new := by
  obtain ⟨new, hg, _⟩ := step_vr k c s e
  exact ⟨new, hg⟩

theorem ghost_appends_start (k : Keys) (c : RCfg) (s : RState) :
    ∃ new, (start k c s).1.ghost = s.ghost ++ new := by
  obtain ⟨new, hg, _⟩ := start_vr k c s
  exact ⟨new, hg⟩

/-- **A vote is cast only if the vote rule holds against the lock** (one delivered event, ANY state
`s`, ANY event).  Let `s'` be the state after the step and `new` what the step appended to the
ghost history.  For every vote record `GRec.vote w id` in `new` there is a block `L` — the lock at
the moment the vote rule was evaluated for `w` — such that
* `s.lock.view ≤ L.view ≤ s'.lock.view`,
* `RuleHolds c s' w L`: chained — the block certified by `w`'s QC is stored and has a view above
  `L`'s, or `w` reaches `L` along stored parent links; simplified — the block certified by `w`'s QC is
  stored and its view is not below `L`'s,
* `L` is the lock `s.lock` the step started with, or `L` lies two certificate links (stored blocks)
  below a block voted for in this very step. -/
theorem vote_respects_lock (k : Keys) (c : RCfg) (s : RState) (e : Ev) (new : List GRec)
    (hnew : (step k c s e).1.ghost = s.ghost ++ new) (w : Block) (id : Nat) (hm : GRec.vote w id ∈ new) :
    ∃ L, s.lock.view ≤ L.view ∧ L.view ≤ (step k c s e).1.lock.view ∧ RuleHolds c (step k c s e).1 w L ∧
      (L = s.lock ∨ ∃ x id', GRec.vote x id' ∈ new ∧ Via c (step k c s e).1 x L) :=
  ((step_vr k c s e).core hnew).rule w id hm

theorem vote_respects_lock_start (k : Keys) (c : RCfg) (s : RState) (new : List GRec)
    (hnew : (start k c s).1.ghost = s.ghost ++ new) (w : Block) (id : Nat) (hm : GRec.vote w id ∈ new) :
    ∃ L, s.lock.view ≤ L.view ∧ L.view ≤ (start k c s).1.lock.view ∧ RuleHolds c (start k c s).1 w L ∧
      (L = s.lock ∨ ∃ x id', GRec.vote x id' ∈ new ∧ Via c (start k c s).1 x L) :=
  ((start_vr k c s).core hnew).rule w id hm

/-- **The lock moves only to the grandparent (by certificate links) of a block voted for in the same
step**, and never to a lower view. -/
theorem lock_moves_to_voted_grandparent (k : Keys) (c : RCfg) (s : RState) (e : Ev) (new : List GRec)
    (hnew : (step k c s e).1.ghost = s.ghost ++ new) :
    s.lock.view ≤ (step k c s e).1.lock.view ∧
    ((step k c s e).1.lock = s.lock ∨ ∃ x id, GRec.vote x id ∈ new ∧ Via c (step k c s e).1 x (step k c s e).1.lock) :=
  ⟨((step_vr k c s e).core hnew).lockv, ((step_vr k c s e).core hnew).lock⟩

theorem lock_moves_to_voted_grandparent_start (k : Keys) (c : RCfg) (s : RState) (new : List GRec)
    (hnew : (start k c s).1.ghost = s.ghost ++ new) :
    s.lock.view ≤ (start k c s).1.lock.view ∧
    ((start k c s).1.lock = s.lock ∨ ∃ x id, GRec.vote x id ∈ new ∧ Via c (start k c s).1 x (start k c s).1.lock) :=
  ⟨((start_vr k c s).core hnew).lockv, ((start_vr k c s).core hnew).lock⟩

/-- **`LockFrom` holds in every reachable state** (chained HotStuff): the lock is genesis or the stored
grandparent, by certificate links of which the second is not the empty hash, of a block voted for. -/
theorem lockFrom_reachable (k : Keys) (c : RCfg) (hr : c.rules = .chained) (es : List Ev) :
    LockFrom (runEvents k c (start k c {}).1 es) :=
  C01LockInv.lock_from_votes_chained k c hr es

/-- The same for simplified HotStuff (and any ruleset), without the "not the empty hash" clause, which
simplified HotStuff does not check: the lock is genesis or two stored certificate links below a
block voted for. -/
theorem lockFromC_reachable (k : Keys) (c : RCfg) (es : List Ev) :
    LockFromC c (runEvents k c (start k c {}).1 es) :=
  runEvents_keeps (fun s e => lockFromC_of_vr c s _ (step_grows k c s e) (step_vr k c s e)) es _
    (lockFromC_of_vr c {} _ (start_grows k c {}) (start_vr k c {}) (Or.inl rfl))

/-- **Where the lock a vote was checked against comes from**, in the vocabulary of `LockFrom`
(chained HotStuff): if `LockFrom s` holds before the step, the block `L` of `vote_respects_lock` is
genesis or the stored grandparent of a block voted for by the end of the step. -/
theorem vote_respects_lock_from (k : Keys) (c : RCfg) (hr : c.rules = .chained) (s : RState) (e : Ev)
    (hL : LockFrom s) (new : List GRec)
    (hnew : (step k c s e).1.ghost = s.ghost ++ new) (w : Block) (id : Nat) (hm : GRec.vote w id ∈ new) :
    ∃ L, s.lock.view ≤ L.view ∧ L.view ≤ (step k c s e).1.lock.view ∧ RuleHolds c (step k c s e).1 w L ∧
      (L = genesisBlock ∨ ∃ x id' p, GRec.vote x id' ∈ (step k c s e).1.ghost ∧
        sget (step k c s e).1 x.qc.hash = some p ∧ p.qc.hash ≠ "" ∧ sget (step k c s e).1 p.qc.hash = some L) := by
  obtain ⟨L, h1, h2, h3, h4⟩ := vote_respects_lock k c s e new hnew w id hm
  refine ⟨L, h1, h2, h3, ?_⟩
  have hg := step_grows k c s e
  rcases h4 with h4 | ⟨x, id', hx, p, l1, l2, hp⟩
  · subst h4
    rcases hL with hL | ⟨x, id', p, hx, l1, hp, l2⟩
    · exact Or.inl hL
    · exact Or.inr ⟨x, id', p, by rw [hnew]; exact List.mem_append_left _ hx, hg _ _ l1, hp, hg _ _ l2⟩
  · exact Or.inr ⟨x, id', p, by rw [hnew]; exact List.mem_append_right _ hx, l1, hp hr, l2⟩

/-- **A commit is a three-chain** (chained HotStuff): whenever `commitRule c b` answers `some b3` in
state `s`, then in the state `s'` it leaves there are stored blocks `b1`, `b2` with
`b —qc→ b1 —qc→ b2 —qc→ b3` (none of the three certificate hashes is empty), `b1`'s parent is `b2`,
`b2`'s parent is `b3`, and the views of `b3`, `b2`, `b1` are consecutive. -/
theorem commit_is_three_chain (c : RCfg) (hr : c.rules = .chained) (b b3 : Block) (s : RState)
    (h : ((commitRule c b).run s).1 = some b3) :
    ∃ b1 b2, b.qc.hash ≠ "" ∧ sget ((commitRule c b).run s).2 b.qc.hash = some b1 ∧
      b1.qc.hash ≠ "" ∧ sget ((commitRule c b).run s).2 b1.qc.hash = some b2 ∧
      b2.qc.hash ≠ "" ∧ sget ((commitRule c b).run s).2 b2.qc.hash = some b3 ∧
      b1.parent = b2.hash ∧ b1.view = b2.view + 1 ∧ b2.parent = b3.hash ∧ b2.view = b3.view + 1 := by
  have := commitChain_of_commitAns c b b3 _ ((commitRule_pure c b s).1 ▸ h)
  simpa only [CommitChain, hr] using this

/-- **Simplified HotStuff**: `some ggp` means `b —qc→ p —qc→ gp —qc→ ggp` through stored blocks, with
`ggp.view + 2 = p.view` and `gp.view = ggp.view + 1` (consecutive views; no parent links are checked). -/
theorem commit_is_three_chain_simple (c : RCfg) (hr : c.rules = .simple) (b ggp : Block) (s : RState)
    (h : ((commitRule c b).run s).1 = some ggp) :
    ∃ p gp, sget ((commitRule c b).run s).2 b.qc.hash = some p ∧ sget ((commitRule c b).run s).2 p.qc.hash = some gp ∧
      sget ((commitRule c b).run s).2 gp.qc.hash = some ggp ∧ ggp.view + 2 = p.view ∧ gp.view = ggp.view + 1 := by
  have := commitChain_of_commitAns c b ggp _ ((commitRule_pure c b s).1 ▸ h)
  simpa only [CommitChain, hr] using this

/-- Fast-HotStuff, for completeness: a two-chain of direct parents with consecutive views, starting
at `b` itself. -/
theorem commit_is_two_chain_fast (c : RCfg) (hr : c.rules = .fast) (b gp : Block) (s : RState)
    (h : ((commitRule c b).run s).1 = some gp) :
    ∃ p, b.qc.hash ≠ "" ∧ sget ((commitRule c b).run s).2 b.qc.hash = some p ∧
      p.qc.hash ≠ "" ∧ sget ((commitRule c b).run s).2 p.qc.hash = some gp ∧
      b.parent = p.hash ∧ b.view = p.view + 1 ∧ p.parent = gp.hash ∧ p.view = gp.view + 1 := by
  have := commitChain_of_commitAns c b gp _ ((commitRule_pure c b s).1 ▸ h)
  simpa only [CommitChain, hr] using this

/-- **What the commit rule does to the lock**: it leaves it alone, or moves it to a block of a
strictly higher view that lies two certificate links below `b` in the store. -/
theorem commitRule_locks_grandparent (c : RCfg) (b : Block) (s : RState) :
    ((commitRule c b).run s).2.lock = s.lock ∨
    (s.lock.view < ((commitRule c b).run s).2.lock.view ∧
      ∃ p, sget ((commitRule c b).run s).2 b.qc.hash = some p ∧
        sget ((commitRule c b).run s).2 p.qc.hash = some ((commitRule c b).run s).2.lock ∧
        (c.rules = .chained → p.qc.hash ≠ "")) :=
  lockStep_of_commitLock c b s.lock _ (commitRule_pure c b s).2

theorem commitChain_stable_step (k : Keys) (c : RCfg) (s : RState) (e : Ev) (b b3 : Block) (h : CommitChain c s b b3) :
    CommitChain c (step k c s e).1 b b3 :=
  commitChain_grows c s _ b b3 (step_grows k c s e) h

/-- **The committer commits the block it is given or nothing**: `commitInner fuel b` leaves
`committed` alone, or sets it (after walking down stored parent links to the previously committed
view and committing the ancestors on the way back up) to `b` itself; if it answers `false` it has
changed nothing. -/
theorem commitInner_all_or_nothing (fuel : Nat) (b : Block) (s : RState) :
    (((commitInner fuel b).run s).1 = false → ((commitInner fuel b).run s).2.committed = s.committed) ∧
    (((commitInner fuel b).run s).2.committed = s.committed ∨ ((commitInner fuel b).run s).2.committed = b) := by
  have I := commitInner_ci fuel b s
  refine ⟨fun h => (I.no h).2, ?_⟩
  cases hr : ((commitInner fuel b).run s).1 with
  | false => exact Or.inl (I.no hr).2
  | true =>
    obtain ⟨a, seg, _, he, hne⟩ := I.yes hr
    by_cases hs : seg = []
    · exact Or.inl (he hs)
    · exact Or.inr (hne hs)

/-- **`tryCommit c b` changes `committed` only to a block the commit rule returned for `b`**, i.e. to
the tail of a three-chain below `b` (`CommitChain`: the statement of `commit_is_three_chain` /
`commit_is_three_chain_simple`, in the state after). -/
theorem tryCommit_commits_rule_block (c : RCfg) (b : Block) (s : RState) :
    ((tryCommit c b).run s).2.committed = s.committed ∨
    CommitChain c ((tryCommit c b).run s).2 b ((tryCommit c b).run s).2.committed :=
  (tryCommit_tc c b s).comm

/-- **The committed block changes only by the commit rule** (one delivered event, any state): after
the step, `committed` is what it was, or it is the tail of a three-chain (`CommitChain`) below a
block voted for in this very step — the block the last successful `commitRule` call of the step
returned.  (Stronger than "returned block or a stored ancestor of it": `commitInner` either gets all
the way up to the returned block or changes nothing.) -/
theorem committed_only_by_rule (k : Keys) (c : RCfg) (s : RState) (e : Ev) (new : List GRec)
    (hnew : (step k c s e).1.ghost = s.ghost ++ new) :
    (step k c s e).1.committed = s.committed ∨
    ∃ x id, GRec.vote x id ∈ new ∧ CommitChain c (step k c s e).1 x (step k c s e).1.committed :=
  ((step_vr k c s e).core hnew).comm

theorem committed_only_by_rule_start (k : Keys) (c : RCfg) (s : RState) (new : List GRec)
    (hnew : (start k c s).1.ghost = s.ghost ++ new) :
    (start k c s).1.committed = s.committed ∨
    ∃ x id, GRec.vote x id ∈ new ∧ CommitChain c (start k c s).1 x (start k c s).1.committed :=
  ((start_vr k c s).core hnew).comm

/-! ### non-vacuity

A concrete run of a chained-HotStuff replica (id 1 of 4, fixed leader 2, BLS so that other replicas'
signatures verify without truth-table entries): proposals `P1 ← P2 ← P3 ← P4` of views 1..4, each
carrying a quorum certificate for its parent.  After `P1, P2, P3` the lock is `P1` and nothing but
genesis is committed; delivering `P4` appends a vote for `P4` (checked against the lock `P1`:
`L = s.lock` in `vote_respects_lock`), moves the lock to `P2` — two certificate links below `P4` —
and commits `P1`, the tail of the three-chain `P3, P2, P1` below `P4`.  Evaluated by the kernel. -/
section NonVacuity
def nvKeys : Keys := ⟨tmoMsgKey⟩
def nvCfg : RCfg := { n := 4, id := 1, rules := .chained, agg := false, scheme := .bls12, leaders := .fixed 2 }
def nvQC (h : Hash) (v : Nat) : QC :=
  ⟨some (.bls [⟨1, blkMsg h⟩, ⟨2, blkMsg h⟩, ⟨3, blkMsg h⟩] [] (((Bitfield.empty.add 1).add 2).add 3)), v, h⟩
def nvP1 : Block := { hash := "P1", parent := "G", view := 1, proposer := 2, qc := genesisQC }
def nvP2 : Block := { hash := "P2", parent := "P1", view := 2, proposer := 2, qc := nvQC "P1" 1 }
def nvP3 : Block := { hash := "P3", parent := "P2", view := 3, proposer := 2, qc := nvQC "P2" 2 }
def nvP4 : Block := { hash := "P4", parent := "P3", view := 4, proposer := 2, qc := nvQC "P3" 3 }
def nvS3 : RState :=
  runEvents nvKeys nvCfg (start nvKeys nvCfg {}).1 [.propose 2 nvP1 none, .propose 2 nvP2 none, .propose 2 nvP3 none]
def nvS4 : RState := (step nvKeys nvCfg nvS3 (.propose 2 nvP4 none)).1

deriving instance DecidableEq for GRec

set_option maxRecDepth 100000 in
example : nvS3.lock = nvP1 ∧ nvS3.committed = genesisBlock ∧
    nvS4.ghost = nvS3.ghost ++ [.adv 3 3 false, .vote nvP4 2] ∧ nvS4.lock = nvP2 ∧ nvS4.committed = nvP1 := by
  decide +kernel
end NonVacuity

end HsVerif.Props.C01Rule
