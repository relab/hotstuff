import HsVerif.Proofs.Leader
import HsVerif.Proofs.QuorumCount
import HsVerif.Gen.Leader
/-! C16 — all replicas agree on a valid leader for every view.

Agreement ("the same leader on every replica") is, on the model side, the fact that every scheme below
is a *function* of (configuration, shared seed, committed chain, query history) and of nothing else —
no replica id, clock, map order or global state enters.  The theorems `*_same_on_every_replica`,
`carousel_reads_committed_chain_only` and `reputation_same_history_same_answers` state exactly which
arguments the answer depends on; that the Go code has no further input is what the two/three-instance
correspondence checks on every run. -/
namespace HsVerif.Props.C16
open HsVerif.Model HsVerif.Model.Leader

/-- Round-robin names a configured replica, for every view and every cluster size n ≥ 1. -/
theorem rr_valid (v n : Nat) (hn : 1 ≤ n) : 1 ≤ roundRobin v n ∧ roundRobin v n ≤ n := by
  unfold roundRobin
  have := Nat.mod_lt v (by omega : 0 < n)
  omega

/-- In any n consecutive views s, s+1, …, s+n-1 every replica 1..n is the leader exactly once. -/
theorem rr_one_turn_each (s n id : Nat) (h1 : 1 ≤ id) (hn : id ≤ n) :
    ∃ i, i < n ∧ roundRobin (s + i) n = id ∧ ∀ j, j < n → roundRobin (s + j) n = id → j = i := by
  have hpos : 0 < n := by omega
  have e := rr_window_hit s n (id - 1) hpos (by omega)
  unfold roundRobin
  exact ⟨(id - 1 + n - s % n) % n, Nat.mod_lt _ hpos, by rw [e]; omega,
    fun j hj hjr => rr_window_inj s n j _ hj (Nat.mod_lt _ hpos) (by rw [e]; omega)⟩

/-- … equivalently: the n answers of a window are pairwise different. -/
theorem rr_window_nodup (s n : Nat) :
    ((List.range n).map fun i => roundRobin (s + i) n).Nodup := by
  rw [List.nodup_iff_pairwise_ne, List.pairwise_map]
  refine List.Pairwise.imp_of_mem ?_ (List.nodup_iff_pairwise_ne.mp (List.nodup_range (n := n)))
  intro a b ha hb hab heq
  unfold roundRobin at heq
  exact hab (rr_window_inj s n a b (List.mem_range.mp ha) (List.mem_range.mp hb) (by omega))

/-- The round-robin answer depends on the view and the cluster size only (two replicas of one
configuration compute the same leader). -/
theorem rr_same_on_every_replica (v n : Nat) (cfgA cfgB : Cfg) (hA : cfgA.n = n) (hB : cfgB.n = n) :
    roundRobin v cfgA.n = roundRobin v cfgB.n := by rw [hA, hB]

/-- Bridging lemma to the definition regenerated from protocol/leaderrotation/common.go. -/
theorem gen_chooseRoundRobin (v n : Nat) :
    HsVerif.Gen.ChooseRoundRobin (v : Int) (n : Int) = (roundRobin v n : Int) := by
  unfold HsVerif.Gen.ChooseRoundRobin roundRobin
  rw [Int.tmod_eq_emod_of_nonneg (by omega)]
  simp [Int.natCast_add, Int.natCast_emod]

/-- Fixed leader: constant over views, and a configured replica when the configured id is one. -/
theorem fixed_constant (l v w : Nat) : fixed l v = fixed l w := rfl

theorem fixed_valid (l v n : Nat) (h1 : 1 ≤ l) (hn : l ≤ n) : 1 ≤ fixed l v ∧ fixed l v ≤ n := ⟨h1, hn⟩

/-- Tree leader: constant over views … -/
theorem tree_constant (t : Option Tree) (v w : Nat) : treeLeader t v = treeLeader t w := rfl

/-- … the same on every replica (replicas differ in their own id only, the positions are shared) … -/
theorem tree_same_on_every_replica (a b : Tree) (v : Nat) (h : a.positions = b.positions) :
    treeLeader (some a) v = treeLeader (some b) v := by
  simp [treeLeader, h]

/-- … and a configured replica: with a tree whose positions are configured replicas (non-empty, as
`tree.NewSimple` demands), or without a tree in a cluster of n ≥ 1. -/
theorem tree_valid (t : Option Tree) (v n : Nat) (hn : 1 ≤ n)
    (hpos : ∀ tr, t = some tr → tr.positions ≠ [] ∧ ∀ x ∈ tr.positions, 1 ≤ x ∧ x ≤ n) :
    1 ≤ treeLeader t v ∧ treeLeader t v ≤ n := by
  cases t with
  | none => simp [treeLeader]; omega
  | some tr =>
    obtain ⟨hne, hall⟩ := hpos tr rfl
    cases hp : tr.positions with
    | nil => exact absurd hp hne
    | cons x xs =>
      simp only [treeLeader, hp, List.headD_cons]
      exact hall x (by rw [hp]; simp)

/-- The tree root is one of the tree positions. -/
theorem tree_root_mem (tr : Tree) (v : Nat) (hne : tr.positions ≠ []) :
    treeLeader (some tr) v ∈ tr.positions := by
  cases hp : tr.positions with
  | nil => exact absurd hp hne
  | cons x xs => simp [treeLeader, hp]

/-- "active": the committed head carries a certificate and is exactly `chainLength` views behind. -/
def Active (cfg : Cfg) (head : Block) (round : Nat) (signers : List Nat) : Prop :=
  head.signers = some signers ∧ head.view = wrapSub64 round cfg.chainLength

/-- Start-up: no certificate in the committed head ⇒ round-robin. -/
theorem carousel_startup (cfg : Cfg) (rnd get hh) (head : Block) (round : Nat)
    (h : head.signers = none) :
    carousel cfg rnd get hh head round = .leader (roundRobin round cfg.n) := by
  simp [carousel, h]

/-- Fall-back: committed head not exactly `chainLength` views behind ⇒ round-robin. -/
theorem carousel_fallback (cfg : Cfg) (rnd get hh) (head : Block) (round : Nat)
    (h : head.view ≠ wrapSub64 round cfg.chainLength) :
    carousel cfg rnd get hh head round = .leader (roundRobin round cfg.n) := by
  unfold carousel
  split
  · rfl
  · simp [h]

/-- An active carousel picks a signer of the certificate embedded in the latest committed block
that proposed none of the last f committed blocks (`Recent … f`: the committed head and its ancestors
over fewer than f parent links, genesis excluded). -/
theorem carousel_pick (cfg : Cfg) (rnd get hh) (head : Block) (round : Nat) (signers : List Nat)
    (id : Nat) (hact : Active cfg head round signers)
    (hres : carousel cfg rnd get hh head round = .leader id) :
    id ∈ signers ∧ ∀ c, Recent get (numFaulty cfg.n) hh head c → c.proposer ≠ id := by
  obtain ⟨hs, hv⟩ := hact
  unfold carousel at hres
  simp only [hs, hv, ne_eq, not_true_eq_false, ↓reduceIte] at hres
  split at hres
  · simp at hres
  · rename_i hlen
    simp only [Answer.leader.injEq] at hres
    have hm := getD_mem_of_lt _ _ 0 (Nat.mod_lt ((rnd (seedFor cfg.seed round)).headD 0) (Nat.pos_of_ne_zero hlen))
    rw [hres, mem_candidates] at hm
    refine ⟨hm.1, fun c hc he => hm.2 ?_⟩
    rw [← he]
    exact recent_proposer_mem get _ hh head c hc

/-- Given a certificate that passed C02's verifier — at least a quorum of pairwise distinct signers
(`d`) — an active carousel never divides by zero: it answers with a replica id.  (`quorum n > f`.) -/
theorem carousel_total (cfg : Cfg) (rnd get hh) (head : Block) (round : Nat) (signers d : List Nat)
    (hn : 1 ≤ cfg.n) (hact : Active cfg head round signers)
    (hd : d.Nodup) (hsub : ∀ x ∈ d, x ∈ signers) (hq : quorumSize cfg.n ≤ d.length) :
    ∃ id, carousel cfg rnd get hh head round = .leader id := by
  obtain ⟨hs, hv⟩ := hact
  have hf := QuorumCount.numFaulty_lt_quorumSize cfg.n
  have hla := lastAuthors_length_le get (numFaulty cfg.n) hh head
  have hpos := candidates_nonempty signers (lastAuthors get (numFaulty cfg.n) hh head) d hd hsub (by omega)
  unfold carousel
  simp only [hs, hv, ne_eq, not_true_eq_false, ↓reduceIte]
  split
  · omega
  · exact ⟨_, rfl⟩

/-- The unconditional statement "an active carousel always answers with a replica id"
(`∀ …, Active cfg head round signers → ∃ id, carousel … = .leader id`) is false of the code as written.
Without the distinct-quorum hypothesis the code does panic: one signer repeated, who also
proposed the committed head (reachable today through defect 1 of DESIGN §6, repeated signers). -/
theorem carousel_total_unconditional_counterexample :
    carousel ⟨4, 0, 3⟩ (fun _ => [0]) (fun _ => none) 1 ⟨0, 1, 2, some [2, 2, 2]⟩ 4 = .panic := by
  decide

/-- The carousel never names an unknown replica: in every mode, with n ≥ 1 and (when active) a
certificate whose signers are configured replicas and contain a quorum of distinct ids. -/
theorem carousel_valid (cfg : Cfg) (rnd get hh) (head : Block) (round : Nat) (hn : 1 ≤ cfg.n)
    (hq : ∀ signers, Active cfg head round signers →
      (∀ x ∈ signers, 1 ≤ x ∧ x ≤ cfg.n) ∧
      ∃ d : List Nat, d.Nodup ∧ (∀ x ∈ d, x ∈ signers) ∧ quorumSize cfg.n ≤ d.length) :
    ∃ id, carousel cfg rnd get hh head round = .leader id ∧ 1 ≤ id ∧ id ≤ cfg.n := by
  cases hs : head.signers with
  | none => exact ⟨_, carousel_startup cfg rnd get hh head round hs, rr_valid round cfg.n hn⟩
  | some signers =>
    by_cases hv : head.view = wrapSub64 round cfg.chainLength
    · obtain ⟨hrange, d, hd, hsub, hlen⟩ := hq signers ⟨hs, hv⟩
      obtain ⟨id, hid⟩ := carousel_total cfg rnd get hh head round signers d hn ⟨hs, hv⟩ hd hsub hlen
      exact ⟨id, hid, hrange id (carousel_pick cfg rnd get hh head round signers id ⟨hs, hv⟩ hid).1⟩
    · exact ⟨_, carousel_fallback cfg rnd get hh head round hv, rr_valid round cfg.n hn⟩

/-- Agreement: the carousel's answer is a function of (n, seed, chainLength), the `math/rand` stream
of the seed, the round, the committed head and the part of the block store that lies on the
committed chain — two block stores that agree along the walked chain give the same leader. -/
theorem carousel_reads_committed_chain_only (cfg : Cfg) (rnd) (g₁ g₂ : Nat → Option Block) (hh : Nat)
    (head : Block) (round : Nat)
    (hagree : ∀ c, Recent g₁ (numFaulty cfg.n) hh head c → g₁ c.parent = g₂ c.parent) :
    carousel cfg rnd g₁ hh head round = carousel cfg rnd g₂ hh head round := by
  simp only [carousel, lastAuthors_congr g₁ g₂ _ hh head hagree]

/-- The candidate list is sorted, so the seeded index selects the same replica whatever the order in
which the certificate lists its signers … -/
theorem carousel_candidates_sorted (signers authors : List Nat) :
    (candidates signers authors).Pairwise (· ≤ ·) := candidates_sorted signers authors

/-- … and consists exactly of the signers outside the recent proposers. -/
theorem carousel_candidates_mem (signers authors : List Nat) (x : Nat) :
    x ∈ candidates signers authors ↔ x ∈ signers ∧ x ∉ authors := mem_candidates signers authors x

/-- The walk visits at most f blocks, and exactly the proposers of the last f committed blocks. -/
theorem carousel_walk (get : Nat → Option Block) (f hh : Nat) (head : Block) (a : Nat) :
    (lastAuthors get f hh head).length ≤ f ∧
    (a ∈ lastAuthors get f hh head ↔ ∃ c, Recent get f hh head c ∧ c.proposer = a) :=
  ⟨lastAuthors_length_le get f hh head,
   ⟨mem_lastAuthors_recent get f hh head a, fun ⟨c, hc, he⟩ => he ▸ recent_proposer_mem get f hh head c hc⟩⟩

/-! ## Reputation (partial by design: determinism, totality, membership; the float arithmetic and
`weightedrand` are not reasoned about) -/

/-- Old views are refused with 0 and leave the state alone. -/
theorem reputation_old (perm cfg rnd) (st : RepState) (head : Block) (view : Nat)
    (h : head.view > wrapSub64 view cfg.chainLength) :
    repQueryWith perm cfg rnd st head view = (st, .leader 0) := by
  simp [repQueryWith, h]

/-- Start-up: round-robin until the committed head carries a certificate; state untouched. -/
theorem reputation_startup (perm cfg rnd) (st : RepState) (head : Block) (view : Nat)
    (h : ¬ head.view > wrapSub64 view cfg.chainLength) (hs : head.signers = none) :
    repQueryWith perm cfg rnd st head view = (st, .leader (roundRobin view cfg.n)) := by
  simp [repQueryWith, h, hs]

/-- Otherwise the answer is 0 (chooser error) or a voter of the committed head's certificate —
whatever the two library sorts do with the order (`perm` only has to return entries it was given). -/
theorem reputation_member (perm : List Choice → List Choice) (hperm : ∀ l, ∀ c ∈ perm l, c ∈ l)
    (cfg rnd) (st : RepState) (head : Block) (view id : Nat) (voters : List Nat)
    (hs : head.signers = some voters)
    (hres : (repQueryWith perm cfg rnd st head view).2 = .leader id) :
    id = 0 ∨ id ∈ voters := by
  unfold repQueryWith at hres
  split at hres
  · simp at hres; exact Or.inl hres.symm
  · simp only [hs] at hres
    split at hres
    · simp at hres; exact Or.inl hres.symm
    · rename_i ch hch
      split at hres
      · simp at hres
      · rename_i x hx
        simp only [RepAnswer.leader.injEq] at hres
        subst hres
        rcases pickSource_mem ch _ x hx with h0 | ⟨c, hc, hci⟩
        · exact .inl h0
        · rw [newChooser_data _ ch hch] at hc
          refine .inr ?_
          rw [← hci, ← visit_items (decide (st.prevView < head.view))
            (reputationOf voters.length cfg.n) st.reps voters]
          exact List.mem_map.mpr ⟨c, hperm _ c hc, rfl⟩

/-- … in particular for the modelled (≤ 12 voters, stable insertion order) instance. -/
theorem reputation_member_model (cfg rnd) (st : RepState) (head : Block) (view id : Nat)
    (voters : List Nat) (hs : head.signers = some voters)
    (hres : (repQuery cfg rnd st head view).2 = .leader id) : id = 0 ∨ id ∈ voters :=
  reputation_member sortByWeight (fun l c h => (mem_sortByWeight c l).1 h) cfg rnd st head view id voters hs hres

/-- Reputations are updated once per committed head: after a query that reached the update for this
head, any further query on the same head (any view) leaves reputations and `prevCommitHead` unchanged. -/
theorem reputation_update_once (perm cfg rnd) (st : RepState) (head : Block) (v w : Nat)
    (voters : List Nat) (hv : ¬ head.view > wrapSub64 v cfg.chainLength)
    (hs : head.signers = some voters) :
    (repQueryWith perm cfg rnd (repQueryWith perm cfg rnd st head v).1 head w).1 =
      (repQueryWith perm cfg rnd st head v).1 :=
  repQueryWith_noupd perm cfg rnd _ head w (repQueryWith_prevView perm cfg rnd st head v voters hv hs)

/-- Determinism over query histories: the list of answers of an instance is a function of the
configuration, the seed's random streams and the sequence of (committed head, view) queries; two
instances started in the same state and asked the same questions give the same answers. -/
theorem reputation_same_history_same_answers (cfg : Cfg) (rnd) (stA stB : RepState)
    (qs : List (Block × Nat)) (h : stA = stB) : repRun cfg rnd stA qs = repRun cfg rnd stB qs := by
  rw [h]

/-! ## Non-vacuity -/

example : (List.range 4).map (fun i => roundRobin (7 + i) 4) = [4, 1, 2, 3] := by decide

example : roundRobin (2 ^ 64 - 1) 7 = 2 := by decide

/-- the uint64 subtraction wraps: round 2, chainLength 3 names view 2^64 - 1 -/
example : wrapSub64 2 3 = 2 ^ 64 - 1 := by decide

/-- int64 seed arithmetic wraps -/
example : seedFor (2 ^ 63 - 1) 1 = -(2 ^ 63) := by decide

/-- an active carousel: n = 4 (f = 1), head b2 (hash 2, view 2, proposer 3) certified by {4,1,3,2}
listed out of order, chainLength 3, round 5, rnd = 6: candidates [1,2,4], index 0. -/
example : carousel ⟨4, 0, 3⟩ (fun _ => [6]) (fun h => if h = 1 then some ⟨0, 1, 2, none⟩ else none)
    2 ⟨1, 2, 3, some [4, 1, 3, 2]⟩ 5 = .leader 1 := by decide

example : Active ⟨4, 0, 3⟩ ⟨1, 2, 3, some [4, 1, 3, 2]⟩ 5 [4, 1, 3, 2] := by
  constructor <;> decide

example : Recent (fun h => if h = 1 then some ⟨0, 1, 2, none⟩ else none) 2 2 ⟨1, 2, 3, some [4, 1, 3, 2]⟩
    ⟨0, 1, 2, none⟩ :=
  Recent.up 1 2 _ ⟨0, 1, 2, none⟩ _ (by decide) rfl (Recent.here 0 1 _ (by decide))

end HsVerif.Props.C16
