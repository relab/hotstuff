import HsVerif.Proofs.Blockchain
/-! C13 — the block store is content-addressed and its ancestry answers are exact.
Model: `HsVerif.Model.Chain` (security/blockchain/blockchain.go with
fixes/C13-prune-forks.diff, `qspec.RequestBlockQF`, protocol/consensus/committer.go). -/
namespace HsVerif.Props.C13
open HsVerif.Model.Chain

/-- A block found locally under `h` has hash `h` (in every content-addressed store; all reachable
stores are, see `reachable_content_addressed`). -/
theorem get_has_hash_local (s : Store) (h : Nat) (b : Block) (hs : Consistent s)
    (hg : localGet s h = some b) : b.hash = h := hs h b hg

/-- `Get`, local or fetched, returns a block of the requested hash — whatever arrives concurrently
— as long as the sender's replies have the requested hash. -/
theorem get_has_hash (s : Store) (net : Net) (h : Nat) (b : Block) (hs : Consistent s)
    (hn : HonestNet net) (hg : (get s net h).2 = some b) : b.hash = h := by
  unfold HsVerif.Model.Chain.get at hg
  split at hg
  · rename_i x hx; cases hg; exact hs _ _ hx
  · rename_i hnone
    cases hr : (net h).reply with
    | none => rw [hr] at hg; exact (arrived_new hnone hg).2
    | some r => rw [hr] at hg; cases hg; exact hn _ _ hr

/-- `RequestBlockQF` only lets a reply through whose recomputed hash is the requested one … -/
theorem requestBlockQF_filters (h : Nat) (replies : List Block) (b : Block)
    (hb : requestBlockQF h replies = some b) : b.hash = h ∧ b ∈ replies :=
  ⟨beq_iff_eq.mp (List.find?_some (p := fun b : Block => b.hash == h) hb), List.mem_of_find?_eq_some hb⟩

/-- … and lets one through whenever some reply matches, so lying replies cannot mask an honest one. -/
theorem requestBlockQF_finds (h : Nat) (replies : List Block) (b : Block) (hb : b ∈ replies)
    (hh : b.hash = h) : ∃ r, requestBlockQF h replies = some r := by
  cases hq : requestBlockQF h replies with
  | some r => exact ⟨r, rfl⟩
  | none => exact absurd (beq_iff_eq.mpr hh) (List.find?_eq_none.mp hq b hb)

/-- Hence every sender that answers through the gorums quorum function is honest in the sense
needed above, for arbitrary (lying, missing, duplicated) replies and arbitrary concurrent arrivals. -/
theorem qf_net_honest (arr : Nat → Option Block) (replies : Nat → List Block) :
    HonestNet (fun h => { arrive := arr h, reply := requestBlockQF h (replies h) }) :=
  fun h b hb => (requestBlockQF_filters h (replies h) b hb).1

/-- The assumption is needed: `Get` itself writes the reply under the requested hash unchecked
(a `core.Sender` other than the gorums one must filter too). -/
theorem get_unfiltered_counterexample :
    ∃ (s : Store) (net : Net) (h : Nat) (b : Block),
      Consistent s ∧ (get s net h).2 = some b ∧ b.hash ≠ h ∧ ¬ Consistent (get s net h).1 :=
  ⟨init, fun _ => { reply := some ⟨7, 1, 1⟩ }, 5, ⟨7, 1, 1⟩, inv_init.cons, rfl, by decide,
    fun hc => absurd (hc 5 ⟨7, 1, 1⟩ rfl) (by decide)⟩

/-- Every store reachable from `New` by any sequence of Store / Get / Extends / PruneToHeight /
TryCommit (any fuel, any blocks, any filtered network behaviour) is content-addressed and its
per-view map points at stored blocks of that view. -/
theorem reachable_content_addressed (fuel : Nat) (ops : List Op) (hg : ∀ op ∈ ops, op.good) :
    Consistent (run fuel ops).1.store ∧ HeightWF (run fuel ops).1.store :=
  have := (inv_runFrom fuel ops cinit [] hg inv_init List.nodup_nil).1
  ⟨this.cons, this.wf⟩

/-- … so after any such sequence, whatever `Get` returns for `h` has hash `h`. -/
theorem get_has_hash_reachable (fuel : Nat) (ops : List Op) (hg : ∀ op ∈ ops, op.good)
    (net : Net) (hn : HonestNet net) (h : Nat) (b : Block)
    (hb : (get (run fuel ops).1.store net h).2 = some b) : b.hash = h :=
  get_has_hash _ net h b (reachable_content_addressed fuel ops hg).1 hn hb

/-- Storing any block whose hash is already present changes nothing. -/
theorem store_existing_noop (s : Store) (b x : Block) (h : mget s.blocks b.hash = some x) :
    store s b = s := by
  unfold store; rw [h]

/-- In particular, storing the same block again changes nothing (no hypothesis at all). -/
theorem store_idempotent (s : Store) (b : Block) : store (store s b) b = store s b := by
  cases hm : mget s.blocks b.hash with
  | some x => rw [store_existing_noop s b x hm, store_existing_noop s b x hm]
  | none =>
    refine store_existing_noop _ b b ?_
    unfold store; rw [hm]; exact (mget_mset ..).trans (if_pos rfl)

/-- A stored block can be read back (content-addressed stores). -/
theorem store_then_get (s : Store) (b : Block) (hs : Consistent s) :
    ∃ x, localGet (store s b) b.hash = some x ∧ x.hash = b.hash := by
  unfold localGet store
  split
  · rename_i x hx; exact ⟨x, hx, hs _ _ hx⟩
  · exact ⟨b, (mget_mset ..).trans (if_pos rfl), rfl⟩

/-- `Extends(b, t)` says yes only if a block with `t`'s hash is `b` or on `b`'s parent chain
(no assumption on views). -/
theorem extends_sound (s : Store) (f : Nat → Option Block) (b t : Block) (fuel : Nat)
    (h : (extendsAux (pureNet f) t fuel s b).2 = true) :
    ∃ c, OnChain (lookF s f) b c ∧ c.hash = t.hash := by
  induction fuel generalizing s b with
  | zero => cases h
  | succ n ih =>
    obtain ⟨g1, g2⟩ := get_pure s f b.parent
    rw [extendsAux_succ, g1] at h
    split at h
    · split at h
      · obtain ⟨c, hc1, hc2⟩ := ih _ _ h
        exact ⟨c, .step ‹_› (g2 ▸ hc1), hc2⟩
      · cases h
    · exact ⟨b, .refl b, beq_iff_eq.mp h⟩

/-- If views grow along parent links, `Extends(b, t)` says yes whenever `t` is `b` or on `b`'s
parent chain — forks, equal views on other branches, gaps elsewhere do not matter. -/
theorem extends_complete (s : Store) (f : Nat → Option Block) (b t : Block) (fuel : Nat)
    (hfuel : b.view < fuel) (hvg : ViewsGrow (lookF s f)) (hb : Grows (lookF s f) b)
    (hc : OnChain (lookF s f) b t) : (extendsAux (pureNet f) t fuel s b).2 = true := by
  induction fuel generalizing s b with
  | zero => cases hfuel
  | succ n ih =>
    obtain ⟨g1, g2⟩ := get_pure s f b.parent
    rw [extendsAux_succ, g1]
    cases hc with
    | refl => rw [if_neg (Nat.lt_irrefl _)]; exact beq_self_eq_true _
    | step hp hrest =>
      rename_i p
      have h1 : p.view < b.view := hb _ hp
      rw [if_pos (Nat.lt_of_le_of_lt (OnChain.view_le hvg (hvg _ _ hp) hrest) h1), hp]
      exact ih _ p (Nat.lt_of_lt_of_le h1 (Nat.le_of_lt_succ hfuel)) (g2 ▸ hvg) (g2 ▸ hvg _ _ hp)
        (g2 ▸ hrest)

/-- Exactness: for every store and sender in which views grow along parent links, every fuel above
`b`'s view, `Extends(b, t)` is true exactly when `t` is `b` or lies on `b`'s parent chain (a chain
stops at a block that is neither stored nor fetchable).  `hinj` is collision resistance where it is
used: a block on the chain with `t`'s hash is `t`. -/
theorem extends_exact (s : Store) (f : Nat → Option Block) (b t : Block) (fuel : Nat)
    (hfuel : b.view < fuel) (hvg : ViewsGrow (lookF s f)) (hb : Grows (lookF s f) b)
    (hinj : ∀ c, OnChain (lookF s f) b c → c.hash = t.hash → c = t) :
    (extendsAux (pureNet f) t fuel s b).2 = true ↔ OnChain (lookF s f) b t := by
  constructor
  · intro h
    obtain ⟨c, h1, h2⟩ := extends_sound s f b t fuel h
    rw [← hinj c h1 h2]; exact h1
  · exact extends_complete s f b t fuel hfuel hvg hb

/-- What `Extends` fetched is kept, and nothing it could find before is lost or changed. -/
theorem extends_keeps_lookups (s : Store) (f : Nat → Option Block) (b t : Block) (fuel : Nat) :
    lookF (extendsAux (pureNet f) t fuel s b).1 f = lookF s f :=
  extendsAux_pres (P := fun s' => lookF s' f = lookF s f)
    (fun s' h hs => ((get_pure s' f h).2).trans hs) t fuel s b rfl

/-- The same for the model's `extends` (fuel = view + 1) on the local store alone; the store is
left untouched. -/
theorem extends_exact_local (s : Store) (b t : Block)
    (hvg : ViewsGrow (mget s.blocks)) (hb : Grows (mget s.blocks) b)
    (hinj : ∀ c, OnChain (mget s.blocks) b c → c.hash = t.hash → c = t) :
    ((«extends» s (pureNet fun _ => none) b t).2 = true ↔ OnChain (mget s.blocks) b t) ∧
    («extends» s (pureNet fun _ => none) b t).1 = s := by
  refine ⟨?_, extendsAux_pres (P := (· = s)) (fun s' h hs => ?_) t _ s b rfl⟩
  · rw [← lookF_none] at hvg hb hinj ⊢
    exact extends_exact s _ b t _ (Nat.lt_succ_self _) hvg hb hinj
  · subst hs
    unfold HsVerif.Model.Chain.get
    cases hm : mget s'.blocks h <;> simp [pureNet, arrived, fetched]

/-- Without growing views the answer can be wrong: a parent with a *higher* view than its child
(1 ← view 5, child view 2) is an ancestor, yet `Extends(child, parent)` is false. -/
theorem extends_inversion_counterexample :
    ∃ (s : Store) (b t : Block), Consistent s ∧ OnChain (mget s.blocks) b t ∧
      ¬ ViewsGrow (mget s.blocks) ∧ («extends» s (pureNet fun _ => none) b t).2 = false := by
  let p : Block := ⟨2, 1, 5⟩
  let c : Block := ⟨3, 2, 2⟩
  refine ⟨store (store init p) c, c, p, (inv_store c (inv_store p inv_init)).cons,
    .step (p := p) rfl (.refl p), fun hvg => ?_, rfl⟩
  exact absurd (hvg 3 c rfl p rfl) (by decide)

/-- `PruneToHeight(committed, height)` never reports a block that is the committed block or on
its parent chain, in every store whose per-view map is well formed (all reachable ones) and whose
views grow along parent links — whatever equivocating blocks, forks and gaps it contains. -/
theorem prune_reports_only_forks (fuel : Nat) (s : Store) (c : Block) (height : Nat) (r : Block)
    (hw : HeightWF s) (hvg : ViewsGrow (mget s.blocks)) (hc : Grows (mget s.blocks) c)
    (hfuel : c.view < fuel) (hr : r ∈ (pruneToHeight fuel s c height).2) :
    ¬ OnChain (mget s.blocks) c r := by
  intro hon
  obtain ⟨v, h1, _, h3, h4⟩ := prune_forked_spec fuel s c height r hr
  exact h4 (markChain_complete s fuel c r _ hvg hc hon ((hw v r h3).1 ▸ Nat.le_of_lt h1) hfuel
    (List.mem_cons_self ..))

/-- Reported blocks are stored blocks from the pruned views, one per view at most. -/
theorem prune_reports_stored (fuel : Nat) (s : Store) (c : Block) (height : Nat) (r : Block)
    (hw : HeightWF s) (hr : r ∈ (pruneToHeight fuel s c height).2) :
    s.pruneHeight < r.view ∧ r.view ≤ height ∧ mget s.blocks r.hash = some r := by
  obtain ⟨v, h1, h2, h3, _⟩ := prune_forked_spec fuel s c height r hr
  obtain ⟨rfl, hb⟩ := hw v r h3
  exact ⟨h1, h2, hb⟩

/-- Over any sequence of operations from `New` — stores, gets, ancestry queries, direct prunes and
commits through the committer, with any fuel, any blocks (equivocation and gaps included) and any
filtered network behaviour — no hash is reported as forked twice. -/
theorem prune_reports_once (fuel : Nat) (ops : List Op) (hg : ∀ op ∈ ops, op.good) :
    (run fuel ops).2.Nodup := (inv_runFrom fuel ops cinit [] hg inv_init List.nodup_nil).2

/-- The committer: the blocks for which `commit` emits an `AbortEvent` are never the newly
committed block nor on its parent chain. -/
theorem commit_aborts_only_forks (R : List Nat) (fuel : Nat) (net : Net) (cs cs' : CState)
    (block : Block) (ex ab : List Block) (hg : GoodNet net) (hi : Inv cs.store R)
    (h : commit fuel net cs block = (cs', .ok ex ab))
    (hvg : ViewsGrow (mget cs'.store.blocks)) (hc : Grows (mget cs'.store.blocks) cs'.committed)
    (hfuel : cs'.committed.view < fuel) :
    ∀ r ∈ ab, ¬ OnChain (mget cs'.store.blocks) cs'.committed r := by
  have h1 := inv_commitInner R net cs.committed fuel cs.store block hg hi
  unfold commit at h
  revert h1 h
  rcases commitInner net cs.committed fuel cs.store block with ⟨s1, _ | ex'⟩ <;> intro h h1
  · cases h
  · cases h
    exact fun r hr => prune_reports_only_forks fuel s1 _ block.view r h1.wf hvg hc hfuel hr

/-- What `commit` executes is the new committed block and blocks on its parent chain … -/
theorem commit_executes_chain (fuel : Nat) (net : Net) (cs cs' : CState) (block : Block)
    (ex ab : List Block) (h : commit fuel net cs block = (cs', .ok ex ab)) :
    ∀ x ∈ ex, OnChain (mget cs'.store.blocks) cs'.committed x := by
  have hch := commitInner_chain net cs.committed fuel cs.store block
  unfold commit at h
  revert hch h
  rcases commitInner net cs.committed fuel cs.store block with ⟨s1, _ | ex'⟩ <;> intro h hch
  · cases h
  · cases h
    obtain ⟨i1, rfl | i2⟩ := hch _ rfl
    · exact nofun
    · rw [i2]; exact i1

/-- … so no block is both executed and aborted by one commit. -/
theorem commit_never_aborts_executed (R : List Nat) (fuel : Nat) (net : Net) (cs cs' : CState)
    (block : Block) (ex ab : List Block) (hg : GoodNet net) (hi : Inv cs.store R)
    (h : commit fuel net cs block = (cs', .ok ex ab))
    (hvg : ViewsGrow (mget cs'.store.blocks)) (hc : Grows (mget cs'.store.blocks) cs'.committed)
    (hfuel : cs'.committed.view < fuel) : ∀ x ∈ ex, x ∉ ab := fun x hx hab =>
  commit_aborts_only_forks R fuel net cs cs' block ex ab hg hi h hvg hc hfuel x hab
    (commit_executes_chain fuel net cs cs' block ex ab h x hx)

/-- The unrepaired `PruneToHeight(committedHeight, height)` violates this.  Store g ← a(1) ← b(2)
← c(3), then the equivocating a2(view 1) and c2(view 3, parent a2); committing c reports b, which
is on c's chain (the block reached from the per-view map at view 3 is c2).  The repaired function
reports exactly the two abandoned blocks on the same input. -/
theorem prune_unrepaired_counterexample :
    ∃ (s : Store) (c r : Block), (∃ ops, (∀ op ∈ ops, op.good) ∧ (run 9 ops).1.store = s) ∧
      ViewsGrow (mget s.blocks) ∧ r ∈ (pruneToHeightOld 9 s c.view c.view).2 ∧
      OnChain (mget s.blocks) c r ∧ (pruneToHeight 9 s c c.view).2 = [⟨7, 6, 3⟩, ⟨6, 1, 1⟩] := by
  let a : Block := ⟨2, 1, 1⟩
  let b : Block := ⟨3, 2, 2⟩
  let c : Block := ⟨4, 3, 3⟩
  let a2 : Block := ⟨6, 1, 1⟩
  let c2 : Block := ⟨7, 6, 3⟩
  refine ⟨⟨[(7, c2), (6, a2), (4, c), (3, b), (2, a), (1, genesis)],
      [(3, c2), (1, a2), (3, c), (2, b), (1, a), (0, genesis)], 0⟩, c, b,
    ⟨[.store a, .store b, .store c, .store a2, .store c2], ?_, ?_⟩,
    viewsGrow_of_check _ (by decide), by decide, .step (p := b) rfl (.refl b), by decide⟩
  · intro op hop; simp at hop; rcases hop with h | h | h | h | h <;> subst h <;> trivial
  · simp only [run, runFrom, stepOp, cinit]; rfl

/-! ## non-vacuity -/

/-- a forest with a fork, equal views on two branches (3 and 3), and a gap (hash 9 is missing) -/
def demo : Store :=
  [⟨2, 1, 1⟩, ⟨3, 2, 2⟩, ⟨4, 3, 3⟩, ⟨6, 1, 1⟩, ⟨7, 6, 3⟩, (⟨10, 9, 5⟩ : Block)].foldl store init

example : («extends» demo (pureNet fun _ => none) ⟨4, 3, 3⟩ ⟨2, 1, 1⟩).2 = true ∧
    («extends» demo (pureNet fun _ => none) ⟨7, 6, 3⟩ ⟨2, 1, 1⟩).2 = false ∧
    («extends» demo (pureNet fun _ => none) ⟨7, 6, 3⟩ ⟨4, 3, 3⟩).2 = false ∧
    («extends» demo (pureNet fun _ => none) ⟨10, 9, 5⟩ genesis).2 = false ∧
    («extends» demo (pureNet fun h => if h = 9 then some ⟨9, 4, 4⟩ else none) ⟨10, 9, 5⟩ ⟨3, 2, 2⟩).2 = true := by
  decide

/-- the hypotheses of the theorems are satisfiable together: `demo` is reachable, content-addressed,
well formed, and its views grow -/
example : ViewsGrow (mget demo.blocks) ∧ Consistent demo ∧ HeightWF demo := by
  have h := reachable_content_addressed 9
    [.store ⟨2, 1, 1⟩, .store ⟨3, 2, 2⟩, .store ⟨4, 3, 3⟩, .store ⟨6, 1, 1⟩, .store ⟨7, 6, 3⟩, .store ⟨10, 9, 5⟩]
    (by intro op hop; simp at hop; rcases hop with h | h | h | h | h | h <;> subst h <;> trivial)
  have e : (run 9 [.store ⟨2, 1, 1⟩, .store ⟨3, 2, 2⟩, .store ⟨4, 3, 3⟩, .store ⟨6, 1, 1⟩, .store ⟨7, 6, 3⟩,
      .store ⟨10, 9, 5⟩]).1.store = demo := by
    simp only [run, runFrom, stepOp, cinit, demo, List.foldl]
  rw [e] at h
  exact ⟨viewsGrow_of_check _ (by decide), h.1, h.2⟩

example : (pruneToHeight 9 demo ⟨4, 3, 3⟩ 3).2 = [⟨7, 6, 3⟩, ⟨6, 1, 1⟩] ∧
    (pruneToHeight 9 (pruneToHeight 9 demo ⟨4, 3, 3⟩ 3).1 ⟨4, 3, 3⟩ 5).2 = [⟨10, 9, 5⟩] := by decide

example : requestBlockQF 4 [⟨5, 3, 3⟩, ⟨4, 3, 3⟩] = some ⟨4, 3, 3⟩ ∧ requestBlockQF 4 [⟨5, 3, 3⟩] = none := by
  decide

end HsVerif.Props.C13
