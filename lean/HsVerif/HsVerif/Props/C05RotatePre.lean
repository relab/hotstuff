import HsVerif.Props.C05Pre
import HsVerif.Props.C05Rotate
/-!
C05, rotating leaders with a silent minority: the clauses derived in Props/C05Pre.lean plugged into `commit_after_recovery_rot'`.
`RecPreLive'` is `RecPreLive` without `lastVoted ≤ v` and with `KnowsAll'` (no `(D.hq i).view = (D.hb i).view`);
`SyncPreRot'` is `SyncPreRot` without `committed` and without the view bound in `par`.  Both are restored from reachability.
-/
namespace HsVerif.Props.C05RotatePre
open HsVerif.Model HsVerif.Props.C01Sys HsVerif.Props.C01SysWF
open HsVerif.Props.C05Pre
open HsVerif.Props.C05Rotate

structure RecPreLive' (k : Keys) (C : SysCfg) (D : RecData) (s0 : Nat → RState) (ℓ : Nat) (T0 : List (Nat × Atom)) : Prop where
  agg : C.agg = false
  scheme : C.scheme ≠ .bls12
  rules : C.rules ≠ .fast
  v0 : D.v ≠ 0
  nodup : C.honest.Nodup
  range : ∀ i ∈ C.honest, 1 ≤ i ∧ i ≤ C.n
  qh : (C.rcfg 0).cfg.quorum ≤ C.honest.length
  few : FewFaulty C
  two : 2 ≤ C.n
  leader : ∀ j ∈ C.honest, (C.rcfg j).leader (D.v + 1) = ℓ
  lmem : ℓ ∈ C.honest
  init : ∀ j ∈ C.honest, RColl C D (s0 j) j [] (s0 j) ∧ (s0 j).waitingVC = [] ∧
    KnowsAll' k C D j { s0 j with truth := T0 }
  mark : ∀ i ∈ C.honest, markWalk ((s0 ℓ).chain.fuel + 1) (s0 ℓ).chain.blocks (s0 ℓ).lastProposed (D.hb i) = true
  parents : ∀ j ∈ C.honest, ∀ i ∈ C.honest, Top C D i →
    ((D.hb i).qc.hash = "" ∨ ∃ gb, (s0 j).chain.blocks.lookup (D.hb i).qc.hash = some gb)

structure SyncPreRot' (C : SysCfg) (D : RecData) (s0 : Nat → RState) (N : Nat) : Prop where
  pre : SyncPre' C D s0 N
  mark : ∀ j ∈ C.honest, ∀ i ∈ C.honest, Top C D i →
    markWalk ((s0 j).chain.fuel + 1) (s0 j).chain.blocks (s0 j).lastProposed (D.hb i) = true

theorem recPreLive_weaken {k : Keys} {C : SysCfg} {D : RecData} {s0 : Nat → RState} {ℓ : Nat} {T0 : List (Nat × Atom)}
    (h : RecPreLive k C D s0 ℓ T0) : RecPreLive' k C D s0 ℓ T0 :=
  ⟨h.agg, h.scheme, h.rules, h.v0, h.nodup, h.range, h.qh, h.few, h.two, h.leader, h.lmem,
    fun j hj => ⟨(h.init j hj).1, (h.init j hj).2.1, knowsAll_weaken (h.init j hj).2.2.2⟩, h.mark, h.parents⟩

theorem recPreLive_of_reach (k : Keys) (C : SysCfg) (D : RecData) (s0 : Nat → RState) (ℓ : Nat) (σ : SysState)
    (T0 : List (Nat × Atom)) (hr : Reach k C σ) (hreps : ∀ j ∈ C.honest, σ.reps.lookup j = some (s0 j))
    (h : RecPreLive' k C D s0 ℓ T0) : RecPreLive k C D s0 ℓ T0 :=
  ⟨h.agg, h.scheme, h.rules, h.v0, h.nodup, h.range, h.qh, h.few, h.two, h.leader, h.lmem,
    fun j hj => ⟨(h.init j hj).1, (h.init j hj).2.1,
      recPre_lastVoted_of_reach k C D σ hr j (s0 j) (hreps j hj) (h.init j hj).1.view,
      knowsAll_of_reach k C D σ hr j (s0 j) (hreps j hj) T0 (h.init j hj).2.2⟩, h.mark, h.parents⟩

/-- **Commit after recovery, rotating leaders, silent minority, derived clauses removed**: `commit_after_recovery_rot'` with
`RecPreLive'` and `SyncPreRot'` — `lastVoted ≤ v`, `(D.hq i).view = (D.hb i).view`, `SyncPre.committed` and the view bound of
`SyncPre.par` are not assumed; the leader of view `v + 5` need not be a participant -/
theorem commit_after_recovery_rot'' (k : Keys) (C : SysCfg) (hC : RotCfg C) (D : RecData) (s0 : Nat → RState)
    (σ0 : SysState) (blk : Hash → Block) (hk : KeysOK k) (hr : Reach k C σ0) (hca : CA' σ0 blk)
    (hne12 : ldr C (D.v + 1) ≠ ldr C (D.v + 1 + 1))
    (hl2 : ldr C (D.v + 1 + 1) ∈ C.honest) (hl3 : ldr C (D.v + 1 + 2) ∈ C.honest) (hl4 : ldr C (D.v + 1 + 3) ∈ C.honest)
    (hP : RecPreLive' k C D s0 (ldr C (D.v + 1)) σ0.truth) (h0 : RecStart C s0 σ0.truth σ0)
    (msgs : List (Nat × Nat)) (hm : FullOrder C msgs) (N : Nat) (hY : SyncPreRot' C D s0 N)
    (ordP v1 p1 v2 p2 v3 p3 : List Nat) (hordP : OthersOrder C (ldr C (D.v + 1)) ordP)
    (hv1 : OthersOrder C (ldr C (D.v + 1 + 1)) v1) (hp1 : OthersOrder C (ldr C (D.v + 1 + 1)) p1)
    (hv2 : OthersOrder C (ldr C (D.v + 1 + 2)) v2) (hp2 : OthersOrder C (ldr C (D.v + 1 + 2)) p2)
    (hv3 : OthersOrder C (ldr C (D.v + 1 + 3)) v3) (hp3 : OthersOrder C (ldr C (D.v + 1 + 3)) p3) :
    ∃ (i : Nat) (b' : Block), i ∈ C.honest ∧ Top C D i ∧ b'.view = D.v + 1 ∧ b'.qc = D.hq i ∧
      b'.proposer = ldr C (D.v + 1) ∧
      ∀ j ∈ C.honest, ∃ s,
        (chainViewRot k C v3 p3 (chainViewRot k C v2 p2 (chainViewRot k C v1 p1
          (proposalRoundR k C ordP (recoveryRound k C D σ0 msgs))))).1.reps.lookup j = some s ∧
        s.committed = b' ∧ s.committed.view = D.v + 1 ∧ (s0 j).committed.view < s.committed.view := by
  have hP' := recPreLive_of_reach k C D s0 _ σ0 σ0.truth hr h0.reps hP
  exact commit_after_recovery_rot' k C hC D s0 σ0 blk hk hr hca hne12 hl2 hl3 hl4 hP' h0 msgs hm N
    ⟨syncPre_of_reach k C D s0 _ σ0 blk hk hr hca hP' h0.reps N hY.pre, hY.mark⟩
    ordP v1 p1 v2 p2 v3 p3 hordP hv1 hp1 hv2 hp2 hv3 hp3

/-- the weakened hypotheses hold of the silent-id run `sRun` (n = 5, id 5 silent): `commit_after_recovery_rot''` is not vacuous -/
theorem commit_after_recovery_rot''_nonvacuous :
    RecPreLive' exKeys sCfg sData sS0 (ldr sCfg (sData.v + 1)) sRun.1.truth ∧ SyncPreRot' sCfg sData sS0 1000 := by
  obtain ⟨_, _, _, _, _, _, _, hP, _, _, hY⟩ := commit_after_recovery_rot'_nonvacuous
  exact ⟨by rw [show ldr sCfg (sData.v + 1) = 1 from by decide]; exact recPreLive_weaken hP, syncPre_weaken hY.pre, hY.mark⟩

end HsVerif.Props.C05RotatePre
