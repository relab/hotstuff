import HsVerif.Props.C03
/-! C03 (strengthened) — the certificate of every block a replica ever voted for verifies against
the replica's CURRENT truth table and block store, not merely against those of some past state.
Replica, events, `runEvents` as in Props/C03.lean; what one step does to `Cur` and `Stored` (`step_cur`, `start_cur`,
`step_stored_partial`, `start_stored`) is at the end of Proofs/ReplicaEvidence.lean.

The reason is monotonicity: the truth table (who really signed which bytes) and the block store only
gain entries and never change an existing lookup, and `verifyQC` is monotone in both. -/
namespace HsVerif.Props.C03Cur
open HsVerif.Model HsVerif.Props.C03

theorem run_ext (k : Keys) (c : RCfg) (es : List Ev) (s : RState) (hf : Fresh s) : Ext s (runEvents k c s es) :=
  runEvents_keeps (I := Ext s) (fun s' e h => h.trans (step_ext k c s' e h.fresh)) es s (.refl s hf)

/-- **Truth-table growth along any event sequence**: from a fresh state (every byte name in the truth
table is below `nextBytes`), the state after the events is fresh again and every lookup of the old
truth table gives the same answer in the new one. -/
theorem truth_grows_run (k : Keys) (c : RCfg) (es : List Ev) (s : RState) (hf : Fresh s) :
    Fresh (runEvents k c s es) ∧ TGrows s.truth (runEvents k c s es) :=
  ⟨(run_ext k c es s hf).fresh, (run_ext k c es s hf).truth⟩

theorem reachable_fresh (k : Keys) (c : RCfg) (es : List Ev) :
    Fresh (runEvents k c (start k c {}).1 es) :=
  (run_ext k c es _ (start_ext k c {} fresh_init).fresh).fresh

/-- **Monotonicity of certificate verification**: if every lookup of truth table `T` is preserved in
`T'` and every lookup of store `st` is preserved in `st'`, a certificate that verifies against
`(T, st)` verifies against `(T', st')`. -/
theorem verifyQC_monotone (T T' : Truth) (cfg : Cfg) (st st' : Store) (tmo : Nat → Nat → QC → Msg) (q : QC)
    (hT : ∀ b a, T b = some a → T' b = some a)
    (hS : ∀ h b, st.lookup h = some b → st'.lookup h = some b)
    (h : verifyQC ⟨T, cfg, st, tmo⟩ q = true) : verifyQC ⟨T', cfg, st', tmo⟩ q = true :=
  verifyQC_mono T T' cfg st st' tmo q hT hS h

theorem verify_monotone (T T' : Truth) (cfg : Cfg) (sg : Sig) (m : Msg)
    (hT : ∀ b a, T b = some a → T' b = some a)
    (h : verify T cfg sg m = true) : verify T' cfg sg m = true :=
  verify_mono T T' cfg sg m hT h

/-- **Changes from outside** (the harness writes other replicas' signatures into the truth table
and fetchable blocks into the world between events): any change that leaves the ghost history alone,
keeps the truth table fresh and preserves every lookup of block store and truth table preserves the
invariant. -/
theorem external_extension_cur (k : Keys) (c : RCfg) (s s' : RState) (hg : s'.ghost = s.ghost) (hf : Fresh s')
    (hS : ∀ h b, s.chain.blocks.lookup h = some b → s'.chain.blocks.lookup h = some b)
    (hT : ∀ n a, s.truth.lookup n = some a → s'.truth.lookup n = some a)
    (h : Cur k c s) : Cur k c s' :=
  cur_ext k c s s' ⟨hf, hS, hT⟩ (fun _ _ hm => hg ▸ hm) h

theorem reachable_cur (k : Keys) (c : RCfg) (es : List Ev) :
    Cur k c (runEvents k c (start k c {}).1 es) :=
  runEvents_keeps (step_cur k c) es _ (start_cur k c {} (cur_init k c))

/-- **The certificate of every block voted for verifies NOW**: in every reachable state (initial
state, `Start`, then any sequence of delivered events), for every vote `GRec.vote b id` the replica
ever signed, `b.qc` passes `verifyQC` against the truth table and block store of that state. -/
theorem votes_verify_now (k : Keys) (c : RCfg) (es : List Ev) (b : Block) (id : Nat)
    (h : GRec.vote b id ∈ (runEvents k c (start k c {}).1 es).ghost) :
    verifyQC (env k c (runEvents k c (start k c {}).1 es)) b.qc = true :=
  (reachable_cur k c es).2 b id h

/-- **A verified certificate stays verified**: any certificate (voted for or not) that verifies in a
fresh state `s` verifies in the state after delivering any sequence of events ... -/
theorem verifyQC_stable_run (k : Keys) (c : RCfg) (es : List Ev) (s : RState) (q : QC) (hf : Fresh s)
    (hv : verifyQC (env k c s) q = true) : verifyQC (env k c (runEvents k c s es)) q = true :=
  verifyQC_ext k c s _ q (run_ext k c es s hf) hv

/-- ... and in every later state as well: a vote signed by the time of `es` has a certificate that
verifies in the state after `es ++ es'`. -/
theorem votes_verify_later (k : Keys) (c : RCfg) (es es' : List Ev) (b : Block) (id : Nat)
    (h : GRec.vote b id ∈ (runEvents k c (start k c {}).1 es).ghost) :
    verifyQC (env k c (runEvents k c (start k c {}).1 (es ++ es'))) b.qc = true := by
  have h1 := votes_verify_now k c es b id h
  have hf := reachable_fresh k c es
  have := verifyQC_stable_run k c es' _ b.qc hf h1
  unfold runEvents at *
  rw [List.foldl_append]
  exact this

/-- The strengthened form of `C03.vote_wellformed`: leader, parent, view order, and the certificate
verifies in the CURRENT state. -/
theorem vote_wellformed_now (k : Keys) (c : RCfg) (es : List Ev) (b : Block) (id : Nat)
    (h : GRec.vote b id ∈ (runEvents k c (start k c {}).1 es).ghost) :
    id = c.leader b.view ∧ b.parent = b.qc.hash ∧ b.qc.view < b.view ∧
    verifyQC (env k c (runEvents k c (start k c {}).1 es)) b.qc = true := by
  obtain ⟨h1, h2, h3, _⟩ := vote_wellformed k c es b id h
  exact ⟨h1, h2, h3, votes_verify_now k c es b id h⟩

/-! non-vacuity: votes are reachable, also votes for blocks whose certificate is not the genesis
certificate (BLS: a replica can check other replicas' signatures without a truth-table entry) -/
def nvCfg : RCfg := { n := 4, id := 1, rules := .chained, agg := false, scheme := .bls12 }
def nvP1 : Block := { hash := "P1", parent := "G", view := 1, proposer := 2, qc := genesisQC }
def nvQC : QC :=
  ⟨some (.bls [⟨1, blkMsg "P1"⟩, ⟨2, blkMsg "P1"⟩, ⟨3, blkMsg "P1"⟩] [] (((Bitfield.empty.add 1).add 2).add 3)), 1, "P1"⟩
def nvP2 : Block := { hash := "P2", parent := "P1", view := 2, proposer := 3, qc := nvQC }

deriving instance DecidableEq for GRec

example : GRec.vote nvP2 3 ∈
    (runEvents ⟨tmoMsgKey⟩ nvCfg (start ⟨tmoMsgKey⟩ nvCfg {}).1 [.propose 2 nvP1 none, .propose 3 nvP2 none]).ghost := by
  decide +kernel
example : nvP2.qc.hash ≠ genesisHash := by decide

/-- **Every block voted for is stored**: in every reachable state, for every vote `GRec.vote b id`
the replica ever signed, the block store has an entry under `b.hash`. -/
theorem voted_blocks_stored (k : Keys) (c : RCfg) (es : List Ev) (b : Block) (id : Nat)
    (h : GRec.vote b id ∈ (runEvents k c (start k c {}).1 es).ghost) :
    ((runEvents k c (start k c {}).1 es).chain.blocks.lookup b.hash).isSome = true :=
  runEvents_keeps (step_stored_partial k c) es _ (start_stored k c {} (by intro b id hm; cases hm)) b id h

/-- ... and where the store is well formed in the sense of C02 (entries are keyed by their own hash;
fetched blocks are stored under the REQUESTED hash, so this is an assumption on what peers serve, as
in `C03.vote_qc_quorum`), the stored block has the hash of the block voted for. -/
theorem voted_blocks_stored_same_hash (k : Keys) (c : RCfg) (es : List Ev) (b : Block) (id : Nat)
    (h : GRec.vote b id ∈ (runEvents k c (start k c {}).1 es).ghost)
    (hs : C02.StoreOK (env k c (runEvents k c (start k c {}).1 es))) :
    ∃ blk, (runEvents k c (start k c {}).1 es).chain.blocks.lookup b.hash = some blk ∧ blk.hash = b.hash := by
  have := voted_blocks_stored k c es b id h
  cases hb : (runEvents k c (start k c {}).1 es).chain.blocks.lookup b.hash with
  | none => rw [hb] at this; cases this
  | some blk => exact ⟨blk, rfl, hs b.hash blk hb⟩

/- FULL STATEMENT of one-step preservation with "same hash" and no store assumption (false of the
model, see `step_stored_counterexample`: `Store` leaves an existing entry alone, whatever
block it holds):
   (∀ b id, GRec.vote b id ∈ s.ghost → ∃ blk, s.chain.blocks.lookup b.hash = some blk ∧ blk.hash = b.hash) →
   (∀ b id, GRec.vote b id ∈ (step k c s e).1.ghost →
      ∃ blk, (step k c s e).1.chain.blocks.lookup b.hash = some blk ∧ blk.hash = b.hash)
   The true variants are `step_stored_partial` (some block is stored) and `voted_blocks_stored_same_hash`. -/

def cxKeys : Keys := ⟨tmoMsgKey⟩
def cxCfg : RCfg := { n := 4, id := 1, rules := .chained, agg := false, scheme := .ecdsa }
/-- a block sitting in the store under a hash that is not its own -/
def cxForeign : Block := { hash := "Y", parent := "G", view := 0, proposer := 0, qc := genesisQC }
def cxState : RState := { chain := { blocks := [("X", cxForeign), (genesisHash, genesisBlock)] } }
def cxBlock : Block := { hash := "X", parent := genesisHash, view := 1, proposer := 2, qc := genesisQC }

/-- From a state that has voted for nothing (so all invariants above hold of it) but whose store
holds a block under a foreign hash "X", the proposal of the view-1 leader for a block of hash "X" is
voted for, and the entry under "X" is still the foreign block. -/
theorem step_stored_counterexample :
    ∃ (k : Keys) (c : RCfg) (s : RState) (e : Ev) (b : Block) (id : Nat),
      Cur k c s ∧ Stored s ∧ s.ghost = [] ∧ GRec.vote b id ∈ (step k c s e).1.ghost ∧
      ∀ blk, (step k c s e).1.chain.blocks.lookup b.hash = some blk → blk.hash ≠ b.hash := by
  refine ⟨cxKeys, cxCfg, cxState, .propose 2 cxBlock none, cxBlock, 2, ?_, ?_, rfl, ?_, ?_⟩
  · exact ⟨fun p hp => (by cases hp), fun b id hm => (by cases hm)⟩
  · intro b id hm; cases hm
  · decide +kernel
  · intro blk hb
    have : (step cxKeys cxCfg cxState (.propose 2 cxBlock none)).1.chain.blocks.lookup cxBlock.hash = some cxForeign := by
      decide +kernel
    rw [this] at hb
    cases hb
    decide

end HsVerif.Props.C03Cur
