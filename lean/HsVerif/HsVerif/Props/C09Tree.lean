import HsVerif.Proofs.KauriTree
import HsVerif.Props.C09Kauri
import HsVerif.Props.C17
/-! C09 / C17, the Kauri tree as a whole — every node's aggregation state machine (Model/Kauri.lean,
Props/C09Kauri) composed along the tree (Model/Tree.lean, Props/C17).
(Definitions and lemmas: Proofs/KauriTree.lean.)

**Setting** (`TreeRun`, `TreeRun.Honest`): `n ≥ 1` replicas `1..n` placed by a position list `pos`
(`ValidPos n pos`: no repetition, length `n`, members exactly `1..n` — what `DefaultTreePos(n)` returns and
`Shuffle` preserves), branch factor `b ≥ 2`, ANY of the three signature schemes (ECDSA, EdDSA, BLS:
`Combine` of verifying signatures with disjoint signers verifies for all of them,
`C09Kauri.combine_disjoint_verifies`), every replica `i` holding the vote `own i` that `Sign` returns
for the block (`HonestSig`: present in the ground truth `T`), the block in every store (`known = true`),
every node starting from an ARBITRARY state `st0 i` (left over from earlier views), node `r` configured
as the driver does (`node_is_newSimple`).

**The bottom-up run** (`TreeRun.Sends`, unfolded in `sends_iff`): node `r` does `begin view hash (own r)`,
then, for each child `c` in ANY order, `contribution view c (some agg_c) true` where `agg_c` is an
aggregate that `c`'s own bottom-up run handed to `SendContributionToParent`, then its wait timer fires
(`timerExpired view`) — after the last child, never before.  `Sends r agg`: `agg` is an aggregate that
this run of `r` hands to `SendContributionToParent`.

**Findings** (plausible statements that are false, with what is true):
* a node that has a grandchild NEVER forwards on a contribution: `IsSubSet(tree.SubTree(), senders)`
  compares every replica below the node with the ids of its DIRECT senders, so only the wait timer makes
  it send (`node_sends_once`, clause 5; concrete: `grandparent_waits_counterexample`).  Hence the timer is
  part of the run of every node; for leaves and nodes whose sub-tree is their children it does nothing.
* "the root emits the certificate exactly once" is false: the quorum test runs after every contribution,
  so the root emits one certificate at the first prefix of its children that covers a quorum and one
  more at EVERY later contribution, each with more participants (`root_emits_qc`: `m - k0` certificates;
  `root_qc_twice_counterexample`: n = 4, b = 3 gives two).  Exactly one certificate iff only the last
  child completes the quorum (`root_single_qc`, e.g. every binary tree with n = 7).
* with n = 1 the root is a leaf, hears nobody and never emits a certificate (`lonely_root_no_qc`). -/
namespace HsVerif.Props.C09Tree
open HsVerif.Model HsVerif.Model.Tree

/-- `DefaultTreePos(n)` is a valid assignment of the replicas `1..n` -/
theorem validPos_default (n : Nat) : ValidPos n (defaultTreePos n) := C17.defaultTreePos_valid n

/-- `Shuffle` (any random stream) keeps it valid -/
theorem validPos_shuffle (n : Nat) (js pos : List Nat) (h : ValidPos n pos) : ValidPos n (shuffle js pos) := by
  obtain ⟨hp, hn, hl⟩ := C17.shuffle_valid js pos
  exact ⟨hn h.nodup, hl.trans h.length_eq, fun x => (hp.mem_iff).trans (h.mem_iff x)⟩

/-- node `r`'s configuration is the one the driver builds from `tree.NewSimple(r, b, pos)`:
`ReplicaChildren()` and `SubTree()` of `r`'s own instance (`C17.view`) -/
theorem node_is_newSimple (R : TreeRun) (H : R.Honest) (r : Nat) (hr : r ∈ R.pos) :
    newSimple r R.b R.pos = some (C17.view R.b R.pos r) ∧
    R.node r = { cfg := R.cfg, id := r, children := (C17.view R.b R.pos r).replicaChildren,
                 subtree := (C17.view R.b R.pos r).subTree } ∧
    R.ch r = (C17.view R.b R.pos r).replicaChildren :=
  ⟨C17.newSimple_of_mem H.hb hr, rfl, rfl⟩

/-- **The bottom-up run, unfolded** (every replica takes part): `r` sends `agg` iff there are
aggregates `cs`, one per child of `r`, in some order, each sent by that child's own bottom-up run, such
that `r`, after `begin` with its own vote, these contributions and then its wait timer, hands `agg` to
`SendContributionToParent`. -/
theorem sends_iff (R : TreeRun) (H : R.Honest) (r : Nat) (agg : Sig) :
    R.Sends r agg ↔ r ∈ R.pos ∧ ∃ cs : List (Nat × Sig),
      (cs.map (·.1)).Perm ((C17.view R.b R.pos r).childrenOf r) ∧ (∀ p ∈ cs, R.Sends p.1 p.2) ∧
      KEffect.sendToParent R.view (some agg) ∈
        (kRun R.T (R.node r) (R.st0 r)
          (.begin R.view R.hash (R.own r) :: cs.map (fun p => KOp.contribution R.view p.1 (some p.2) true) ++
            [.timerExpired R.view])).2 := by
  constructor
  · intro h
    cases h with
    | node hr _ hids hcs hmem =>
      rw [H.filter_live] at hids
      exact ⟨hr, _, hids, hcs, hmem⟩
  · rintro ⟨hr, cs, hids, hcs, hmem⟩
    exact TreeRun.Sends.node hr (H.all_live r) (by rw [H.filter_live]; exact hids) hcs hmem

/-- **The bottom-up run exists, for every order of the children at every node.**  `ord r` is the
order in which node `r` hears its children (any permutation of `ChildrenOf(r)`); the function
`TreeRun.aggOf` computes an aggregate that `r`'s run sends.  Hence for every node and every order of
its children there are contributions of the children's own runs to feed it with. -/
theorem bottom_up_run_exists (R : TreeRun) (H : R.Honest) :
    (∀ ord : Nat → List Nat, (∀ r ∈ R.pos, (ord r).Perm ((C17.view R.b R.pos r).childrenOf r)) →
      ∀ r ∈ R.pos, R.Sends r (R.aggOf ord R.pos.length r)) ∧
    (∀ r ∈ R.pos, ∀ ids : List Nat, ids.Perm ((C17.view R.b R.pos r).childrenOf r) →
      ∃ cs : List (Nat × Sig), cs.map (·.1) = ids ∧ ∀ p ∈ cs, R.Sends p.1 p.2) := by
  have h1 : ∀ ord : Nat → List Nat, (∀ r ∈ R.pos, (ord r).Perm ((C17.view R.b R.pos r).childrenOf r)) →
      ∀ r ∈ R.pos, R.Sends r (R.aggOf ord R.pos.length r) := by
    intro ord hord r hr
    exact R.sends_aggOf H.toValid ord (fun x hx => by rw [H.filter_live]; exact hord x hx) _ r hr (H.all_live r)
      (Nat.sub_le _ _)
  refine ⟨h1, fun r hr ids hids => ?_⟩
  refine ⟨ids.map (fun c => (c, R.aggOf R.ch R.pos.length c)), by simp [List.map_map, Function.comp_def], ?_⟩
  intro p hp
  obtain ⟨c, hc, rfl⟩ := List.mem_map.mp hp
  have hcp : c ∈ R.pos := (childrenOf_idx_lt H.vpos.nodup H.hb (hids.mem_iff.mp hc)).2.1
  exact h1 R.ch (fun x _ => List.Perm.refl _) c hcp

/-- **`subtree_aggregate`.**  Whatever node `r` sends in the bottom-up run verifies for the block
and its participants are EXACTLY `r` together with `SubTree(r)`, each once. -/
theorem subtree_aggregate (R : TreeRun) (H : R.Honest) {r : Nat} {agg : Sig} (h : R.Sends r agg) :
    verify R.T R.cfg agg (blkMsg R.hash) = true ∧ agg.participants.Nodup ∧
    agg.participants.Perm (r :: (C17.view R.b R.pos r).subTree) ∧
    agg.len = 1 + (C17.view R.b R.pos r).subTree.length := by
  obtain ⟨hok, hperm⟩ := R.sends_ok H.toValid h
  rw [H.part_eq] at hperm
  obtain ⟨hnd, hlen⟩ := sigOK_nodup R.T (R.node r) R.hash agg hok
  refine ⟨hok.1, hnd, hperm, ?_⟩
  rw [← hlen, hperm.length_eq, List.length_cons]; exact Nat.add_comm _ _

/-- **Exactly one aggregate per node, the complete one, and when.**  Feed node `r` one aggregate per
child, in any order, each sent by that child's bottom-up run.  Then (1) after the last contribution `r`
holds the aggregate `aggAfter …` of its own vote and all of them, (2) it verifies and its participants
are `r` and `SubTree(r)`, (3) in the whole view — wait timer included — `r` hands exactly ONE aggregate
to `SendContributionToParent`, this one, (4) if every replica of `SubTree(r)` is a child of `r` (a leaf:
at `begin`; a node without grandchildren: at the last contribution) it does so before the timer, and
(5) if `r` has a grandchild it sends NOTHING before its wait timer fires. -/
theorem node_sends_once (R : TreeRun) (H : R.Honest) {r : Nat} (hr : r ∈ R.pos) (cs : List (Nat × Sig))
    (hids : (cs.map (·.1)).Perm ((C17.view R.b R.pos r).childrenOf r)) (hcs : ∀ p ∈ cs, R.Sends p.1 p.2) :
    (kRun R.T (R.node r) (R.st0 r) (R.ops r cs)).1.aggContrib = some (aggAfter R.cfg (R.own r) cs) ∧
    (verify R.T R.cfg (aggAfter R.cfg (R.own r) cs) (blkMsg R.hash) = true ∧
      (aggAfter R.cfg (R.own r) cs).participants.Perm (r :: (C17.view R.b R.pos r).subTree)) ∧
    ((R.effects r cs).filter KEffect.isSend = [.sendToParent R.view (some (aggAfter R.cfg (R.own r) cs))] ∧
      R.Sends r (aggAfter R.cfg (R.own r) cs)) ∧
    ((∀ g ∈ (C17.view R.b R.pos r).subTree, g ∈ (C17.view R.b R.pos r).childrenOf r) →
      (kRun R.T (R.node r) (R.st0 r) (R.ops r cs)).2.filter KEffect.isSend =
        [.sendToParent R.view (some (aggAfter R.cfg (R.own r) cs))]) ∧
    ((∃ g ∈ (C17.view R.b R.pos r).subTree, g ∉ (C17.view R.b R.pos r).childrenOf r) →
      (kRun R.T (R.node r) (R.st0 r) (R.ops r cs)).2.filter KEffect.isSend = []) := by
  have hids' : (cs.map (·.1)).Perm ((R.ch r).filter R.live) := by rw [H.filter_live]; exact hids
  have hok := fun p hp => R.sends_ok H.toValid (hcs p hp)
  obtain ⟨h1, h2, h3, h4⟩ := R.node_in_tree H.toValid hr (H.all_live r) cs hids' hok
  have N := R.node_in_tree_part H.toValid (TreeRun.Fed.of_perm H.toValid hr (H.all_live r) hids' hok)
  rw [H.part_eq] at h3
  refine ⟨h1, ⟨h2.1, h3⟩, ⟨h4, (R.sends_aggAfter H.toValid hr (H.all_live r) cs hids' hcs).1⟩, ?_, ?_⟩
  · intro hall
    exact N.early (fun x hx => hids.mem_iff.mpr (hall x hx))
  · rintro ⟨x, hx, hxc⟩
    exact N.waits ⟨x, hx, fun hm => hxc (hids.mem_iff.mp hm)⟩

/-- **`every_vote_counted_once`** (the "every vote has exactly one path up" clause of C17 at the level
of signatures): in the aggregate of any node no replica appears twice, and a replica appears iff it is
the node itself or one of its descendants (`C17.Anc`: its chain of `Parent()` reports passes through the
node) — the vote of every replica of the sub-tree is counted, exactly once. -/
theorem every_vote_counted_once (R : TreeRun) (H : R.Honest) {r : Nat} {agg : Sig} (h : R.Sends r agg) :
    (∀ x, agg.participants.count x ≤ 1) ∧
    (∀ x, x ∈ agg.participants ↔ x = r ∨ C17.Anc R.b R.pos r x) ∧
    (∀ x, (x = r ∨ C17.Anc R.b R.pos r x) → agg.participants.count x = 1) := by
  obtain ⟨_, hnd, hperm, _⟩ := subtree_aggregate R H h
  have hmem : ∀ x, x ∈ agg.participants ↔ x = r ∨ C17.Anc R.b R.pos r x := by
    intro x
    rw [hperm.mem_iff, List.mem_cons, (C17.subtree_eq_descendants R.b R.pos H.vpos.nodup H.hb r).2]
  refine ⟨List.nodup_iff_count.mp hnd, hmem, fun x hx => ?_⟩
  have h1 := List.nodup_iff_count.mp hnd x
  have h2 : 0 < agg.participants.count x := List.count_pos_iff.mpr ((hmem x).mpr hx)
  omega

/-- the aggregate of a node is unique up to the order in which the votes were merged -/
theorem aggregate_unique_up_to_order (R : TreeRun) (H : R.Honest) {r : Nat} {a a' : Sig}
    (h : R.Sends r a) (h' : R.Sends r a') : a.participants.Perm a'.participants ∧ a.len = a'.len :=
  ⟨(subtree_aggregate R H h).2.2.1.trans (subtree_aggregate R H h').2.2.1.symm,
   (subtree_aggregate R H h).2.2.2.trans (subtree_aggregate R H h').2.2.2.symm⟩

/-- how many replicas the own vote and the sub-trees of the children `ids` cover -/
theorem covered_eq (R : TreeRun) (H : R.Honest) (ids : List Nat) :
    R.covered ids = 1 + (ids.map fun c => 1 + (C17.view R.b R.pos c).subTree.length).sum := by
  unfold TreeRun.covered
  rw [List.length_flatMap]
  congr 2
  apply List.map_congr_left
  intro c _
  rw [H.part_eq, List.length_cons]; exact Nat.add_comm _ _

/-- **When a node emits a certificate** (any node; it matters at the root).  Feed node `r` aggregates
of distinct children, sent by their bottom-up runs, in any order.  The `k+1`-th contribution makes `r`
emit a certificate iff `r`'s own vote and the sub-trees of the first `k+1` of these children cover a
quorum — then exactly one, for the node's view and block, verifying, whose participants are exactly
`r` and those sub-trees, each once. -/
theorem node_qc_step (R : TreeRun) (H : R.Honest) {r : Nat} (hr : r ∈ R.pos) (cs : List (Nat × Sig))
    (hidnd : (cs.map (·.1)).Nodup) (hidsub : ∀ x ∈ cs.map (·.1), x ∈ (C17.view R.b R.pos r).childrenOf r)
    (hcs : ∀ p ∈ cs, R.Sends p.1 p.2) (k : Nat) (hk : k < cs.length) :
    let a := aggAfter R.cfg (R.own r) (cs.take (k + 1))
    (kStep R.T (R.node r) (kRun R.T (R.node r) (R.st0 r) (R.ops r (cs.take k))).1
        (.contribution R.view cs[k].1 (some cs[k].2) true)).2.filter KEffect.isQC =
      (if R.cfg.quorum ≤ R.covered ((cs.map (·.1)).take (k + 1)) then [.newViewQC a R.view R.hash] else []) ∧
    verify R.T R.cfg a (blkMsg R.hash) = true ∧ a.participants.Nodup ∧
    a.participants.Perm (r :: ((cs.map (·.1)).take (k + 1)).flatMap fun c => c :: (C17.view R.b R.pos c).subTree) ∧
    a.participants.length = R.covered ((cs.map (·.1)).take (k + 1)) := by
  intro a
  have F : R.Fed r cs := ⟨hr, H.all_live r, hidnd, hidsub, fun p hp => R.sends_ok H.toValid (hcs p hp)⟩
  have hstep := R.node_qc_step H.toValid F k hk
  have N := R.node_in_tree_part H.toValid (F.take (k + 1))
  obtain ⟨hnd, hlen⟩ := sigOK_nodup R.T (R.node r) R.hash _ N.ok
  refine ⟨hstep, N.ok.1, hnd, ?_, by rw [hlen]; exact R.len_take H.toValid F (k + 1)⟩
  have h2 := N.perm
  rw [List.map_take] at h2
  have : R.part = fun c => c :: (C17.view R.b R.pos c).subTree := funext fun c => H.part_eq c
  rw [this] at h2
  exact h2

/-- **`root_emits_qc`.**  n ≥ 2; feed the root one aggregate per child, in ANY order, each sent by
that child's bottom-up run (`m` children).  There is a first prefix of the children (the first `k0+1`)
whose sub-trees, with the root's own vote, cover a quorum.  (1) No shorter prefix covers one and every
longer one does.  (2) Up to the `k0`-th contribution the root has emitted no certificate.  (3) At the
`k0+1`-th it emits exactly one: `newViewQC sig view hash` for its view and block, `sig` verifying, with
≥ `quorumSize n` pairwise distinct participants.  (4) It emits one more at EVERY later contribution:
`m - k0` certificates in the view — "exactly once" is false unless `k0 = m - 1`.  (5) At the latest the
last contribution makes it emit one; that one has all `n` replicas as participants. -/
theorem root_emits_qc (R : TreeRun) (H : R.Honest) (hn2 : 2 ≤ R.cfg.n) (cs : List (Nat × Sig))
    (hids : (cs.map (·.1)).Perm ((C17.view R.b R.pos R.root).childrenOf R.root))
    (hcs : ∀ p ∈ cs, R.Sends p.1 p.2) :
    ∃ k0, k0 < cs.length ∧
      ((∀ k, k < k0 → R.covered ((cs.map (·.1)).take (k + 1)) < quorumSize R.cfg.n) ∧
       (∀ k, k0 ≤ k → quorumSize R.cfg.n ≤ R.covered ((cs.map (·.1)).take (k + 1)))) ∧
      (kRun R.T (R.node R.root) (R.st0 R.root) (R.ops R.root (cs.take k0))).2.filter KEffect.isQC = [] ∧
      (∃ sig, (kRun R.T (R.node R.root) (R.st0 R.root) (R.ops R.root (cs.take (k0 + 1)))).2.filter KEffect.isQC =
          [.newViewQC sig R.view R.hash] ∧
        verify R.T R.cfg sig (blkMsg R.hash) = true ∧ sig.participants.Nodup ∧
        quorumSize R.cfg.n ≤ sig.participants.length) ∧
      ((kRun R.T (R.node R.root) (R.st0 R.root) (R.ops R.root cs)).2.filter KEffect.isQC).length = cs.length - k0 ∧
      (∃ hm : cs.length - 1 < cs.length,
        (kStep R.T (R.node R.root) (kRun R.T (R.node R.root) (R.st0 R.root) (R.ops R.root (cs.take (cs.length - 1)))).1
            (.contribution R.view cs[cs.length - 1].1 (some cs[cs.length - 1].2) true)).2.filter KEffect.isQC =
          [.newViewQC (aggAfter R.cfg (R.own R.root) cs) R.view R.hash] ∧
        verify R.T R.cfg (aggAfter R.cfg (R.own R.root) cs) (blkMsg R.hash) = true ∧
        (aggAfter R.cfg (R.own R.root) cs).participants.Perm R.pos ∧
        (aggAfter R.cfg (R.own R.root) cs).participants.length = R.cfg.n) := by
  have V := H.toValid
  obtain ⟨F, hcov, hne, hq, hperm, hver⟩ := H.root_facts hn2 cs hids hcs
  obtain ⟨k0, hk0, hbelow, habove, hnil, hone, hcount⟩ := R.node_qcs V F hne hq
  have f1 := (R.node_in_tree_part V (F.take (k0 + 1))).ok
  have f3 := R.len_take V F (k0 + 1)
  obtain ⟨fnd, flen⟩ := sigOK_nodup R.T (R.node R.root) R.hash _ f1
  obtain ⟨hm, hstep⟩ := R.node_qc_last V F hne hq
  exact ⟨k0, hk0, ⟨hbelow, habove⟩, hnil, ⟨_, hone, f1.1, fnd, by rw [flen, f3]; exact habove k0 (Nat.le_refl _)⟩,
    hcount, hm, hstep, hver, hperm, by rw [hperm.length_eq]; exact H.vpos.length_eq⟩

/-- **Exactly one certificate iff only the last child completes the quorum.**  If the root's own vote
and the sub-trees of the first `m - 1` children (in the order heard) do not cover a quorum, the root
emits exactly one certificate in the view: at the last contribution, with all `n` participants.  (Every
binary tree with n = 7: the root and one child's sub-tree are 4 < 5.) -/
theorem root_single_qc (R : TreeRun) (H : R.Honest) (hn2 : 2 ≤ R.cfg.n) (cs : List (Nat × Sig))
    (hids : (cs.map (·.1)).Perm ((C17.view R.b R.pos R.root).childrenOf R.root))
    (hcs : ∀ p ∈ cs, R.Sends p.1 p.2)
    (hlast : R.covered ((cs.map (·.1)).take (cs.length - 1)) < quorumSize R.cfg.n) :
    (kRun R.T (R.node R.root) (R.st0 R.root) (R.ops R.root cs)).2.filter KEffect.isQC =
      [.newViewQC (aggAfter R.cfg (R.own R.root) cs) R.view R.hash] ∧
    (aggAfter R.cfg (R.own R.root) cs).participants.Perm R.pos := by
  have V := H.toValid
  obtain ⟨F, hcov, hne, hq, hperm, _⟩ := H.root_facts hn2 cs hids hcs
  obtain ⟨k0, hk0, _, habove, _, hone, _⟩ := R.node_qcs V F hne hq
  have hk : k0 = cs.length - 1 := by
    apply Classical.byContradiction
    intro hne
    have := habove (cs.length - 2) (by omega)
    have e : cs.length - 2 + 1 = cs.length - 1 := by omega
    rw [e] at this
    exact absurd this (Nat.not_le.mpr hlast)
  have hfull : cs.take (k0 + 1) = cs := List.take_of_length_le (by omega)
  rw [hfull] at hone
  exact ⟨hone, hperm⟩

/-- a root without children (n = 1) hears nobody: it emits no certificate, although its own vote is a quorum -/
theorem lonely_root_no_qc (R : TreeRun) (H : R.Honest) (h1 : R.cfg.n = 1) :
    (C17.view R.b R.pos R.root).childrenOf R.root = [] ∧ quorumSize R.cfg.n = 1 ∧
    (R.effects R.root []).filter KEffect.isQC = [] := by
  have V := H.toValid
  have hch : R.ch R.root = [] := by
    cases hc : R.ch R.root with
    | nil => rfl
    | cons c l =>
      -- a child sits at a later position than the root, and there is only one position
      have hmem : c ∈ R.ch R.root := by rw [hc]; exact List.mem_cons_self
      obtain ⟨_, hcp, hlt⟩ := childrenOf_idx_lt V.vpos.nodup V.hb hmem
      have := List.idxOf_lt_length_iff.mpr hcp
      rw [V.vpos.length_eq, h1] at this
      omega
  refine ⟨hch, by rw [h1]; decide, ?_⟩
  have hq := (R.node_in_tree_part V (cs := []) ⟨R.root_mem V, H.all_live _, by simp, by simp, by simp⟩).qcs
  have htimer : ∀ s : KState, (kStep R.T (R.node R.root) s (.timerExpired R.view)).2.filter KEffect.isQC = [] := by
    intro s
    simp only [kStep, onTimer]
    split
    · rfl
    · split <;> rfl
  unfold TreeRun.effects
  rw [kRun_append, List.filter_append, hq, kRun_cons, kRun_nil, List.append_nil, htimer]
  rfl

/-- **Silent leaves.**  Some leaves never contribute (`live i = false`; a silent replica is a leaf,
the root takes part); everybody else is honest, and every node's wait timer fires after its other
children have contributed.  Then every node still sends exactly the aggregate of the replicas of its
sub-tree that take part (each once, verifying), and — if the replicas taking part number at least a
quorum, i.e. the silent ones at most `n - quorumSize n` — the root emits a certificate at the latest when
the last of its contributing children has contributed: verifying, whose participants are exactly the
replicas that take part. -/
theorem silent_leaves_root_qc (R : TreeRun) (V : R.Valid)
    (hq : quorumSize R.cfg.n ≤ (R.pos.filter R.live).length) :
    (∀ r agg, R.Sends r agg → verify R.T R.cfg agg (blkMsg R.hash) = true ∧ agg.participants.Nodup ∧
      agg.participants.Perm ((r :: (C17.view R.b R.pos r).subTree).filter R.live)) ∧
    (∀ cs : List (Nat × Sig), cs ≠ [] →
      (cs.map (·.1)).Perm (((C17.view R.b R.pos R.root).childrenOf R.root).filter R.live) →
      (∀ p ∈ cs, R.Sends p.1 p.2) →
      ∃ hm : cs.length - 1 < cs.length,
        (kStep R.T (R.node R.root) (kRun R.T (R.node R.root) (R.st0 R.root) (R.ops R.root (cs.take (cs.length - 1)))).1
            (.contribution R.view cs[cs.length - 1].1 (some cs[cs.length - 1].2) true)).2.filter KEffect.isQC =
          [.newViewQC (aggAfter R.cfg (R.own R.root) cs) R.view R.hash] ∧
        verify R.T R.cfg (aggAfter R.cfg (R.own R.root) cs) (blkMsg R.hash) = true ∧
        (aggAfter R.cfg (R.own R.root) cs).participants.Perm (R.pos.filter R.live) ∧
        quorumSize R.cfg.n ≤ (aggAfter R.cfg (R.own R.root) cs).participants.length) := by
  constructor
  · intro r agg h
    obtain ⟨hok, hperm⟩ := R.sends_ok V h
    exact ⟨hok.1, (sigOK_nodup R.T (R.node r) R.hash agg hok).1, hperm⟩
  · intro cs hne hids hcs
    obtain ⟨F, hcov, hperm, hver⟩ := R.root_facts V cs hids hcs
    obtain ⟨hm, hstep⟩ := R.node_qc_last V F hne (by rw [hcov]; exact hq)
    exact ⟨hm, hstep, hver, hperm, by rw [hperm.length_eq]; exact hq⟩

/-- the number of replicas taking part is `n` minus the number of silent ones -/
theorem live_count (R : TreeRun) (V : R.Valid) :
    (R.pos.filter R.live).length + (R.pos.filter fun i => !R.live i).length = R.cfg.n := by
  rw [← V.vpos.length_eq]
  generalize R.pos = l
  induction l with
  | nil => rfl
  | cons a l ih => cases h : R.live a <;> simp [h] <;> omega

/-! ### Non-vacuity and counterexamples: concrete trees, every node run bottom-up -/

/-- BLS run: block "B" in view 1, every replica votes with `blsSign` -/
def exRun (n b : Nat) (pos : List Nat) : TreeRun :=
  { T := fun _ => none, cfg := ⟨n, .bls12⟩, b := b, pos := pos, view := 1, hash := "B",
    own := fun i => blsSign i (blkMsg "B") }

/-- ECDSA run: the signature bytes `i` are replica `i`'s signature over the block -/
def exRunE (n b : Nat) (pos : List Nat) : TreeRun :=
  { T := fun x => some ⟨x, blkMsg "B"⟩, cfg := ⟨n, .ecdsa⟩, b := b, pos := pos, view := 1, hash := "B",
    own := fun i => .multi .ecdsa [⟨i, i⟩] }

/-- the hypotheses of the theorems hold for these runs, for every valid tree -/
theorem exRun_honest (n b : Nat) (pos : List Nat) (hb : 2 ≤ b) (hn : 1 ≤ n) (hv : ValidPos n pos) :
    (exRun n b pos).Honest ∧ (exRunE n b pos).Honest :=
  ⟨{ hb := hb, hn := hn, vpos := hv, own := fun i _ _ => Or.inr ⟨rfl, rfl⟩,
     silent_leaf := fun i _ h => by simp [exRun] at h, root_live := rfl, all_live := fun _ => rfl },
   { hb := hb, hn := hn, vpos := hv, own := fun i _ _ => Or.inl ⟨by simp [exRunE], i, rfl, rfl⟩,
     silent_leaf := fun i _ h => by simp [exRunE] at h, root_live := rfl, all_live := fun _ => rfl }⟩

/-- readable form of an effect: kind, participants, view, block, verdict of `Verify` for the block -/
def fxView (R : TreeRun) : KEffect → String × List Nat × Nat × Hash × Bool
  | .newViewQC a v h => ("qc", a.participants, v, h, verify R.T R.cfg a (blkMsg h))
  | .sendToParent v (some a) => ("send", a.participants, v, "", verify R.T R.cfg a (blkMsg R.hash))
  | .sendToParent v none => ("send-nil", [], v, "", false)
  | .sendProposalToChildren => ("propose", [], 0, "", false)

/-- everything the root emits up to its last child's contribution, every node below it having run
bottom-up with its children in the order `ord` -/
def rootFx (R : TreeRun) (ord : Nat → List Nat) : List KEffect :=
  (kRun R.T (R.node R.root) (R.st0 R.root)
    (R.ops R.root ((ord R.root).map fun c => (c, R.aggOf ord R.pos.length c)))).2

/-- n = 7, b = 2, default positions (1; 2 3; 4 5 6 7): one certificate, at the second child, with all
seven participants (quorum 5; the root and one child's sub-tree are 4) -/
theorem tree_7_2_default :
    (rootFx (exRun 7 2 (defaultTreePos 7)) (exRun 7 2 (defaultTreePos 7)).ch).map (fxView (exRun 7 2 (defaultTreePos 7))) =
      [("propose", [], 0, "", false), ("qc", [1, 2, 3, 4, 5, 6, 7], 1, "B", true)] := by decide +kernel

/-- n = 7, b = 2, shuffled positions (7; 1 3; 6 5 2 4), every node hearing its children in reverse order -/
theorem tree_7_2_shuffled :
    shuffle [3, 1, 4, 1, 5, 2] (defaultTreePos 7) = [7, 1, 3, 6, 5, 2, 4] ∧
    (exRun 7 2 [7, 1, 3, 6, 5, 2, 4]).root = 7 ∧
    (rootFx (exRun 7 2 [7, 1, 3, 6, 5, 2, 4]) (fun r => ((exRun 7 2 [7, 1, 3, 6, 5, 2, 4]).ch r).reverse)).map
        (fxView (exRun 7 2 [7, 1, 3, 6, 5, 2, 4])) =
      [("propose", [], 0, "", false), ("qc", [1, 2, 3, 4, 5, 6, 7], 1, "B", true)] := by decide +kernel

/- Full statement ("the root emits the certificate exactly once") is false; `root_emits_qc` says what is
true.  n = 4, b = 3, default positions (1; 2 3 4), quorum 3: the root emits a certificate at the second
child AND another one at the third (then, its sub-tree being its children, hands the aggregate to
`SendContributionToParent`). -/
theorem root_qc_twice_counterexample :
    quorumSize 4 = 3 ∧
    (rootFx (exRun 4 3 (defaultTreePos 4)) (exRun 4 3 (defaultTreePos 4)).ch).map (fxView (exRun 4 3 (defaultTreePos 4))) =
      [("propose", [], 0, "", false), ("qc", [1, 2, 3], 1, "B", true), ("qc", [1, 2, 3, 4], 1, "B", true),
       ("send", [1, 2, 3, 4], 1, "", true)] := by decide +kernel

/-- the same tree with ECDSA, children heard in the order 4, 3, 2 -/
theorem tree_4_3_ecdsa :
    (rootFx (exRunE 4 3 (defaultTreePos 4)) (fun r => ((exRunE 4 3 (defaultTreePos 4)).ch r).reverse)).map
        (fxView (exRunE 4 3 (defaultTreePos 4))) =
      [("propose", [], 0, "", false), ("qc", [3, 4, 1], 1, "B", true), ("qc", [2, 3, 4, 1], 1, "B", true),
       ("send", [2, 3, 4, 1], 1, "", true)] := by decide +kernel

def ex8 : TreeRun := exRun 8 2 (defaultTreePos 8)
/-- what node 2's children 4 and 5 send in their own bottom-up runs -/
def ex8cs : List (Nat × Sig) := (ex8.ch 2).map fun c => (c, ex8.aggOf ex8.ch 8 c)

/- Full statement ("a node whose children have all contributed forwards the complete aggregate") is
false for a node with a grandchild; `node_sends_once` says what is true.  n = 8, b = 2 (1; 2 3; 4 5 6 7; 8):
node 2 has the children 4, 5 and the grandchild 8.  After both children have contributed it has sent
NOTHING (`IsSubSet([4 5 8], [4 5])` fails); only its wait timer makes it send the aggregate of 2, 4, 5, 8. -/
theorem grandparent_waits_counterexample :
    (ex8.node 2).children = [4, 5] ∧ (ex8.node 2).subtree = [4, 5, 8] ∧
    (kRun ex8.T (ex8.node 2) (ex8.st0 2) (ex8.ops 2 ex8cs)).2.map (fxView ex8) = [("propose", [], 0, "", false)] ∧
    (ex8.effects 2 ex8cs).map (fxView ex8) = [("propose", [], 0, "", false), ("send", [2, 4, 5, 8], 1, "", true)] :=
  ⟨by decide +kernel, by decide +kernel, by decide +kernel, by decide +kernel⟩

def ex7s : TreeRun := { exRun 7 2 (defaultTreePos 7) with live := fun i => i != 7 }

/-- silent leaf: n = 7, b = 2, replica 7 never contributes; node 3 flushes {3, 6} on its timer and the
root still emits a certificate, with the six participants that take part (quorum 5) -/
theorem tree_7_2_silent_leaf :
    (rootFx ex7s (fun r => (ex7s.ch r).filter ex7s.live)).map (fxView ex7s) =
      [("propose", [], 0, "", false), ("qc", [1, 2, 3, 4, 5, 6], 1, "B", true)] := by decide +kernel

/-- n = 1: the lonely root sends its own vote "to the parent" and emits no certificate -/
theorem tree_1 : ((exRun 1 2 (defaultTreePos 1)).effects 1 []).map (fxView (exRun 1 2 (defaultTreePos 1))) =
    [("send", [1], 1, "", true)] := by decide +kernel

end HsVerif.Props.C09Tree
