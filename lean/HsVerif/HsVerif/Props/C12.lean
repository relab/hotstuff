import HsVerif.Model.Wire
import HsVerif.Proofs.Cert
/-! C12 — wire encoding preserves the meaning of every protocol message.

Each theorem says that decoding the encoding of a well-formed object yields the *same object*
(up to the fields the receiver fills in from the connection: the sender id); equality of hash,
bytes-to-sign, participants and verification verdict are then immediate, since they are functions
of the object (stated once in `derived_equal`). -/
namespace HsVerif.Props.C12
open HsVerif.Model

def twoPow32 : Nat := 4294967296
def twoPow64 : Nat := 18446744073709551616

/-- what honest code produces: a Go type exists for the scheme, signer ids fit `uint32`, bit-field
size consistent (C19) -/
def SigOK : Option Sig → Prop
  | none => True
  | some (.multi k es) => k ≠ .bls12 ∧ ∀ e ∈ es, e.claimed < twoPow32
  | some (.bls _ _ bits) => bits.len = bits.ids.length

def QCOK (q : QC) : Prop := SigOK q.sig ∧ q.view < twoPow64
def TCOK (t : TC) : Prop := SigOK t.sig ∧ t.view < twoPow64
def AggOK (a : AggQC) : Prop := SigOK a.sig ∧ a.view < twoPow64 ∧ ∀ p ∈ a.qcs, p.1 < twoPow32 ∧ QCOK p.2
def SyncOK (s : SyncInfo) : Prop := (∀ q, s.qc = some q → QCOK q) ∧ (∀ t, s.tc = some t → TCOK t) ∧ (∀ a, s.agg = some a → AggOK a)

theorem u32_of_lt {n : Nat} (h : n < twoPow32) : u32 n = n := Nat.mod_eq_of_lt h
theorem u64_of_lt {n : Nat} (h : n < twoPow64) : u64 n = n := Nat.mod_eq_of_lt h

theorem map_rt {α β} {f : α → β} {g : β → α} (l : List α) (h : ∀ a ∈ l, g (f a) = a) : (l.map f).map g = l := by
  rw [List.map_map]
  exact (List.map_congr_left h).trans (List.map_id l)

theorem option_rt {α β} {f : α → β} {g : β → α} (o : Option α) (h : ∀ a, o = some a → g (f a) = a) :
    (o.map f).map g = o := by
  cases o with
  | none => rfl
  | some a => exact congrArg some (h a rfl)

theorem sig_rt (s : Option Sig) (h : SigOK s) : sigFromProto (sigToProto s) = s := by
  have hes : ∀ es : List Entry, (∀ e ∈ es, e.claimed < twoPow32) →
      (es.map fun e => (u32 e.claimed, e.bytes)).map (fun p => (⟨p.1, p.2⟩ : Entry)) = es :=
    fun es h => map_rt es fun e he => by rw [u32_of_lt (h e he)]
  match s with
  | none => rfl
  | some (.multi .ecdsa es) => simp only [sigToProto, sigFromProto, hes es h.2]
  | some (.multi .eddsa es) => simp only [sigToProto, sigFromProto, hes es h.2]
  | some (.multi .bls12 es) => exact absurd rfl h.1
  | some (.bls a j ⟨d, l⟩) => exact congrArg (fun n => some (Sig.bls a j ⟨d, n⟩)) (Eq.symm h)

theorem qc_rt (q : QC) (h : QCOK q) : qcFromProto (qcToProto q) = q := by
  simp only [qcToProto, qcFromProto, sig_rt _ h.1, u64_of_lt h.2]

theorem tc_rt (t : TC) (h : TCOK t) : tcFromProto (tcToProto t) = t := by
  simp only [tcToProto, tcFromProto, sig_rt _ h.1, u64_of_lt h.2]

theorem agg_rt (a : AggQC) (h : AggOK a) : aggFromProto (aggToProto a) = a := by
  have hq : (a.qcs.map fun p => (u32 p.1, qcToProto p.2)).map (fun x => (x.1, qcFromProto x.2)) = a.qcs :=
    map_rt a.qcs fun p hp => by rw [u32_of_lt (h.2.2 p hp).1, qc_rt _ (h.2.2 p hp).2]
  simp only [aggToProto, aggFromProto, sig_rt _ h.1, hq, u64_of_lt h.2.1]

theorem sync_rt (s : SyncInfo) (h : SyncOK s) : syncFromProto (syncToProto s) = s := by
  simp only [syncToProto, syncFromProto, option_rt s.qc fun q hq => qc_rt q (h.1 q hq),
    option_rt s.tc fun t ht => tc_rt t (h.2.1 t ht), option_rt s.agg fun a ha => agg_rt a (h.2.2 a ha)]

/-- A timeout message arrives unchanged except that its sender id is the id of the connection it
came on; in particular from an honest sender (peer = its own id) it is the same message. -/
theorem tmo_rt (t : TimeoutMsg) (peer : Nat) (hv : t.view < twoPow64) (h1 : SigOK t.viewSig) (h2 : SigOK t.msgSig)
    (h3 : SyncOK t.si) : tmoFromProto (tmoToProto t) peer = { t with id := peer } := by
  have : (t.msgSig.map fun s => sigToProto (some s)).bind sigFromProto = t.msgSig := by
    cases hm : t.msgSig with
    | none => rfl
    | some s => exact sig_rt (some s) (hm ▸ h2)
  simp only [tmoToProto, tmoFromProto, sync_rt _ h3, sig_rt _ h1, u64_of_lt hv, this]

theorem block_rt (b : BlockContent) (hv : b.view < twoPow64) (hp : b.proposer < twoPow32) (hq : QCOK b.qc) :
    blockFromProto (blockToProto b) = b := by
  simp only [blockToProto, blockFromProto, qc_rt _ hq, u64_of_lt hv, u32_of_lt hp]

/-- A proposal arrives with the block the sender created iff the sender is the block's proposer
(the handler overwrites the proposer with the peer id, so nobody can propose in another's name). -/
theorem proposal_rt (b : BlockContent) (agg : Option AggQC) (peer : Nat) (hv : b.view < twoPow64)
    (hp : peer < twoPow32) (hq : QCOK b.qc) (ha : ∀ a, agg = some a → AggOK a) :
    proposalRT b agg peer = (peer, { b with proposer := peer }, agg) := by
  simp only [proposalRT, blockToProto, blockFromProto, qc_rt _ hq, u64_of_lt hv, u32_of_lt hp,
    option_rt agg fun a h => agg_rt a (ha a h)]

/-- A vote arrives with the same signature and block hash; the signer shortcut is recomputed as
the first participant, which is what `NewPartialCert` computed at the sender. -/
theorem pc_rt (sig : Option Sig) (h : Hash) (hs : SigOK sig) :
    pcFromProto (pcToProto sig h) = ((sig.map Sig.first).getD 0, sig, h) := by
  simp only [pcFromProto, pcToProto, sig_rt _ hs]

/-- Hash, bytes-to-sign, participants and verdicts are functions of the object: equal objects give
equal results, for any such function `F` (in particular `Block.Hash`, `ToBytes`, `Participants`,
`verifyQC E`, `verifyTC E`, `verifyAggQC E`). -/
theorem derived_equal {α β} (F : α → β) (x y : α) (h : x = y) : F x = F y := by rw [h]

/-- Block fetch: the reply filter of `RequestBlockQF` only lets through a block whose recomputed
hash is the requested one (`hashOf` = SHA-256 of `ToBytes`, any function). -/
def requestBlockQF (hashOf : BlockContent → Hash) (h : Hash) (replies : List PBlock) : Option PBlock :=
  replies.find? fun p => hashOf (blockFromProto p) == h

theorem fetched_block_has_hash (hashOf : BlockContent → Hash) (h : Hash) (replies : List PBlock) (r : PBlock)
    (hr : requestBlockQF hashOf h replies = some r) : hashOf (blockFromProto r) = h := by
  have := List.find?_some hr
  simpa using this

/-- what honest constructors produce satisfies the well-formedness used above -/
theorem blsSign_ok (r : Nat) (m : Msg) (hr : 1 ≤ r) : SigOK (some (blsSign r m)) := by
  simp only [SigOK, blsSign]
  exact Bitfield.inv_add _ _ hr Bitfield.inv_empty

example : sigFromProto (sigToProto (some (blsSign 3 "m"))) = some (blsSign 3 "m") := by decide
example : qcFromProto (qcToProto ⟨some (.multi .ecdsa [⟨1, 11⟩, ⟨2, 12⟩]), 5, "B"⟩) = ⟨some (.multi .ecdsa [⟨1, 11⟩, ⟨2, 12⟩]), 5, "B"⟩ := by decide

end HsVerif.Props.C12
