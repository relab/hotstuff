import HsVerif.Props.C08
import HsVerif.Props.C08Gen
/-! C08 — the "exactly when" statement carried over to the regenerated collector (`Gen/TimeoutCollector.lean`,
translated from `timeout_collector.go` on every run): `Props/C08.collector_exact` through the bridge
`Props/C08Gen.gen_collectorAdd_eq_model`. -/
namespace HsVerif.Props.C08GenCor
open HsVerif.Model HsVerif.Props.C08 HsVerif.Props.C08Gen
open HsVerif.Gen.Methods (timeoutCollector_add)

/-- ON THE REGENERATED CODE ("exactly when a quorum timed out in that view"): for a message from a sender not yet
recorded for its view, `timeoutCollector.add` as translated from the Go source of this run reports a quorum
(`true`, with the list) iff, with the new message, at least `q` messages of THAT view are held; the list is exactly
those messages, and they leave the collector while the messages of other views stay. -/
theorem gen_collector_exact (q : Nat) (ts : List TimeoutMsg) (t : TimeoutMsg) (hk : Keyed ts)
    (hnew : ¬ ∃ x ∈ ts, x.view = t.view ∧ x.id = t.id) :
    let same := ofView (ts ++ [t]) t.view
    let r := timeoutCollector_add tView tID (q : Int) ts t
    (q ≤ same.length → r.1 = (ts ++ [t]).filter (fun x => x.view != t.view) ∧ resultOpt r.2.1 = some same) ∧
    (same.length < q → r.1 = ts ++ [t] ∧ resultOpt r.2.1 = none) := by
  intro same r
  obtain ⟨h1, h2, _, _⟩ := gen_collectorAdd_eq_model q ts t
  obtain ⟨e1, e2, _⟩ := collector_exact q ts t hk hnew
  refine ⟨fun hq => ?_, fun hq => ?_⟩
  · have := e1 hq
    exact ⟨by rw [h1, this], by rw [h2, this]⟩
  · have := e2 hq
    exact ⟨by rw [h1, this], by rw [h2, this]⟩

end HsVerif.Props.C08GenCor
