import HsVerif.Proofs.FastSafety
import HsVerif.Proofs.FastCex
import HsVerif.Proofs.FastExact
/-! C01 for Fast-HotStuff, abstract layer, continued: DOES THE PAPER'S EXACT FRESHNESS RULE
(`aggQC.View() + 1 == block.View()` instead of the code's `≥`) MAKE FAST-HOTSTUFF, WITH THE CHECKS OF
`FastHotStuff.VoteRule` ALONE, SAFE?  **No.**  Definitions, the table checker and the instance are in
Proofs/FastExact.lean (whose header comment is the message schedule).

There is a seven replica instance (f = 2, quorum 5) of the whole `Discipline`, of `ExactFresh` and of the pacemaker
facts `Discipline'` with two committed blocks that are not on one branch.  The cause: above a committed pair
`b0 ← b1` two certified blocks `P`, `Q` may fork (non-consecutive views); c holds only `Q`, d holds only `P`; a
quorum misses two replicas, so c is shown an aggregate QC of the preceding view whose non-genesis reports are all
`P`, d one whose non-genesis reports are all `Q`; `findHighestValidQC` skips them; neither voter looks at its OWN
high QC.
What is missing is NOT freshness: if a voter also respects its own high QC (never votes for a block whose QC is
lower than the QC of a block it voted for before), the two-chain argument is two lines and needs no condition on the
aggregate QC at all (`fast_safe_if_locked`).  `LockJust` is not among the checks of
`FastHotStuff.VoteRule` (it never reads the replica's high QC); the voter enforces it (`Voter.lastVotedQCView`, commit
a77ccac), and the replica model keeps it (Props/C01FastLock.lean).
`StrictJust` / `UniformJust` remain sufficient as well (`C01Fast.fast_safe_if_strict`, `fast_safe_if_uniform`); the
instance violates all three.  The honest branch of the schedule of Proofs/FastCex.lean satisfies the discipline, `ExactFresh` and `LockJust`, with an aggregate-justified
block between its two commits (the theorems are not vacuous).
Hand analysis only (not checked here): for n = 4 (f = 1) `Discipline` + `ExactFresh` + "a reported QC is of a view
`≤` the view timed out" does imply safety -- a quorum misses one replica, so a voter of `b1` that votes for the
conflicting block can avoid only its own report. -/
namespace HsVerif.Props.C01FastExact
open HsVerif.Safety HsVerif.FastSafety HsVerif.FastExact HsVerif.Model HsVerif.QuorumCount

/-- **Fast-HotStuff with exact freshness of the aggregate QC is not safe by its discipline**: there is a system
that satisfies every clause of `Discipline` (and the pacemaker facts of `Discipline'`), in which every honest vote
is plain or justified by an aggregate QC of EXACTLY the preceding view, and that has two two-chain commits on
different branches. -/
theorem fast_not_safe_with_exact_freshness :
    ∃ (S : TSys) (b0 b1 c0 c1 : S.Blk), Discipline' S ∧ ExactFresh S ∧ TwoChain S b0 b1 ∧ TwoChain S c0 c1 ∧
      ¬ (TExt S b0 c0 ∨ TExt S c0 b0) :=
  ⟨ecex, (1 : B), (2 : B), (5 : B), (6 : B), ecex_discipline', ecex_exact, echain_b, echain_w, ecex_conflict⟩

theorem ecex_keeps_discipline : Discipline ecex ∧ Discipline' ecex := ⟨ecex_discipline, ecex_discipline'⟩

theorem ecex_exact_fresh : ExactFresh ecex := ecex_exact

/-- `b0` (block 1, view 1) is committed by the two-chain `b0 ← b1` -/
theorem ecex_commit_b : TwoChain ecex (1 : B) (2 : B) := echain_b

/-- `w` (block 5, view 6, parent genesis) is committed by the two-chain `w ← w1` -/
theorem ecex_commit_w : TwoChain ecex (5 : B) (6 : B) := echain_w

theorem ecex_commits_conflict : ¬ (TExt ecex (1 : B) (5 : B) ∨ TExt ecex (5 : B) (1 : B)) := ecex_conflict

/-- every clause is a decidable statement about the finite tables of the schedule -/
theorem ecex_checked : efull.OK ∧ efull.RealOK := ⟨efull_ok, efull_real⟩

/-- n = 7 replicas, `numFaulty 7 = 2` of them Byzantine, `quorumSize 7 = 5`; all event times distinct -/
theorem ecex_quorum_system_and_times : (numFaulty 7 = 2 ∧ quorumSize 7 = 5 ∧ count byz 7 = 2) ∧
    ((efull.votes.map (fun e => e.2.2)) ++ (efull.tmos.map (fun e => e.2.2.1))).Nodup :=
  ⟨by decide, by decide +kernel⟩

/-- the fork above the committed pair that EF does not exclude: `P` (block 3) and `Q` (block 4) are both children of
`b1`, both certified before the view 5 timeouts; c (replica 2) never has `P`, d (replica 3) never has `Q` -/
theorem ecex_fork_above_b1 :
    efull.par (3 : B) = 2 ∧ efull.par (4 : B) = 2 ∧ efull.certB 3 25 = true ∧ efull.certB 4 25 = true ∧
    efull.hasB 2 3 42 = false ∧ efull.hasB 3 4 42 = false := by
  decide +kernel

/-- the step of the classical argument that fails, at c: c voted for `b1`, reports `Q` itself, and votes for `w`
(parent genesis) against an aggregate QC of view 5 = view w - 1 that contains the timeout of a -- an honest voter
of `b1` -- reporting `P` (view ≥ view b0): c does not have `P`, the report is skipped -/
theorem ecex_skipped_report_c :
    (2, 5, 30) ∈ efull.votes ∧ efull.aggOf 2 5 = some A5c ∧ A5c.2.1 + 1 = efull.view 5 ∧
    (2, 2, 9) ∈ efull.votes ∧ (2, 5, 27, 4) ∈ efull.tmos ∧
    (0, 2, 7) ∈ efull.votes ∧ (0, 5, 25, 3) ∈ efull.tmos ∧ efull.view 1 ≤ efull.view 3 ∧
    efull.hasB 2 3 30 = false ∧ efull.par 5 = 0 :=
  ⟨by decide, rfl, by decide, by decide, by decide, by decide, by decide, by decide, by decide +kernel, by decide⟩

/-- ... and at d: d reports `P` itself and votes for `w` against ANOTHER aggregate QC of view 5 in which the honest
voters b and c of `b1` report `Q`, which d does not have -/
theorem ecex_skipped_report_d :
    (3, 5, 31) ∈ efull.votes ∧ efull.aggOf 3 5 = some A5d ∧ A5d.2.1 + 1 = efull.view 5 ∧
    (3, 5, 28, 3) ∈ efull.tmos ∧
    (1, 2, 8) ∈ efull.votes ∧ (1, 5, 26, 4) ∈ efull.tmos ∧ (2, 5, 27, 4) ∈ efull.tmos ∧
    efull.view 1 ≤ efull.view 4 ∧ efull.hasB 3 4 31 = false :=
  ⟨by decide, rfl, by decide, by decide, by decide, by decide, by decide, by decide, by decide +kernel⟩

/-! ### What is missing is not freshness: a voter that respects its own high QC -/

/-- **Safety, if a voter never votes for a block whose QC is lower than the QC of a block it voted for before**
(its own high QC counts as a report / as a lock).  No freshness hypothesis, no hypothesis on skipped reports. -/
theorem fast_safe_if_locked (S : TSys) (D : Discipline S) (hl : LockJust S) {b0 b1 c0 c1 : S.Blk}
    (Cb : TwoChain S b0 b1) (Cc : TwoChain S c0 c1) : TExt S b0 c0 ∨ TExt S c0 b0 :=
  one_branch_of_key D (key_locked D hl) Cb Cc

/-- the invariant behind it: every certified block at or above a committed block's view extends it -/
theorem fast_certified_extends_locked (S : TSys) (D : Discipline S) (hl : LockJust S) {b0 b1 : S.Blk}
    (C : TwoChain S b0 b1) (w : S.Blk) (hw : Certified S w) (hge : S.view b0 ≤ S.view w) : TExt S w b0 :=
  extends_of_key D C (key_locked D hl C) w (Or.inr hw) hge

/-- exact freshness is a strengthening of the implemented rule: it implies `Discipline.just` -/
theorem exact_implies_just (S : TSys) (h : ExactFresh S) : ∀ r w t, S.honest r → S.votedAt r w t →
    Plain S w ∨ ∃ T u rep, AggJ S r w t T u rep := h.just

/-- the instance violates each of the three sufficient hypotheses -/
theorem ecex_violates_strict : ¬ StrictJust ecex := ecex_not_strict
theorem ecex_violates_uniform : ¬ UniformJust ecex := ecex_not_uniform
theorem ecex_violates_locked : ¬ LockJust ecex := ecex_not_locked

/-- the direct witness: c voted for `b1` (whose QC is for `b0`, view 1) at time 9 and for `w` (QC for genesis) at 30 -/
theorem ecex_c_lowers_qc :
    (2, 2, 9) ∈ efull.votes ∧ (2, 5, 30) ∈ efull.votes ∧ efull.view (efull.par 5) < efull.view (efull.par 2) := by
  decide +kernel

/-- non-vacuity: the honest branch of the schedule of Proofs/FastCex.lean keeps the discipline, exact freshness and `LockJust`, and commits `b0`
(view 1) and `X` (view 4, voted for under the aggregate rule) -/
theorem good_locked_exact_instance :
    Discipline FastCex.good.sys ∧ ExactFresh FastCex.good.sys ∧ LockJust FastCex.good.sys ∧
    TwoChain FastCex.good.sys (1 : FastCex.B) (2 : FastCex.B) ∧ TwoChain FastCex.good.sys (4 : FastCex.B) (5 : FastCex.B) :=
  ⟨FastCex.good_discipline, good_exact, good_locked, FastCex.good_chain_b, FastCex.good_chain_x⟩

end HsVerif.Props.C01FastExact
