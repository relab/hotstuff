import HsVerif.Props.C01SysWF
import HsVerif.Proofs.SysLedger
/-! C01, system layer — THE SYSTEM OF REPLICA MODELS IS SAFE (chained and simplified
HotStuff).  Helpers in Proofs/SysSafety.lean.

Setting, as in Props/C01SysWF.lean: any reachable state `σ` of the system of replica models
(Model/Sys.lean: the honest ids run `Model/Replica.lean` against ONE global signature table; the
adversary schedules, delivers arbitrary events, decides what block fetches return and signs with the
Byzantine keys), `KeysOK k`, `1 ≤ C.n`, at most `numFaulty n` of the ids `1..n` Byzantine
(`FewFaulty C`), ECDSA / EdDSA (`C.scheme ≠ .bls12`), chained or simplified HotStuff
(`C.rules ≠ .fast`), `blk : Hash → Block` naming the block of each hash, and content addressing

  `CA' σ blk := CA σ blk ∧ ∀ i s h b, σ.reps.lookup i = some s → s.chain.blocks.lookup h = some b → h ≠ ""`

(defined in Proofs/SysSafety.lean): `CA` of Proofs/SysDiscipline.lean plus ONE added conjunct — no
honest replica stores a block under the empty hash.  The genesis block of the model carries the
certificate hash `""`, chained HotStuff's commit rule follows no certificate with hash `""`, and the
replica-level lock invariants (`LInv`, `PairInv`) are exact about that: their clauses are vacuous
for votes whose certificate chain meets the hash `""`.  Hashes being a field of the modelled block, a
Byzantine proposal with hash `""` is stored like any other, and then the lock provably fails to
cover a grandparent (Props/C01LockInv.lean, `votes_lock_grandparent_counterexample`).  Real hashes
are 32 bytes and the genesis hash is `"G"`, so the conjunct is part of "the hash field is a hash",
like `CA`.

The replica invariants `LInv`, `PairInv` and the commit invariant `CommittedBy` hold of every replica of
every reachable system state.  From them comes the field `lock` of `Discipline (SysAbs C σ blk)` (exactly
the hypothesis `lock` of `C01SysWF.sys_safety_of_lock`), so two three-chains (commit conditions) are on one
branch; and the block an honest replica has committed is genesis or the tail of a three-chain of
`SysAbs C σ blk`, so the committed blocks of any two honest replicas are on one branch. -/
namespace HsVerif.Props.C01Safety
open HsVerif.Model HsVerif.Props.C01Sys HsVerif.Props.C01SysWF HsVerif.SysSafety

/-- **The lock invariant and the history invariant hold of every replica of every reachable system
state** (chained / simplified HotStuff). -/
theorem sys_linv_pair (k : Keys) (C : SysCfg) (hrl : C.rules ≠ .fast) (σ : SysState) (hr : Reach k C σ)
    (i : Nat) (s : RState) (hl : σ.reps.lookup i = some s) : LInv (C.rcfg i) s ∧ PairInv (C.rcfg i) s :=
  ⟨(reach_safe k C hrl σ hr i s hl).linv, (reach_safe k C hrl σ hr i s hl).pair⟩

/-- **The commit invariant**: in every reachable system state, the block a replica has committed is
the genesis block, or the block the commit rule returned for a block the replica voted for
(`CommitChain`: three certificate links down from it, consecutive views). -/
theorem sys_committed_by (k : Keys) (C : SysCfg) (hrl : C.rules ≠ .fast) (σ : SysState) (hr : Reach k C σ)
    (i : Nat) (s : RState) (hl : σ.reps.lookup i = some s) :
    s.committed = genesisBlock ∨ ∃ x id, GRec.vote x id ∈ s.ghost ∧ CommitChain (C.rcfg i) s x s.committed :=
  reach_committedBy k C σ hr i s hl

example (c : RCfg) (s : RState) : CommittedBy c s ↔
    (s.committed = genesisBlock ∨ ∃ x id, GRec.vote x id ∈ s.ghost ∧ CommitChain c s x s.committed) := Iff.rfl

/-- **The lock rule of the abstract discipline**: an honest replica that voted for `x` and, in a
higher view, for `w` held a lock `l` — genesis or a certified block, of view at least that of `x`'s
grandparent and below `w`'s — such that `w`'s parent is above `l` or `w` extends `l`. -/
theorem sys_lock (k : Keys) (C : SysCfg) (hk : KeysOK k) (σ : SysState) (hr : Reach k C σ)
    (hn : 1 ≤ C.n) (hf : FewFaulty C) (hsch : C.scheme ≠ .bls12) (hrl : C.rules ≠ .fast)
    (blk : Hash → Block) (hca : CA' σ blk) :
    ∀ r x w, (SysAbs C σ blk).honest r → (SysAbs C σ blk).voted r x → (SysAbs C σ blk).voted r w →
      (SysAbs C σ blk).view x < (SysAbs C σ blk).view w →
      ∃ l, HsVerif.Safety.GC (SysAbs C σ blk) l ∧
        (SysAbs C σ blk).view ((SysAbs C σ blk).par ((SysAbs C σ blk).par x)) ≤ (SysAbs C σ blk).view l ∧
        (SysAbs C σ blk).view l < (SysAbs C σ blk).view w ∧
        ((SysAbs C σ blk).view l < (SysAbs C σ blk).view ((SysAbs C σ blk).par w) ∨
          HsVerif.Safety.Ext (SysAbs C σ blk) w l) :=
  Ctx.lock ⟨hk, hr, hn, hf, hsch, hrl, hca⟩

/-- **The system of replica models keeps the voting discipline of the abstract safety argument.** -/
theorem sys_discipline (k : Keys) (C : SysCfg) (hk : KeysOK k) (σ : SysState) (hr : Reach k C σ)
    (hn : 1 ≤ C.n) (hf : FewFaulty C) (hsch : C.scheme ≠ .bls12) (hrl : C.rules ≠ .fast)
    (blk : Hash → Block) (hca : CA' σ blk) : HsVerif.Safety.Discipline (SysAbs C σ blk) :=
  Ctx.discipline ⟨hk, hr, hn, hf, hsch, hrl, hca⟩

/-- **Safety of the system**: any two three-chains (commit conditions) of `SysAbs C σ blk` are on one
branch. -/
theorem sys_safety (k : Keys) (C : SysCfg) (hk : KeysOK k) (σ : SysState) (hr : Reach k C σ)
    (hn : 1 ≤ C.n) (hf : FewFaulty C) (hsch : C.scheme ≠ .bls12) (hrl : C.rules ≠ .fast)
    (blk : Hash → Block) (hca : CA' σ blk)
    {b b' b'' c c' c'' : (SysAbs C σ blk).Blk}
    (Tb : HsVerif.Safety.ThreeChain (S := SysAbs C σ blk) b b' b'')
    (Tc : HsVerif.Safety.ThreeChain (S := SysAbs C σ blk) c c' c'') :
    HsVerif.Safety.Ext (SysAbs C σ blk) b c ∨ HsVerif.Safety.Ext (SysAbs C σ blk) c b :=
  HsVerif.Safety.committed_on_one_branch (sys_discipline k C hk σ hr hn hf hsch hrl blk hca) Tb Tc

/-- **What a replica has committed satisfies the commit condition of the abstract argument**: the
committed block of an honest replica is genesis or the tail of a three-chain of `SysAbs C σ blk`
(directly linked by abstract parent links, consecutive views, head certified) — for chained HotStuff
(whose commit rule checks parent links) and for simplified HotStuff (which checks certificate links
only: for certified, hence honestly voted, blocks parent and certificate link coincide). -/
theorem sys_committed_three_chain (k : Keys) (C : SysCfg) (hk : KeysOK k) (σ : SysState) (hr : Reach k C σ)
    (hn : 1 ≤ C.n) (hf : FewFaulty C) (hsch : C.scheme ≠ .bls12) (hrl : C.rules ≠ .fast)
    (blk : Hash → Block) (hca : CA' σ blk) (i : Nat) (s : RState) (hl : σ.reps.lookup i = some s) :
    s.committed = genesisBlock ∨
      ∃ b' b'', HsVerif.Safety.ThreeChain (S := SysAbs C σ blk) s.committed b' b'' :=
  Ctx.committed ⟨hk, hr, hn, hf, hsch, hrl, hca⟩ hl

/-- **Committed blocks of any two honest replicas are on one branch.** -/
theorem sys_commits_agree (k : Keys) (C : SysCfg) (hk : KeysOK k) (σ : SysState) (hr : Reach k C σ)
    (hn : 1 ≤ C.n) (hf : FewFaulty C) (hsch : C.scheme ≠ .bls12) (hrl : C.rules ≠ .fast)
    (blk : Hash → Block) (hca : CA' σ blk) (i j : Nat) (si sj : RState)
    (hi : σ.reps.lookup i = some si) (hj : σ.reps.lookup j = some sj) :
    HsVerif.Safety.Ext (SysAbs C σ blk) si.committed sj.committed ∨
      HsVerif.Safety.Ext (SysAbs C σ blk) sj.committed si.committed :=
  (Ctx.commit ⟨hk, hr, hn, hf, hsch, hrl, hca⟩).commits_agree hi hj

/-! ### non-vacuity

The run `wfState` of Props/C01SysWF.lean (ids 1, 2, 3 honest, id 4 Byzantine, round-robin leaders,
chained HotStuff, ECDSA; `P1` proposed by replica 2 and voted for by all, the votes delivered to
replica 3, which proposes and votes for `P2`) continued through views 2, 3 and 4:
  * `P2` is delivered to replicas 1 and 2, which vote;
  * the leader of view 3 is the BYZANTINE id 4: the adversary assembles the certificate for `P2` from
    the three honest signatures in the table and proposes `P3`, which all three replicas vote for
    (their lock moves to `P1`);
  * the three votes for `P3` are delivered to replica 1, the leader of view 4, which assembles the
    certificate, proposes `P4` and votes for it — checked against its lock `P1` — then locks on `P2`
    and COMMITS `P1`;
  * `P4` is delivered to replica 2, which votes, locks on `P2` and commits `P1`; replica 3 has
    committed nothing but genesis.
Runs evaluated by the kernel (`decide +kernel`). -/
section NonVacuity
open HsVerif.SysLedger

def sfBlock3 : Block :=
  { hash := "P3", parent := "P2", view := 3, proposer := 4,
    qc := ⟨some (.multi .ecdsa [⟨3, 5⟩, ⟨1, 6⟩, ⟨2, 7⟩]), 2, "P2"⟩, cmds := [] }
def sfBlock4 : Block :=
  { hash := "P4", parent := "P3", view := 4, proposer := 1,
    qc := ⟨some (.multi .ecdsa [⟨1, 8⟩, ⟨2, 9⟩, ⟨3, 10⟩]), 3, "P3"⟩, cmds := ["101/1/c1"] }

/-- "the block with that hash" in the run -/
def sfBlk (h : Hash) : Block :=
  if h = "P1" then exBlock else if h = "P2" then wfBlock2 else if h = "P3" then sfBlock3
  else if h = "P4" then sfBlock4 else genesisBlock

def sfActs : List SysAct :=
  wfActs ++
  [.deliver 1 (.propose 3 wfBlock2 none), .deliver 2 (.propose 3 wfBlock2 none),
   .deliver 1 (.propose 4 sfBlock3 none), .deliver 2 (.propose 4 sfBlock3 none), .deliver 3 (.propose 4 sfBlock3 none),
   .deliver 1 (.vote 1 (some (.multi .ecdsa [⟨1, 8⟩])) "P3" false),
   .deliver 1 (.vote 2 (some (.multi .ecdsa [⟨2, 9⟩])) "P3" false),
   .deliver 1 (.vote 3 (some (.multi .ecdsa [⟨3, 10⟩])) "P3" false),
   .deliver 2 (.propose 1 sfBlock4 none)]
def sfState : SysState := sysRun exKeys exCfg sfActs

/-- what a non-vacuity run is checked for, in ONE evaluation of the run with ledgers: content addressing `CA'`, the
vote records `(replica, block, bytes id)` listed, for the replicas listed the committed block and the ledger, and that
no action delivers a commit event -/
def runOK (k : Keys) (C : SysCfg) (acts : List SysAct) (blk : Hash → Block) (votes : List (Nat × Block × Nat))
    (commits : List (Nat × Block × List Block)) : Bool :=
  ca'Check (sysRunL k C acts).1 blk &&
  votes.all (fun v => votedCheck (sysRunL k C acts).1 v.1 v.2.1 v.2.2) &&
  commits.all (fun c => decide (((sysRunL k C acts).1.reps.lookup c.1).map (·.committed) = some c.2.1) &&
    decide ((sysRunL k C acts).2 c.1 = c.2.2)) &&
  acts.all (·.noCommit)

theorem runOK_spec {k : Keys} {C : SysCfg} {acts : List SysAct} {blk : Hash → Block} {votes : List (Nat × Block × Nat)}
    {commits : List (Nat × Block × List Block)} (h : runOK k C acts blk votes commits = true) :
    CA' (sysRun k C acts) blk ∧
    (∀ v ∈ votes, (SysAbs C (sysRun k C acts) blk).voted v.1 v.2.1) ∧
    (∀ c ∈ commits, ((sysRun k C acts).reps.lookup c.1).map (·.committed) = some c.2.1 ∧
      (sysRunL k C acts).2 c.1 = c.2.2) ∧
    (∀ a ∈ acts, a.noCommit = true) := by
  simp only [runOK, Bool.and_eq_true, List.all_eq_true, decide_eq_true_eq] at h
  rw [sysRunL_fst] at h
  obtain ⟨⟨⟨h1, h2⟩, h3⟩, h4⟩ := h
  exact ⟨ca'_of_ca'Check _ _ h1, fun v hv => voted_of_votedCheck _ _ _ _ _ _ (h2 v hv), h3, h4⟩

theorem sf_ok : runOK exKeys exCfg sfActs sfBlk [(1, sfBlock3, 4), (1, sfBlock4, 1)]
    [(1, exBlock, [exBlock]), (2, exBlock, [exBlock]), (3, genesisBlock, [])] = true := by decide +kernel

/-- the hypotheses of `sys_lock`, `sys_discipline`, `sys_safety`, `sys_committed_three_chain` and
`sys_commits_agree` hold together of `sfState`, in which honest replica 1 has voted for `P3` and `P4` -/
theorem sys_safety_nonvacuous : KeysOK exKeys ∧ Reach exKeys exCfg sfState ∧ 1 ≤ exCfg.n ∧ FewFaulty exCfg ∧
    exCfg.scheme ≠ .bls12 ∧ exCfg.rules ≠ .fast ∧ CA' sfState sfBlk ∧ (SysAbs exCfg sfState sfBlk).honest 1 ∧
    (SysAbs exCfg sfState sfBlk).voted 1 sfBlock3 ∧ (SysAbs exCfg sfState sfBlk).voted 1 sfBlock4 :=
  have ⟨hca, hv, _⟩ := runOK_spec sf_ok
  ⟨tmoMsgKey_ne_blkMsg, reach_run _ _ _, by decide, by unfold FewFaulty; decide, by decide, by decide,
    hca, by decide, hv _ (.head _), hv _ (.tail _ (.head _))⟩

/-- what `sys_lock` yields for replica 1's votes for `P3` and `P4`: a lock witness that is NOT genesis
(its view is at least that of `P1`, the grandparent of `P3`) -/
example : ∃ l, HsVerif.Safety.GC (SysAbs exCfg sfState sfBlk) l ∧ 1 ≤ l.view ∧ l.view < 4 ∧
    (l.view < 3 ∨ HsVerif.Safety.Ext (SysAbs exCfg sfState sfBlk) sfBlock4 l) := by
  obtain ⟨hk, hr, hn, hf, hs, hrl, hca, hh, hv3, hv4⟩ := sys_safety_nonvacuous
  obtain ⟨l, h1, h2, h3, h4⟩ := sys_lock exKeys exCfg hk sfState hr hn hf hs hrl sfBlk hca 1 sfBlock3 sfBlock4 hh hv3 hv4
    (by decide)
  have hp : (SysAbs exCfg sfState sfBlk).par ((SysAbs exCfg sfState sfBlk).par sfBlock3) = exBlock := by decide
  have hp4 : (SysAbs exCfg sfState sfBlk).par sfBlock4 = sfBlock3 := by decide
  rw [hp] at h2
  rw [hp4] at h4
  exact ⟨l, h1, h2, h3, h4⟩

/-- replicas 1 and 2 have committed `P1`, replica 3 nothing but genesis -/
theorem sf_committed : (sfState.reps.lookup 1).map (·.committed) = some exBlock ∧
    (sfState.reps.lookup 2).map (·.committed) = some exBlock ∧
    (sfState.reps.lookup 3).map (·.committed) = some genesisBlock :=
  have h := (runOK_spec sf_ok).2.2.1
  ⟨(h _ (.head _)).1, (h _ (.tail _ (.head _))).1, (h _ (.tail _ (.tail _ (.head _)))).1⟩

/-- what `sys_committed_three_chain` and `sys_commits_agree` yield in the run: `P1`, committed by
replica 1, is the tail of a three-chain of the abstract system, and it extends what replica 3 has
committed -/
example : (∃ b' b'', HsVerif.Safety.ThreeChain (S := SysAbs exCfg sfState sfBlk) exBlock b' b'') ∧
    HsVerif.Safety.Ext (SysAbs exCfg sfState sfBlk) exBlock genesisBlock := by
  obtain ⟨hk, hr, hn, hf, hs, hrl, hca, _⟩ := sys_safety_nonvacuous
  obtain ⟨c1, _, c3⟩ := sf_committed
  obtain ⟨s1, h1, e1⟩ := Option.map_eq_some_iff.mp c1
  obtain ⟨s3, h3, e3⟩ := Option.map_eq_some_iff.mp c3
  constructor
  · rcases sys_committed_three_chain exKeys exCfg hk sfState hr hn hf hs hrl sfBlk hca 1 s1 h1 with h | h
    · rw [e1] at h; exact absurd h (by decide)
    · rw [e1] at h; exact h
  · rcases sys_commits_agree exKeys exCfg hk sfState hr hn hf hs hrl sfBlk hca 1 3 s1 s3 h1 h3 with h | h
    · rw [e1, e3] at h; exact h
    · rw [e1, e3] at h
      obtain ⟨n, hn'⟩ := h
      rw [HsVerif.Safety.up_gen (sys_gen exCfg sfState sfBlk).2 n] at hn'
      exact absurd hn' (by decide)

/-! the same run under SIMPLIFIED HotStuff (`rules := .simple`): the same votes, locks and commits -/
def sfCfgS : SysCfg := { exCfg with rules := .simple }
def sfStateS : SysState := sysRun exKeys sfCfgS sfActs

theorem sfS_ok : runOK exKeys sfCfgS sfActs sfBlk [(1, sfBlock3, 4), (1, sfBlock4, 1)]
    [(1, exBlock, [exBlock]), (2, exBlock, [exBlock]), (3, genesisBlock, [])] = true := by decide +kernel

theorem sys_safety_nonvacuous_simple : KeysOK exKeys ∧ Reach exKeys sfCfgS sfStateS ∧ 1 ≤ sfCfgS.n ∧ FewFaulty sfCfgS ∧
    sfCfgS.scheme ≠ .bls12 ∧ sfCfgS.rules = .simple ∧ CA' sfStateS sfBlk ∧ (SysAbs sfCfgS sfStateS sfBlk).honest 1 ∧
    (SysAbs sfCfgS sfStateS sfBlk).voted 1 sfBlock3 ∧ (SysAbs sfCfgS sfStateS sfBlk).voted 1 sfBlock4 ∧
    (sfStateS.reps.lookup 1).map (·.committed) = some exBlock :=
  have ⟨hca, hv, hc, _⟩ := runOK_spec sfS_ok
  ⟨tmoMsgKey_ne_blkMsg, reach_run _ _ _, by decide, by unfold FewFaulty; decide, by decide, rfl,
    hca, by decide, hv _ (.head _), hv _ (.tail _ (.head _)), (hc _ (.head _)).1⟩

/-- simplified HotStuff: `P1`, committed by replica 1, is the tail of a three-chain of the abstract system -/
example : ∃ b' b'', HsVerif.Safety.ThreeChain (S := SysAbs sfCfgS sfStateS sfBlk) exBlock b' b'' := by
  obtain ⟨hk, hr, hn, hf, hs, hrl, hca, _, _, _, c1⟩ := sys_safety_nonvacuous_simple
  obtain ⟨s1, h1, e1⟩ := Option.map_eq_some_iff.mp c1
  rcases sys_committed_three_chain exKeys sfCfgS hk sfStateS hr hn hf hs (by rw [hrl]; decide) sfBlk hca 1 s1 h1 with h | h
  · rw [e1] at h; exact absurd h (by decide)
  · rw [e1] at h; exact h

end NonVacuity

end HsVerif.Props.C01Safety
