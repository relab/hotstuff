import HsVerif.Props.C14
import HsVerif.Props.C14Gen
/-! C14 — the refinement statement carried over to the regenerated ring buffer (`Gen/Queue.lean`, translated from
`queue.go` on every run): running ANY word of push / pop / len through the regenerated `push`, `pop`, `len`, starting
from `newQueue(c)`'s fields, gives the outputs of the ideal bounded deque. -/
namespace HsVerif.Props.C14GenCor
open HsVerif.Model HsVerif.Model.Queue HsVerif.Props.C14 HsVerif.Props.C14Gen
open HsVerif.Gen.Methods (queue_push queue_pop queue_len)

abbrev GQ (α : Type) := List (Option α) × Int × Int

def gstep {α : Type} (q : GQ α) : QOp α → GQ α × QOut α
  | .push x => let r := queue_push q.1 q.2.1 q.2.2 (some x); (r.1, .pushed r.2.1)
  | .pop => let r := queue_pop q.1 q.2.1 q.2.2; (r.1, .popped r.2.1.1)
  | .len => let r := queue_len q.1 q.2.1 q.2.2; (r.1, .len r.2.1)

def grun {α : Type} (q : GQ α) : List (QOp α) → GQ α × List (QOut α)
  | [] => (q, [])
  | o :: os => let r := gstep q o; let r' := grun r.1 os; (r'.1, r.2 :: r'.2)

def fields {α : Type} (q : Queue α) : GQ α := (q.entries, q.head, q.tail)

theorem gstep_eq_model {α : Type} (q : Queue α) (o : QOp α) :
    gstep (fields q) o = (fields (q.step o).1, (q.step o).2) := by
  cases o with
  | push x =>
    obtain ⟨h1, h2⟩ := gen_push_eq_model q x
    simp only [gstep, fields, Queue.step, h1, h2]
  | pop =>
    obtain ⟨h1, h2, _⟩ := gen_pop_eq_model q
    simp only [gstep, fields, Queue.step, h1, h2]
  | len =>
    obtain ⟨h1, h2⟩ := gen_len_eq_model q
    simp only [gstep, fields, Queue.step, h1, h2]

theorem grun_eq_model {α : Type} (w : List (QOp α)) (q : Queue α) :
    grun (fields q) w = (fields (q.run w).1, (q.run w).2) := by
  induction w generalizing q with
  | nil => rfl
  | cons o os ih =>
    simp only [grun, Queue.run, gstep_eq_model, ih]

/-- **The regenerated ring buffer refines the bounded deque**: every capacity ≥ 1, every word. -/
theorem gen_queue_refines_deque {α : Type} (c : Nat) (hc : 1 ≤ c) (w : List (QOp α)) :
    (grun (fields (Queue.new c : Queue α)) w).2 = (Deque.run c [] w).2 := by
  rw [grun_eq_model]; exact queue_refines_deque c hc w

example : (grun (fields (Queue.new 2 : Queue Nat)) [.push 1, .push 2, .push 3, .pop, .len]).2 =
    [.pushed none, .pushed none, .pushed (some 1), .popped (some 2), .len 1] := by decide

end HsVerif.Props.C14GenCor
