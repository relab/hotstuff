import HsVerif.Proofs.SysDiscipline
/-! C01, system layer — unforgeability of honest votes and "one certified block per view" in a
SYSTEM of replica models (Model/Sys.lean): the honest ids run the replica model against one global
signature table, the adversary delivers arbitrary events and signs with the Byzantine keys.
The invariant is in Proofs/SysInv.lean, the per-handler Hoare triples in Proofs/ReplicaSig.lean; the hypotheses `KeysOK`,
`FewFaulty`, `CertifiedT` and the counting lemmas are in Proofs/SysDiscipline.lean. -/
namespace HsVerif.Props.C01Sys
open HsVerif.Model

theorem tmoMsgKey_ne_blkMsg : KeysOK ⟨tmoMsgKey⟩ := by
  intro i v q h
  unfold tmoMsgKey blkMsg
  intro e
  have := congrArg (fun s => s.toList.head?) e
  simp [toString] at this

/-- **Honest votes are unforgeable**: in every reachable state of the system, an entry of the
global signature table under an honest id over the block message of hash `h` was made by that
replica's `voteFor`: its ghost history has the vote record for a block with that hash.  (Whatever
events the adversary delivers, and whatever it signs with the Byzantine keys.) -/
theorem honest_votes_unforgeable (k : Keys) (C : SysCfg) (hk : KeysOK k) (σ : SysState) (hr : Reach k C σ) :
    ∀ p ∈ σ.truth, p.2.signer ∈ C.honest → ∀ h, p.2.msg = blkMsg h →
      ∃ s, σ.reps.lookup p.2.signer = some s ∧ ∃ b id, b.hash = h ∧ GRec.vote b id ∈ s.ghost :=
  (reach_inv k C σ hr).unf hk

/-- every honest replica of a reachable state keeps the vote discipline of C03 -/
theorem honest_vote_discipline (k : Keys) (C : SysCfg) (hk : KeysOK k) (σ : SysState) (hr : Reach k C σ)
    (i : Nat) (s : RState) (hl : σ.reps.lookup i = some s) : Inv3 k (C.rcfg i) s :=
  (reach_inv k C σ hr).inv3 i s hl

theorem honest_ids (k : Keys) (C : SysCfg) (hk : KeysOK k) (σ : SysState) (hr : Reach k C σ) (i : Nat) :
    i ∈ C.honest ↔ ∃ s, σ.reps.lookup i = some s :=
  ⟨(reach_inv k C σ hr).dom i, fun ⟨s, h⟩ => (reach_inv k C σ hr).honest_of_lookup i s h⟩

/-- byte ids are fresh: in a reachable state a lookup in the global table finds exactly the entries
of the table (no entry is shadowed by a later signature), and all ids are below `nextBytes` -/
theorem table_lookup_iff (k : Keys) (C : SysCfg) (σ : SysState) (hr : Reach k C σ) (bytes : Nat) (a : Atom) :
    σ.truth.lookup bytes = some a ↔ (bytes, a) ∈ σ.truth :=
  (reach_fresh k C σ hr).lookup_iff bytes a

theorem table_ids_fresh (k : Keys) (C : SysCfg) (σ : SysState) (hr : Reach k C σ) :
    ∀ p ∈ σ.truth, p.1 < σ.nextBytes :=
  (reach_fresh k C σ hr).2

/-- collision freedom among honest votes: a real hash determines the block -/
def CF (σ : SysState) : Prop :=
  ∀ i j si sj, σ.reps.lookup i = some si → σ.reps.lookup j = some sj → ∀ b b' x y,
    GRec.vote b x ∈ si.ghost → GRec.vote b' y ∈ sj.ghost → b.hash = b'.hash → b = b'

def HonestVoted (σ : SysState) (b : Block) : Prop :=
  ∃ i s id, σ.reps.lookup i = some s ∧ GRec.vote b id ∈ s.ghost

theorem certified_share_honest_voter (k : Keys) (C : SysCfg) (hk : KeysOK k) (σ : SysState) (hr : Reach k C σ)
    (hn : 1 ≤ C.n) (hf : FewFaulty C) (h1 h2 : Hash) (hc1 : CertifiedT C σ h1) (hc2 : CertifiedT C σ h2) :
    ∃ j s b1 x b2 y, j ∈ C.honest ∧ σ.reps.lookup j = some s ∧
      GRec.vote b1 x ∈ s.ghost ∧ GRec.vote b2 y ∈ s.ghost ∧ b1.hash = h1 ∧ b2.hash = h2 ∧
      (b1.view = b2.view → b1 = b2) := by
  obtain ⟨S1, hd1, hq1, hm1⟩ := hc1
  obtain ⟨S2, hd2, hq2, hm2⟩ := hc2
  obtain ⟨j, hj1, hj2, hjh⟩ := quorums_share_honest_id C.n hn C.honest S1 S2 hf
    hd1 hq1 (fun i hi => ⟨(hm1 i hi).1, (hm1 i hi).2.1⟩) hd2 hq2 (fun i hi => ⟨(hm2 i hi).1, (hm2 i hi).2.1⟩)
  obtain ⟨_, _, by1, hb1⟩ := hm1 j hj1
  obtain ⟨_, _, by2, hb2⟩ := hm2 j hj2
  have hinv := reach_inv k C σ hr
  obtain ⟨s, hs, b1, x, hh1, hv1⟩ := hinv.unf hk _ (mem_of_lookup _ _ _ hb1) hjh h1 rfl
  obtain ⟨s', hs', b2, y, hh2, hv2⟩ := hinv.unf hk _ (mem_of_lookup _ _ _ hb2) hjh h2 rfl
  obtain rfl : s' = s := Option.some.inj (hs'.symm.trans hs)
  exact ⟨j, s', b1, x, b2, y, hjh, hs, hv1, hv2, hh1, hh2,
    one_vote_per_view k _ s' (hinv.inv3 _ _ hs) b1 b2 x y hv1 hv2⟩

/-- **One certified block per view.**  In a reachable state of the system with at most
`numFaulty n` Byzantine ids: if the signature table certifies the hashes `h1` and `h2` (a quorum of
genuine signatures over each), and `h1`, `h2` are the hashes of blocks `b1`, `b2` of the same view
that honest replicas voted for, then `h1 = h2` — provided hashes of honestly voted blocks do not
collide (`CF`).  The hypothesis `scheme ≠ bls12` is not used by the proof: it marks the range in
which the statement says something (BLS values carry their atoms instead of referring to the
table, so under BLS only forged entries are ever in the table). -/
theorem one_certified_block_per_view (k : Keys) (C : SysCfg) (hk : KeysOK k) (σ : SysState) (hr : Reach k C σ)
    (hn : 1 ≤ C.n) (hf : FewFaulty C) (_hs : C.scheme ≠ .bls12) (hcf : CF σ)
    (h1 h2 : Hash) (hc1 : CertifiedT C σ h1) (hc2 : CertifiedT C σ h2)
    (b1 b2 : Block) (hv1 : HonestVoted σ b1) (hv2 : HonestVoted σ b2)
    (hh1 : b1.hash = h1) (hh2 : b2.hash = h2) (hview : b1.view = b2.view) : h1 = h2 := by
  obtain ⟨j, s, c1, x, c2, y, _, hs, hg1, hg2, hc1h, hc2h, hone⟩ :=
    certified_share_honest_voter k C hk σ hr hn hf h1 h2 hc1 hc2
  obtain ⟨i1, s1, x1, hl1, hm1⟩ := hv1
  obtain ⟨i2, s2, x2, hl2, hm2⟩ := hv2
  have e1 : c1 = b1 := hcf j i1 s s1 hs hl1 c1 b1 x x1 hg1 hm1 (by rw [hc1h, hh1])
  have e2 : c2 = b2 := hcf j i2 s s2 hs hl2 c2 b2 y x2 hg2 hm2 (by rw [hc2h, hh2])
  subst e1; subst e2
  have := hone hview
  rw [← hh1, ← hh2, this]

/-- in the system: a QC that honest replica `i` accepts when it looks at the global table -/
theorem accepted_qc_certified (k : Keys) (C : SysCfg) (σ : SysState) (i : Nat) (s : RState) (q : QC)
    (hsch : C.scheme ≠ .bls12) (ht : s.truth = σ.truth) (hs : C02.StoreOK (env k (C.rcfg i) s))
    (hg : q.hash ≠ genesisHash) (hv : verifyQC (env k (C.rcfg i) s) q = true) : CertifiedT C σ q.hash :=
  accepted_certifiedT k C σ i s q hsch (fun _ _ h => ht ▸ h) hs hg hv

/-! Non-vacuity: a concrete run of a 4-replica system (ids 1, 2, 3 honest, id 4 Byzantine, quorum
3) in which all hypotheses of `one_certified_block_per_view` hold together: all three honest
replicas start (replica 2, the leader of view 1, proposes `P1` and votes), the Byzantine replica
signs a vote for some `X`, an attempt to forge a vote of replica 1 is a no-op, and the proposal is
delivered to replicas 1 and 3, which vote.  The table then certifies `P1`.  The run is evaluated by
the kernel (`decide +kernel`: kernel reduction, no compiled evaluation). -/
section NonVacuity

def exKeys : Keys := ⟨tmoMsgKey⟩
def exCfg : SysCfg :=
  { n := 4, rules := .chained, scheme := .ecdsa, agg := false, leaders := .roundRobin, honest := [1, 2, 3] }
def exBlock : Block :=
  { hash := "P1", parent := "G", view := 1, proposer := 2, qc := genesisQC, cmds := ["102/1/c1"] }
def exActs : List SysAct :=
  [.start 1, .start 2, .start 3, .forge ⟨4, blkMsg "X"⟩, .forge ⟨1, blkMsg "X"⟩,
   .deliver 1 (.propose 2 exBlock none), .deliver 3 (.propose 2 exBlock none)]
def exState : SysState := sysRun exKeys exCfg exActs

def allVotesFor (B : Block) (σ : SysState) : Bool :=
  σ.reps.all (fun p => p.2.ghost.all (fun r => match r with | .vote b _ => b == B | _ => true))

theorem cf_of_allVotesFor (B : Block) (σ : SysState) (h : allVotesFor B σ = true) : CF σ := by
  have key : ∀ i si b x, σ.reps.lookup i = some si → GRec.vote b x ∈ si.ghost → b = B := by
    intro i si b x hl hm
    have h1 := all_of_lookup h hl
    have h2 := List.all_eq_true.mp h1 _ hm
    simpa using h2
  intro i j si sj hi hj b b' x y hb hb' _
  rw [key i si b x hi hb, key j sj b' y hj hb']

def votedCheck (σ : SysState) (r : Nat) (w : Block) (id : Nat) : Bool :=
  match σ.reps.lookup r with
  | some s => s.ghost.any (fun g => match g with | .vote b i => b == w && i == id | _ => false)
  | none => false

theorem votedCheck_spec (σ : SysState) (r : Nat) (w : Block) (id : Nat) (h : votedCheck σ r w id = true) :
    ∃ s, σ.reps.lookup r = some s ∧ GRec.vote w id ∈ s.ghost := by
  unfold votedCheck at h
  split at h
  · rename_i s hl
    refine ⟨s, hl, ?_⟩
    obtain ⟨g, hg, hm⟩ := List.any_eq_true.mp h
    cases g with
    | vote b i =>
      simp only [Bool.and_eq_true, beq_iff_eq] at hm
      rw [← hm.1, ← hm.2]; exact hg
    | tmo v => cases hm
    | adv a b c => cases hm
  · cases h

example : Reach exKeys exCfg exState := reach_run _ _ _

/-- all that is checked of the run `exState`, bundled so that the run is evaluated once -/
def exOK : Bool :=
  allVotesFor exBlock exState &&
  decide (exState.truth.lookup 3 = some ⟨1, blkMsg "P1"⟩) && decide (exState.truth.lookup 1 = some ⟨2, blkMsg "P1"⟩) &&
  decide (exState.truth.lookup 4 = some ⟨3, blkMsg "P1"⟩) && votedCheck exState 1 exBlock 2 &&
  decide (exState.truth.lookup 2 = some ⟨4, blkMsg "X"⟩) && exState.truth.all (fun p => p.2 != ⟨1, blkMsg "X"⟩)

theorem exOK_parts : allVotesFor exBlock exState = true ∧
    exState.truth.lookup 3 = some ⟨1, blkMsg "P1"⟩ ∧ exState.truth.lookup 1 = some ⟨2, blkMsg "P1"⟩ ∧
    exState.truth.lookup 4 = some ⟨3, blkMsg "P1"⟩ ∧ votedCheck exState 1 exBlock 2 = true ∧
    exState.truth.lookup 2 = some ⟨4, blkMsg "X"⟩ ∧ exState.truth.all (fun p => p.2 != ⟨1, blkMsg "X"⟩) = true := by
  have h : exOK = true := by decide +kernel
  simp only [exOK, Bool.and_eq_true, decide_eq_true_eq] at h
  exact ⟨h.1.1.1.1.1.1, h.1.1.1.1.1.2, h.1.1.1.1.2, h.1.1.1.2, h.1.1.2, h.1.2, h.2⟩

set_option maxRecDepth 100000 in
example : KeysOK exKeys ∧ Reach exKeys exCfg exState ∧ 1 ≤ exCfg.n ∧ FewFaulty exCfg ∧ exCfg.scheme ≠ .bls12 ∧
    CF exState ∧ CertifiedT exCfg exState "P1" ∧ HonestVoted exState exBlock ∧ exBlock.hash = "P1" := by
  obtain ⟨hall, h1, h2, h3, hv, _⟩ := exOK_parts
  refine ⟨tmoMsgKey_ne_blkMsg, reach_run _ _ _, by decide, by unfold FewFaulty; decide, by decide,
    cf_of_allVotesFor exBlock _ hall, ⟨[1, 2, 3], by decide, by decide, ?_⟩, ?_, rfl⟩
  · intro i hi
    simp only [List.mem_cons, List.not_mem_nil, or_false] at hi
    rcases hi with rfl | rfl | rfl
    · exact ⟨by decide, by decide, 3, h1⟩
    · exact ⟨by decide, by decide, 1, h2⟩
    · exact ⟨by decide, by decide, 4, h3⟩
  · obtain ⟨s, hl, hm⟩ := votedCheck_spec _ _ _ _ hv
    exact ⟨1, s, 2, hl, hm⟩

/-- the adversary's signature is in the table, the forged honest one is not -/
example : exState.truth.lookup 2 = some ⟨4, blkMsg "X"⟩ ∧
    exState.truth.all (fun p => p.2 != ⟨1, blkMsg "X"⟩) = true :=
  ⟨exOK_parts.2.2.2.2.2.1, exOK_parts.2.2.2.2.2.2⟩

end NonVacuity

end HsVerif.Props.C01Sys
